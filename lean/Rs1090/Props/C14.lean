/-
C14 — reverse registration lookup (`crates/rs1090/src/data/tail.rs`, `patterns.rs`, `data/patterns.json`).

"For every one of the 2^24 addresses the reverse registration lookup returns without panicking, two different
addresses never receive the same registration, and whenever a registration is returned its national prefix belongs
to the country that the address-block table assigns to that address."

Model: Rs1090/Model/Tail.lean over the tables of Rs1090/Gen/Tail.lean, which gen/extractors/tail.py regenerates from
the Rust source and patterns.json on every run (every `StrideMapping::new` / `NumericMapping::new` row, both
alphabets, every literal of `n_reg` / `ja_reg` / `hl_reg`, every address block with its regular expressions), so the
theorems below are re-checked against what the code says now.  All statements quantify over every u32 argument
(the 2^24 addresses and the out-of-range values alike); none is sampled.

"National prefix belongs to the country": the block that `aircraft_information` selects for the address (first entry
of `registers`, in file order, whose `[start, end]` contains it) has a `pattern`, and that regular expression — read
as `Regex::is_match`, i.e. anchored at `^`, some prefix of the text in the language — matches the formatted
registration; moreover no `categories` entry of that block re-assigns the country, so the `country` field that
`aircraft_information` reports is that block's.
-/
import Rs1090.Proofs.TailInj
import Rs1090.Proofs.TailInfo
import Rs1090.Gen.HiddenState
namespace Rs1090.Props.C14
open Rs1090 Rs1090.Model.Tail Rs1090.Gen.Tail Rs1090.Proofs.Tail

/-- the five schemes in the order `tail` tries them: each returns, and what it returns is well formed, inverts to the
    address, and lies in a block of the right country -/
theorem tail_good (h : Nat) (hh : h < 2 ^ 32) : Good h (tail h) := by
  unfold tail
  exact good_orElse (nReg_good h hh) (good_orElse (jaReg_good h hh) (good_orElse (hlReg_good h)
    (good_orElse (numericReg_good h) (strideReg_good h))))

/-- **Totality.**  For every u32 argument — in particular each of the 2^24 addresses — `tail` returns a value:
    no arithmetic overflow, no division by zero, no out-of-range alphabet index, no bad slice, no panic while the two
    lazily built tables are constructed. -/
theorem tail_total (h : Nat) (hh : h < 2 ^ 32) : ∃ o, tail h = .ok o := by
  obtain ⟨o, ho, _⟩ := tail_good h hh
  exact ⟨o, ho⟩

theorem tail_ne_panic (h : Nat) (hh : h < 2 ^ 32) (s : Site) : tail h ≠ .panic s := by
  obtain ⟨o, ho⟩ := tail_total h hh
  rw [ho]; intro e; cases e

/-- **Injectivity, structured level**: the registration determines the address (`inv` is a left inverse: the
    mixed-radix digits give back the offset). -/
theorem tail_left_inverse (h : Nat) (hh : h < 2 ^ 32) (r : Reg) (e : tail h = .ok (some r)) : inv r = h :=
  (good_fact (tail_good h hh) e).2.1

theorem tail_inj (h₁ h₂ : Nat) (hh₁ : h₁ < 2 ^ 32) (hh₂ : h₂ < 2 ^ 32) (r : Reg)
    (e₁ : tail h₁ = .ok (some r)) (e₂ : tail h₂ = .ok (some r)) : h₁ = h₂ := by
  rw [← tail_left_inverse h₁ hh₁ r e₁, ← tail_left_inverse h₂ hh₂ r e₂]

/-- **Injectivity of the formatted registration** (the `String` the caller sees): two different addresses never
    receive the same registration.  Full statement, through `render_inj` (distinct schemes / rows give distinct
    prefixes or disjoint symbol ranges; alphabets are duplicate free). -/
theorem tailStr_inj (h₁ h₂ : Nat) (hh₁ : h₁ < 2 ^ 32) (hh₂ : h₂ < 2 ^ 32) (s : List Char)
    (e₁ : tailStr h₁ = .ok (some s)) (e₂ : tailStr h₂ = .ok (some s)) : h₁ = h₂ := by
  obtain ⟨r₁, t₁, rfl⟩ := tailStr_some e₁
  obtain ⟨r₂, t₂, e⟩ := tailStr_some e₂
  have f₁ := good_fact (tail_good h₁ hh₁) t₁
  have f₂ := good_fact (tail_good h₂ hh₂) t₂
  rw [← f₁.2.1, ← f₂.2.1, render_inj r₂ r₁ f₂.1 f₁.1 e]

/-- **Country consistency.**  Whenever a registration is returned, the address lies in a block of patterns.json, and
    the national pattern of that block matches the formatted registration. -/
theorem country_ok (h : Nat) (hh : h < 2 ^ 32) (r : Reg) (e : tail h = .ok (some r)) :
    ∃ b, blockOf h = some b ∧ natMatch b (render r) = true := by
  obtain ⟨hw, _, b, hb, hm, _⟩ := good_fact (tail_good h hh) e
  obtain ⟨rest, hrest⟩ := key_prefix r hw
  exact ⟨b, hb, hrest ▸ natMatch_append rest hm⟩

/-- … and the `country` that `aircraft_information` reports for the address is that block's country (no category
    refinement re-assigns it), with `registration` the formatted registration. -/
theorem country_reported (h : Nat) (hh : h < 2 ^ 32) (r : Reg) (e : tail h = .ok (some r)) :
    ∃ b i, blockOf h = some b ∧ natMatch b (render r) = true ∧ info h = .ok i ∧
      i.registration = some (render r) ∧ i.country = some b.country := by
  obtain ⟨b, hb, hm⟩ := country_ok h hh r e
  obtain ⟨_, _, b', hb', _, hc⟩ := good_fact (tail_good h hh) e
  obtain rfl : b' = b := Option.some.inj (hb'.symm.trans hb)
  refine ⟨b', infoOf (some (render r)) (some b'), hb, hm, ?_, infoOf_registration _ _, infoOf_country hc _⟩
  unfold info tailStr
  rw [e, Outcome.bind_ok, Outcome.bind_ok, hb]
  rfl

/-! ### `aircraft_information` with its four panic sites

`info` (used by `country_reported`) is the lookup on already-parsed data and has no panic site; the Rust
function has four (`patterns.rs`: the JSON `unwrap` at the first use of `PATTERNS`, `&start[2..]` and
`from_str_radix(..).unwrap()` for `start` and `end` of every visited entry, `Regex::new(..).unwrap()` for
every visited category) and one `Err` path (the parse of `icao24`).  `Model.Tail.infoChecked` / `infoStr`
perform them as checked operations on the texts regenerated from patterns.json; the theorems below say
that on those texts none of the four sites is reached, so the totalised `info` is what the function
computes. -/

/-- the three generated facts, checked by the kernel on the regenerated data: the file loads; every
    `start` / `end` begins with two one-byte characters (`0x`) followed by a hexadecimal `u32`, equal to the
    bound the model's block table holds; every category pattern is in the regex subset the extractor
    accepts (for which `Regex::new` succeeds). -/
theorem patterns_facts :
    loadPatterns = .ok () ∧ boundsOk blockBounds blocks = true ∧
    blocks.all (fun b => catsCompiled b.cats) = true :=
  ⟨patterns_load, bounds_ok, cats_compiled⟩

/-- the checked function is the plain lookup (so `country_reported` is about the checked one too) -/
theorem info_checked_eq (h : Nat) : infoChecked h = info h := infoChecked_eq h

/-- **`aircraft_information` never panics**: for every `u32` address none of the four sites is reached and
    the result is a value. -/
theorem info_ne_panic (h : Nat) (hh : h < 2 ^ 32) : ∃ i, infoChecked h = .ok i := by
  rw [infoChecked_eq]
  obtain ⟨o, ho⟩ := tail_total h hh
  exact ⟨infoOf (o.map render) (blockOf h), by unfold info tailStr; rw [ho]; rfl⟩

theorem hexDigits_lt : ∀ (cs : List Char) (acc v : Nat), acc < 2 ^ 32 → hexDigits cs acc = some v → v < 2 ^ 32 := by
  intro cs
  induction cs with
  | nil => intro acc v ha h; cases h; exact ha
  | cons c cs ih =>
    intro acc v ha h
    unfold hexDigits at h
    split at h
    · split at h
      · rename_i hlt; exact ih _ v hlt h
      · cases h
    · cases h

theorem parseHexU32_lt (s : List Char) (v : Nat) (h : parseHexU32 s = some v) : v < 2 ^ 32 := by
  unfold parseHexU32 at h
  split at h
  · cases h
  · exact hexDigits_lt _ 0 v (by decide) h

/-- … on the TEXT of the address: for every string, `aircraft_information(icao24, None)` returns a value
    or the parse error, never a panic. -/
theorem info_str_total (icao24 : List Char) :
    infoStr icao24 = .err .parse ∨ ∃ i, infoStr icao24 = .ok i := by
  unfold infoStr
  cases hp : parseHexU32 icao24 with
  | none => exact .inl rfl
  | some h => exact .inr (info_ne_panic h (parseHexU32_lt _ _ hp))

/-- the checked operations do panic on malformed data (they are not vacuous): a bound without the `0x`
    prefix, one that is too short, one with a multi-byte character across byte 2, and an uncompiled
    category pattern. -/
example : parseBound "0x3C0000" = .ok 0x3C0000 := by decide +kernel
example : parseBound "zz380000" = .ok 0x380000 := by decide +kernel   -- `&start[2..]` does not look at the prefix
example : parseBound "0xG" = .panic .unwrapErr := by decide +kernel
example : parseBound "0x" = .panic .unwrapErr := by decide +kernel
example : parseBound "0" = .panic .slice := by decide +kernel
example : parseBound "0é12" = .panic .slice := by decide +kernel
example : (catFindChecked ['F'] [⟨"(?i)^f", none, none, none⟩]).isPanic = true := by decide
example : infoStr "3949f9".toList = infoChecked 0x3949f9 := by
  unfold infoStr
  rw [show parseHexU32 "3949f9".toList = some 0x3949f9 by decide +kernel]
example : infoStr "xyz".toList = .err .parse := by decide +kernel
example : infoStr "100000000".toList = .err .parse := by decide +kernel

/-! ### Non-vacuity: the twelve addresses of the repository's tests decode as the tests say -/
example : tailStr 0x71bd54 = .ok (some ['H', 'L', '7', '5', '5', '4']) := by decide +kernel
example : tailStr 0x71c025 = .ok (some ['H', 'L', '8', '0', '2', '5']) := by decide +kernel
example : tailStr 0x869232 = .ok (some ['J', 'A', '7', '8', '8', 'A']) := by decide +kernel
example : tailStr 0x86dcc4 = .ok (some ['J', 'A', '8', '4', '1', 'J']) := by decide +kernel
example : tailStr 0x847c18 = .ok (some ['J', 'A', '1', '9', 'J', 'J']) := by decide +kernel
example : jaReg 0x3949f9 = .ok none := by decide +kernel
example : tailStr 0xa43e7f = .ok (some ['N', '3', '7', '2', '6', '3']) := by decide +kernel
example : tailStr 0xa44533 = .ok (some ['N', '3', '7', '4', '1', 'S']) := by decide +kernel
example : tailStr 0xad7701 = .ok (some ['N', '9', '6', '7', 'J', 'T']) := by decide +kernel
example : tailStr 0x140b3a = .ok (some ['R', 'A', '-', '0', '2', '8', '7', '4']) := by decide +kernel
example : tailStr 0x39b415 = .ok (some ['F', '-', 'H', 'N', 'A', 'V']) := by decide +kernel
example : tailStr 0x39cf09 = .ok (some ['F', '-', 'H', 'T', 'Y', 'J']) := by decide +kernel
example : tailStr 0x3949f9 = .ok (some ['F', '-', 'G', 'S', 'P', 'Z']) := by decide +kernel
/-- the hypotheses of `country_ok` are satisfiable, and its conclusion is about a real block -/
example : (blockOf 0x3949f9).map (·.country) = some "France" := by decide +kernel
example : tailStr 0 = .ok none := by decide +kernel

/-- The code side of "is a function of its input": `tail` and `aircraft_information` are functions of the
    address; the sites are the three lazily built READ-ONLY tables (their construction from literals /
    patterns.json is what `Gen.Tail` regenerates; it depends on no input).  `sitesIn` lists every construct
    through which a Rust function can carry state from one call to the next without it showing in its
    signature (whole files, gen/extractors/hidden_state.py); a memo, cache or counter added there breaks this
    theorem. -/
theorem hidden_state_reviewed :
    Gen.HiddenState.sitesIn ["data/tail.rs", "data/patterns.rs"] =
      [("data/patterns.rs", "pub static PATTERNS:Lazy<Patterns>=Lazy::new(||serde_json::from_str(PATTERNS_JSON).unwrap());"),
       ("data/tail.rs", "static NUMERIC_MAPPINGS:Lazy<Vec<NumericMapping>>=Lazy::new(||{"),
       ("data/tail.rs", "static STRIDE_MAPPINGS:Lazy<Vec<StrideMapping>>=Lazy::new(||{")] := by rfl

end Rs1090.Props.C14
