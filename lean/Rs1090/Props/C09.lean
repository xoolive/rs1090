/-
C09 — Beast stream framing is lossless and independent of read chunking.

"For every sequence of well-formed Beast frames (Mode-AC, short and long Mode S, with 0x1A bytes
 escaped by doubling) delivered in any partition into read chunks, the frames handed on are exactly
 the Mode-AC/short/long frames of the sequence, in order, un-escaped and unmodified; only the last
 frames still inside the 23-byte look-ahead may be pending.  The result is the same as when the
 whole stream arrives in one piece."

Model: `Model/Beast.lean` — the re-framing loop of `next_msg` (crates/rs1090/src/source/beast.rs)
AFTER the repair recorded in known_findings.json, `C09-inplace-unescape-rescan` (the unrepaired
loop un-escaped its buffer in place and violated `chunk_independent`; witness:
`regression_witness` below).  `stepO buf chunk` is
one read (`.panic` = a Rust panic site, `.err` = loop fuel exhausted), `runO [] cs []` a sequence of
reads starting with the empty buffer; both return the reassembly buffer and the frames handed on.
Spec: `Spec/Beast.lean` — `Frame`, `Frame.WF`, `encode` (wire form, 0x1A doubled), `expected`
(the un-escaped Mode-AC/short/long frames; status messages `"4"` are not handed on).

`lossless` speaks of reads that end on a frame boundary; `progress_any_cut` is the same statement for
reads that end ANYWHERE (inside a frame, inside an escape pair), with the exact pending bound.

All statements are for ALL frame sequences / ALL byte lists and ALL partitions (induction over the
frame list and the read list in Proofs/Beast*.lean) — no bound anywhere.
-/
import Rs1090.Proofs.BeastProgress
namespace Rs1090.Props.C09
open Rs1090 Rs1090.Model.Beast Rs1090.Spec.Beast Rs1090.Proofs.Beast

/-- One read never panics and the loops terminate within their fuel, whatever the buffer and the
    bytes read (not only well-formed streams): every `data[i]`, `&data[..2]`, `split_off`,
    `drain(..idx)` of the loop is in range. -/
theorem no_panic (buf chunk : Bytes) : ∃ r, stepO buf chunk = .ok r :=
  ⟨_, stepO_eq buf chunk⟩

theorem step_spec (buf chunk : Bytes) : stepO buf chunk = .ok (step buf chunk) := by
  unfold step; rw [stepO_eq]

theorem no_panic_run (buf : Bytes) (cs : List Bytes) (acc : List Bytes) :
    ∃ r, runO buf cs acc = .ok r :=
  ⟨_, runO_eq cs buf acc⟩

/-- Termination argument of `while data.len() >= 23`: an iteration that does not `break` leaves a
    strictly shorter buffer (so `len + 1` iterations always suffice — that is the fuel of `stepO`). -/
theorem iteration_shortens {d d' : Bytes} {o : Option Bytes} (h : iterO d = .ok (.cont d' o)) :
    d'.length < d.length := by
  rw [iterO_eq] at h
  injection h with h
  exact (iter_cont h).1

/-- The 1024-byte read buffer: a longer chunk is handed over in several reads, nothing is lost
    (this is what the hook `DataSource::VerifChunks` does, mirroring a socket). -/
theorem reads_flatten (cs : List Bytes) : (readsOf cs).flatten = cs.flatten := by
  unfold readsOf
  induction cs with
  | nil => rfl
  | cons c cs ih => rw [List.flatMap_cons, List.flatten_append, flatten_reads, ih, List.flatten_cons]

/-- Any sequence of reads gives what one read of the concatenation gives: the same frames AND the
    same reassembly buffer.  Holds for every byte stream, well-formed or not. -/
theorem run_one_piece (cs : List Bytes) : runO [] cs [] = stepO [] cs.flatten := by
  rw [runO_eq, stepO_eq, run_eq_F cs [] F_nil]
  simp

theorem chunk_independent_bytes (cs cs' : List Bytes) (h : cs.flatten = cs'.flatten) :
    runO [] cs [] = runO [] cs' [] := by
  rw [run_one_piece, run_one_piece, h]

/-- **one_piece.**  The whole stream of a well-formed frame sequence `fs` in one piece: the frames
    handed on are exactly the Mode-AC/short/long frames of a prefix `fs₁` of `fs`, un-escaped and
    unmodified (`expected fs₁`); the buffer holds exactly the wire form of the remaining frames
    `fs₂`, which is shorter than the 23-byte look-ahead (so at most 22 bytes: two Mode-AC frames,
    or one Mode-AC / one short frame); and nothing more is held back than the look-ahead forces:
    with the last delivered frame the remainder was at least 23 bytes long. -/
theorem one_piece (fs : List Frame) (hwf : ∀ f ∈ fs, f.WF) :
    ∃ fs₁ fs₂, fs = fs₁ ++ fs₂ ∧
      stepO [] (encode fs) = .ok (encode fs₂, expected fs₁) ∧
      (encode fs₂).length < LOOKAHEAD ∧
      ∀ p g, fs₁ = p ++ [g] → LOOKAHEAD ≤ (encode (g :: fs₂)).length := by
  obtain ⟨a, b, hab, hF, hlen, hmax⟩ := F_encode_partial (p := []) (.inl rfl) fs hwf
  simp only [List.append_nil] at hF hlen hmax
  refine ⟨a, b, hab, by rw [stepO_eq, List.nil_append, hF], ?_, hmax⟩
  rcases hlen with rfl | hlen
  · decide
  · exact hlen

/-- **chunk_independent.**  Every partition of the stream into reads gives the result of the
    one-piece delivery (frames and buffer). -/
theorem chunk_independent (fs : List Frame) (cs : List Bytes) (h : cs.flatten = encode fs) :
    runO [] cs [] = stepO [] (encode fs) := by
  rw [run_one_piece, h]

/-- **C09, full statement**: `one_piece` for every partition of the stream into reads. -/
theorem lossless (fs : List Frame) (hwf : ∀ f ∈ fs, f.WF) (cs : List Bytes)
    (h : cs.flatten = encode fs) :
    ∃ fs₁ fs₂, fs = fs₁ ++ fs₂ ∧
      runO [] cs [] = .ok (encode fs₂, expected fs₁) ∧
      (encode fs₂).length < LOOKAHEAD ∧
      ∀ p g, fs₁ = p ++ [g] → LOOKAHEAD ≤ (encode (g :: fs₂)).length := by
  rw [chunk_independent fs cs h]
  exact one_piece fs hwf

/-- **progress_any_cut — progress while the stream is arriving, for EVERY cut point.**
    The reads so far are any partition of any prefix of the stream of a well-formed sequence `fs`
    (cut anywhere: inside a frame, inside an escape pair).  Then `fs = done ++ pend ++ later` with
    * what has been received is the wire form of `done ++ pend` (the completely received frames)
      followed by `n` bytes of `later`, fewer than its first frame has (the partial frame);
    * the frames handed on are exactly `expected done` — in order, un-escaped, unmodified;
    * the buffer is exactly the received bytes not yet handed on: `encode pend` and the partial frame;
    * a completely received frame is pending only inside the look-ahead: `pend = []`, or the WHOLE
      buffer (pending frames and partial frame together) is shorter than 23 bytes;
    * and nothing more is pending than the look-ahead forces: with the last frame handed on the
      buffer was at least 23 bytes long.
    (`in_flight` alone would be satisfied by a reader that hands on nothing; this is not.) -/
theorem progress_any_cut (fs : List Frame) (hwf : ∀ f ∈ fs, f.WF) (cs : List Bytes) (rest : Bytes)
    (h : cs.flatten ++ rest = encode fs) :
    ∃ (done pend later : List Frame) (n : Nat),
      fs = done ++ pend ++ later ∧
      (∀ f l, later = f :: l → n < f.wire.length) ∧
      cs.flatten = encode (done ++ pend) ++ (encode later).take n ∧
      runO [] cs [] = .ok (encode pend ++ (encode later).take n, expected done) ∧
      (pend = [] ∨ (encode pend ++ (encode later).take n).length < LOOKAHEAD) ∧
      ∀ p g, done = p ++ [g] → LOOKAHEAD ≤ (encode (g :: pend) ++ (encode later).take n).length := by
  obtain ⟨a, later, n, hfs, hs, hn⟩ := split_stream fs _ _ h
  obtain ⟨hwa, hwl⟩ : (∀ f ∈ a, f.WF) ∧ ∀ f ∈ later, f.WF := by
    simpa only [hfs, List.forall_mem_append] using hwf
  obtain ⟨a₁, a₂, hab, hF, hlen, hmax⟩ := F_encode_partial (partial_of_take hwl hn) a hwa
  refine ⟨a₁, a₂, later, n, by rw [hfs, hab], hn, by rw [hs, hab], ?_, hlen, hmax⟩
  rw [run_one_piece, stepO_eq, List.nil_append, hs, hF]

/-- While the stream is still arriving (any cut, as in `progress_any_cut`), what has been handed on
    is a prefix of the frames of the sequence: never a wrong, modified or out-of-order frame. -/
theorem in_flight (fs : List Frame) (hwf : ∀ f ∈ fs, f.WF) (cs : List Bytes) (rest : Bytes)
    (h : cs.flatten ++ rest = encode fs) :
    ∃ buf out, runO [] cs [] = .ok (buf, out) ∧ out <+: expected fs := by
  obtain ⟨done, pend, later, n, hd, -, -, hrun, -, -⟩ := progress_any_cut fs hwf cs rest h
  refine ⟨_, _, hrun, ?_⟩
  rw [hd, List.append_assoc, expected_append]
  exact List.prefix_append _ _

/-- **progress, counted.**  Consequence of `progress_any_cut` in numbers, at any cut point: every
    completely received frame except at most the last TWO has been handed on (two Mode-AC frames
    are 22 < 23 bytes), the frames handed on are still a prefix of the expected ones, and the
    reassembly buffer holds at most 43 bytes (an incomplete long frame with all 21 bytes 0x1A). -/
theorem progress_all_but_two (fs : List Frame) (hwf : ∀ f ∈ fs, f.WF) (cs : List Bytes) (rest : Bytes)
    (h : cs.flatten ++ rest = encode fs)
    (a b c : List Frame) (hfs : fs = a ++ b ++ c) (hb : b.length = 2)
    (hrecv : (encode (a ++ b)).length ≤ cs.flatten.length) :
    ∃ buf out, runO [] cs [] = .ok (buf, out) ∧
      expected a <+: out ∧ out <+: expected fs ∧ buf.length ≤ 43 := by
  obtain ⟨done, pend, later, n, hd, hn, hs, hrun, hlen, _⟩ := progress_any_cut fs hwf cs rest h
  obtain ⟨⟨-, hwp⟩, hwl⟩ : ((∀ f ∈ done, f.WF) ∧ ∀ f ∈ pend, f.WF) ∧ ∀ f ∈ later, f.WF := by
    simpa only [hd, List.forall_mem_append] using hwf
  have hp11 := encode_length_ge pend hwp
  have hpart := partial_length (partial_of_take hwl hn)
  obtain ⟨hpend, hbuf⟩ : pend.length ≤ 2 ∧ (encode pend ++ (encode later).take n).length ≤ 43 := by
    rcases hlen with rfl | hl
    · exact ⟨Nat.zero_le _, hpart⟩
    · rw [List.length_append] at hl ⊢; simp only [LOOKAHEAD] at hl; omega
  refine ⟨_, _, hrun, ?_, ?_, hbuf⟩
  · have hlen_ab : (a ++ b).length ≤ (done ++ pend).length := by
      rw [hfs] at hd
      rcases List.append_eq_append_iff.mp hd with ⟨z, hz, _⟩ | ⟨z, hz, hl⟩
      · rw [hz]; simp
      · cases z with
        | nil => rw [hz]; simp
        | cons f z =>
          exfalso
          have hnf := hn f (z ++ c) (by rw [hl]; rfl)
          rw [hs, hz, encode_append, encode_append] at hrecv
          simp only [encode, List.length_append, List.length_take] at hrecv
          omega
    have hpre : a <+: done := by
      apply List.prefix_of_prefix_length_le (l₃ := fs)
      · exact ⟨b ++ c, by rw [hfs, List.append_assoc]⟩
      · exact ⟨pend ++ later, by rw [hd, List.append_assoc]⟩
      · simp only [List.length_append] at hlen_ab; omega
    obtain ⟨t, rfl⟩ := hpre
    rw [expected_append]; exact List.prefix_append _ _
  · rw [hd, List.append_assoc, expected_append]; exact List.prefix_append _ _

/-- the hypotheses are satisfiable: a long frame whose body is 21 × 0x1A is well-formed … -/
example : (Frame.mk 0x33 (List.replicate 21 0x1A)).WF := by decide
/-- … its wire form is 44 bytes, and a Mode-AC frame is 11 -/
example : (encode [Frame.mk 0x33 (List.replicate 21 0x1A), Frame.mk 0x31 [1,2,3,4,5,6,7,8,9]]).length = 55 := by
  decide

example : ∀ f ∈ witness, f.WF := by decide

/-- Regression witness: the stream of `witness`, first read = 23 bytes (inside the escaped form of
    the first frame, after the four 0x1A).  The unrepaired code handed on `1a 33 1a 42 … 54 1a`
    (one data 0x1A lost, the next frame's 0x1A swallowed) and lost the second frame; the repaired
    loop hands on both frames intact and keeps the third (16 bytes < 23) pending. -/
theorem regression_witness :
    runO [] [(encode witness).take 23, (encode witness).drop 23] []
      = .ok (encode (witness.drop 2), expected (witness.take 2)) := by
  decide +kernel

/-- `progress_any_cut` on a concrete cut: the stream of `witness` (25 + 16 + 16 bytes) cut after 46
    bytes, read as 3 + 43 bytes (the first cut inside an escape pair).  `done` = the long frame,
    `pend` = the first short frame (completely received, but 16 + 5 = 21 < 23), partial frame = 5 bytes. -/
example :
    runO [] [(encode witness).take 3, ((encode witness).take 46).drop 3] []
      = .ok (encode [witness[1]] ++ (encode [witness[2]]).take 5, expected [witness[0]]) := by
  decide +kernel

/-- … and the other disjunct (`pend = []`, buffer ≥ 23), with the 43-byte bound attained: a Mode-AC
    frame, then 43 of the 44 wire bytes of a long frame of 21 × 0x1A (cut inside the last escape
    pair): the Mode-AC frame is handed on, the 43 bytes stay. -/
example :
    stepO [] ((encode [⟨0x31, [1,2,3,4,5,6,7,8,9]⟩, ⟨0x33, List.replicate 21 0x1A⟩]).take (11 + 43))
      = .ok ((Frame.wire ⟨0x33, List.replicate 21 0x1A⟩).take 43,
             [Frame.raw ⟨0x31, [1,2,3,4,5,6,7,8,9]⟩]) := by
  decide +kernel

/-- the look-ahead bound is sharp: two Mode-AC frames (22 bytes) stay pending, nothing is handed on -/
example : stepO [] (encode [⟨0x31, [1,2,3,4,5,6,7,8,9]⟩, ⟨0x31, [1,2,3,4,5,6,7,8,0x1B]⟩])
    = .ok (encode [⟨0x31, [1,2,3,4,5,6,7,8,9]⟩, ⟨0x31, [1,2,3,4,5,6,7,8,0x1B]⟩], []) := by
  decide +kernel

/-- a status message (`"4"`) is consumed but not handed on -/
example : stepO [] (encode [⟨0x34, List.replicate 21 7⟩, ⟨0x33, List.replicate 21 0x1A⟩])
    = .ok ([], [Frame.raw ⟨0x33, List.replicate 21 0x1A⟩]) := by
  decide +kernel

/-- **The constants regenerated from `beast.rs` are the documented ones**: a frame is looked for
    once 23 bytes are buffered (the longest frame, `1a 33` + 6 + 1 + 14 bytes), escape byte 0x1a, types
    '1'–'4' of 11/16/23/23 bytes, type '4' not yielded, reads of at most 1024 bytes.  The theorems above are stated
    with the regenerated names; this one fails when a number in the source is edited. -/
theorem source_constants_literal :
    Gen.Beast.LOOKAHEAD = 23 ∧ Gen.Beast.LOOKAHEAD_RESYNC = 23 ∧ Gen.Beast.ESC_SYNC = 26 ∧ Gen.Beast.ESC_DATA = 26 ∧
    Gen.Beast.ESC_NEXT = 26 ∧ Gen.Beast.TYPE_INDEX = 1 ∧ Gen.Beast.VALID_TYPES = [49, 50, 51, 52] ∧
    (Gen.Beast.VALID_TYPES.map Gen.Beast.msgSize) = [11, 16, 23, 23] ∧ Gen.Beast.HEADER_LEN = 2 ∧
    Gen.Beast.SCAN_START = 2 ∧ Gen.Beast.DROPPED_TYPE = 52 ∧ Gen.Beast.RESYNC_SKIP = 1 ∧
    Gen.Beast.READ_BUFFER = 1024 := by
  decide

end Rs1090.Props.C09
