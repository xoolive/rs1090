/-
C08 — decoded quantities stay in their physical range for every accepted frame.

`Proofs/Decode/Ser.lean` holds the table `rangeSpec` (key ↦ constraint) written from the property
text; every reader has a lemma, over the FULL code space of its fields, that what it returns obeys
the table (`read_rangeGood`, `Proofs/Decode/BdsNN.lean`); this file states the composition.
-/
import Rs1090.Proofs.Decode.GenBds
import Rs1090.Proofs.Decode.AllGood
import Rs1090.Props.C01
import Rs1090.Proofs.F64Track09
namespace Rs1090.Props.C08
open Rs1090 Rs1090.Model Rs1090.Model.Message

/-- **Every accepted frame, well-formed or not, reports in-range quantities**: track, heading, wind
    direction, selected heading, threat bearing in [0, 360); roll within ±90°; CPR counts below 2^17;
    vertical rates multiples of 64 (ADS-B) / 32 (BDS 6,0) ft/min within the encodable span; speeds
    finite and non-negative; Mach in (0, 1]; squawk four octal digits; humidity in [0, 100];
    temperatures in [−80, 60] °C; call signs over the 6-bit character set — wherever these keys occur
    in the message object or in a nested Comm-B register object. -/
theorem accepted_in_range (bs : List Nat) (j : Json) (h : tryFrom bs = .ok (.json j)) :
    j.inRange = true := by
  obtain ⟨kvs, e, _, _, hr, _⟩ := tryFrom_good bs _ h
  cases e
  simpa [Json.inRange] using hr

/-- no reported number is NaN or infinite: every `num n d` node has `d ≠ 0` (the symbolic
    `hypot` / `atan2deg` nodes are finite by the assumption on libm, DESIGN §4) -/
theorem numbers_finite (bs : List Nat) (j : Json) (h : tryFrom bs = .ok (.json j)) : j.wf = true := by
  obtain ⟨kvs, e, hn, hw, _, _⟩ := tryFrom_good bs _ h
  cases e
  simp only [Json.wf, Bool.and_eq_true, decide_eq_true_eq]
  exact ⟨hw, hn⟩

/-- the same for the pipeline's entry point `Message::from_bytes` (trailing bytes after the frame ignored) -/
theorem accepted_in_range_from_bytes (bs : List Nat) (j : Json) (h : fromBytes bs = .ok (.json j)) :
    j.inRange = true ∧ j.wf = true := by
  obtain ⟨_, ht⟩ := Rs1090.Props.C01.fromBytes_prefix bs _ h
  exact ⟨accepted_in_range _ j ht, numbers_finite _ j ht⟩

/-- the 6-bit character set of Annex 10 Vol IV table 3-9 (as the decoder prints it: `#` for every unassigned
    code), written here from the standard: 1–26 ↦ A–Z, 32 ↦ space, 48–57 ↦ 0–9 -/
def ia5Spec (c : Nat) : Nat :=
  if 1 ≤ c ∧ c ≤ 26 then 64 + c else if c = 32 then 32 else if 48 ≤ c ∧ c ≤ 57 then c else 35

/-- **The two regenerated copies of `CHAR_LOOKUP` (bds08.rs, bds21.rs) are that table, entry by entry**:
    the charset lemmas of `Proofs/Decode/Bds08|20|21` constrain the alphabet only; this states every one of the 64
    entries, the unassigned codes included. -/
theorem char_tables_literal :
    Gen.Chars.charLookup08 = (List.range 64).map ia5Spec ∧ Gen.Chars21.charLookup21 = Gen.Chars.charLookup08 := by
  decide +kernel

/-- the table really constrains something: the keys of the property's quantities are in it -/
example : (specFor (key! "track").id).isSome ∧ (specFor (key! "heading").id).isSome ∧
    (specFor (key! "roll").id).isSome ∧ (specFor (key! "Mach").id).isSome ∧
    (specFor (key! "squawk").id).isSome ∧ (specFor (key! "callsign").id).isSome ∧
    (specFor (key! "vertical_rate").id).isSome ∧ (specFor (key! "temperature").id).isSome ∧
    (specFor (key! "humidity").id).isSome ∧ (specFor (key! "lat_cpr").id).isSome := by decide

/-- and a violating value is rejected by the predicate (the check is not vacuous) -/
example : Json.inRangeObj [(key! "track", jrat 360 1)] = false := by decide
example : Json.inRangeObj [(key! "bds30", .obj [(key! "threat_bearing", jnat 363)])] = false := by decide
example : Json.inRangeObj [(key! "track", jrat 3599 10)] = true := by decide

/-! ### the angles in binary64 (IEEE-754 round-to-nearest-even, `fl64` of `Proofs/IeeeRound.lean`)

The model above holds exact rationals / symbolic nodes.  What the f64 code adds is ROUNDING, and the one place where
rounding could leave the range is the wrap `h + 360.` of a tiny negative angle (`−1e-14 + 360. == 360.`).  The
theorems below are about `fl64`; lemmas in `Proofs/F64Wrap.lean`, `Proofs/F64Track09.lean`. -/

open Rs1090.Proofs.IeeeRound Rs1090.Proofs.F64Wrap Rs1090.Proofs.F64Track09 in
/-- **The sharp threshold of the wrap**: for a non-positive angle `h` (any rational, in particular any binary64
    value) the IEEE sum `h + 360.` is exactly 360.0 iff `|h| ≤ 2⁻⁴⁵` degrees (2.8·10⁻¹⁴); for `−360 ≤ h < −2⁻⁴⁵` it lies
    in `[0, 360 − 2⁻⁴⁴]`. -/
theorem wrap360_threshold (h : ℚ) (h0 : h ≤ 0) :
    (fl64 (h + 360) = 360 ↔ -(1 / 2 ^ 45) ≤ h) ∧
    (-360 ≤ h → h < -(1 / 2 ^ 45) → 0 ≤ fl64 (h + 360) ∧ fl64 (h + 360) ≤ 360 - 1 / 2 ^ 44) :=
  ⟨wrap360_eq_iff h0, fun h1 h2 => ⟨(wrap360_range h1 h2).1, (wrap360_range h1 h2).2.2⟩⟩

open Rs1090.Proofs.IeeeRound Rs1090.Proofs.F64Wrap Rs1090.Proofs.F64Track09 in
/-- **BDS 0,9 ground track stays below 360.0 in binary64.**
    `ew`, `ns`: the exactly decoded integer components (`|ns| ≤ 4·1022`: everything subtypes 1 and 2 can carry,
    `Props.C03.vel_component_bound`).  `h`: the binary64 value the code computes as
    `libm::atan2(ew, ns) * (360.0 / (2.0 * PI))`.  **Hypothesis on libm, explicit** (`LibmAtan2Deg (1/200)`): `h` is
    negative only if the exact angle is, and within 0.005° of it.  Then `if h < 0. { h + 360. } else { h }`, the
    addition rounded to nearest-even, lies in `[0, 360 − 1/128]`. -/
theorem track09_f64_below_360 (ew ns : Int) (hns : |ns| ≤ 4 * 1022) (h : ℚ) (H : LibmAtan2Deg (1 / 200) ew ns h) :
    0 ≤ track09 fl64 h ∧ track09 fl64 h ≤ 360 - 1 / 128 ∧ track09 fl64 h < 360 :=
  track09_ieee ew ns hns h H

open Rs1090.Proofs.IeeeRound Rs1090.Proofs.F64Wrap in
/-- the same from a hypothesis on `h` alone (no reals): `h ∈ [−181, 181]` and, when negative, `h ≤ −b` for ANY margin
    `b > 2⁻⁴⁵` -/
theorem track09_f64_range_of_margin (b h : ℚ) (hb : 1 / 2 ^ 45 < b) (H : AngleOk b h) :
    0 ≤ track09 fl64 h ∧ track09 fl64 h < 360 :=
  track09_range hb H

open Rs1090.Proofs.IeeeRound Rs1090.Proofs.F64Wrap in
/-- … and the margin hypothesis cannot be dropped: the negative angle `−2⁻⁴⁶`° wraps to exactly 360.0 -/
theorem track09_f64_needs_margin : track09 fl64 (-(1 / 2 ^ 46)) = 360 := track09_needs_margin

-- both hypotheses are satisfiable (due west: the negative arm; due north: the other)
example : Rs1090.Proofs.F64Track09.LibmAtan2Deg (1 / 200) (-1) 0 (-90) := Rs1090.Proofs.F64Track09.libm_west
example : Rs1090.Proofs.F64Track09.LibmAtan2Deg (1 / 200) 0 1 0 := Rs1090.Proofs.F64Track09.libm_north

open Rs1090.Proofs.IeeeRound Rs1090.Proofs.F64Wrap in
/-- **BDS 5,0 true track / BDS 6,0 magnetic heading** (`k as f64 * 90. / 512.`, `+ 360.` when negative; signed
    11-bit `k`): all three f64 operations are EXACT for all 2048 codes, so the binary64 result is the rational
    `((k·90) mod (360·512)) / 512` of the model (`Props.C03.track50_rt`), in `[0, 360 − 90/512]`. -/
theorem angle11_f64_exact (k : Int) (h1 : -1024 ≤ k) (h2 : k < 1024) :
    angle11 fl64 k = (((k * 90) % (360 * 512) : Int) : ℚ) / 512 ∧
      0 ≤ angle11 fl64 k ∧ angle11 fl64 k ≤ 360 - 90 / 512 :=
  angle11_exact k h1 h2

open Rs1090.Proofs.IeeeRound Rs1090.Proofs.F64Wrap in
/-- **BDS 0,6 ground track (`v as f64 * 360. / 128.`, 7 bits) and BDS 0,9 heading (`… / 1024.`, 10 bits)**: both f64
    operations are exact, the result is `v·360/2ⁿ ∈ [0, 360)`; there is no wrap in the code. -/
theorem angleU_f64_exact :
    (∀ v : Nat, v < 2 ^ 7 → angleU fl64 7 v = (v : ℚ) * 360 / 128 ∧ 0 ≤ angleU fl64 7 v ∧ angleU fl64 7 v < 360) ∧
    (∀ v : Nat, v < 2 ^ 10 → angleU fl64 10 v = (v : ℚ) * 360 / 1024 ∧ 0 ≤ angleU fl64 10 v ∧ angleU fl64 10 v < 360) := by
  constructor <;> intro v hv
  · have := angleU_exact 7 v (by norm_num) hv; norm_num at this ⊢; exact this
  · have := angleU_exact 10 v (by norm_num) hv; norm_num at this ⊢; exact this

/-- **No hidden state besides the reviewed one** in the decoder's files (`Props.C01.hidden_state_reviewed`, restated
    here because `accepted_in_range` is about the decoder as a function of the frame: a per-thread memo of decoded
    quantities could hand one frame the values of another). -/
theorem hidden_state_reviewed :
    Gen.HiddenState.sitesIn Rs1090.Props.C01.decoderFiles =
      [("decode/mod.rs", "static CONFIG:OnceCell<SerializeConfig>=OnceCell::new();")] :=
  Rs1090.Props.C01.hidden_state_reviewed


/-! ### the hand-written conversion functions ARE the Rust readers (translated on every run)

`Gen/BdsFns.lean` is regenerated from `fn read_*` of bds50.rs / bds60.rs by gen/extractors/bdsfns.py (statement by
statement: checked integer arithmetic, f64 as exact rationals); `Proofs/Decode/GenBds.lean` enumerates every code.
A behavioural edit of a reader fails the obligation below that names it (the offending codes:
`#eval Rs1090.Proofs.GenBds.disagreements`); a rewrite that keeps the values does not. -/

open Rs1090.Proofs.GenBds in
/-- **BDS 5,0: `read_roll`, `read_track`, `read_groundspeed`, `read_rate` are the model's `roll`, `track`,
    `groundspeed`, `rate` composed with their scales** (45/256°, 1/512°, kt, 1/256 °/s), on EVERY value of the bits
    read (2^11, 2^12, 2^11, 2^11 codes) and, for the track rate, every roll angle `n·45/256` or none. -/
theorem bds50_readers_as_modelled :
    (∀ s g v, g < 2 ^ 1 → v < 2 ^ 9 →
      Gen.BdsFns.Bds50.read_roll s g v = scaled 45 256 (Model.Bds50.roll s g v)) ∧
    (∀ s g v, g < 2 ^ 1 → v < 2 ^ 10 →
      Gen.BdsFns.Bds50.read_track s g v = scaled 1 512 (Model.Bds50.track s g v)) ∧
    (∀ s v, v < 2 ^ 10 →
      Gen.BdsFns.Bds50.read_groundspeed s v = Model.Bds50.groundspeed s v) ∧
    (∀ (n : Option Int) s g v, g < 2 ^ 1 → v < 2 ^ 9 →
      Gen.BdsFns.Bds50.read_rate (n.map rollVal) s g v = scaled 1 256 (Model.Bds50.rate n s g v)) :=
  Rs1090.Proofs.GenBds.bds50_readers

open Rs1090.Proofs.GenBds in
/-- **BDS 6,0: `read_heading`, `read_ias`, `read_mach`, `read_vertical` are the model's `heading` (1/512°), `ias`,
    `mach` (code/250; exact-rational reading of `value as f64 * 2.048 / 512.`), `vertical`** on every value of the bits
    read (2^12, 2^11, 2^11, 2^11 codes) and, for Mach, every airspeed (any natural number) or none. -/
theorem bds60_readers_as_modelled :
    (∀ s g v, g < 2 ^ 1 → v < 2 ^ 10 →
      Gen.BdsFns.Bds60.read_heading s g v = scaled 1 512 (Model.Bds60.heading s g v)) ∧
    (∀ s v, v < 2 ^ 10 →
      Gen.BdsFns.Bds60.read_ias s v = Model.Bds60.ias s v) ∧
    (∀ (i : Option Nat) s v, v < 2 ^ 10 →
      Gen.BdsFns.Bds60.read_mach i s v = scaledN 1 250 (Model.Bds60.mach i s v)) ∧
    (∀ s g v, g < 2 ^ 1 → v < 2 ^ 9 →
      Gen.BdsFns.Bds60.read_vertical s g v = Model.Bds60.vertical s g v) :=
  Rs1090.Proofs.GenBds.bds60_readers

/- Full statement for `read_tas`, which takes the DECODED ground speed:
     ∀ gs, (gs = none ∨ ∃ k ≤ 300, gs = some (2 * k)) → ∀ s v, v < 2 ^ 10 →
        Gen.BdsFns.Bds50.read_tas gs s v = Model.Bds50.tas gs s v
   Its domain (301 × 2^11 codes) is too large to enumerate, so `fn read_tas` stays digest-pinned; under that pin
   `Rs1090.Proofs.GenBds.bds50_tas` proves it, for every ground speed below 2^15, by following the generated text. -/

open Rs1090.Proofs.GenBds in
/-- `read_tas` is the model's `tas` on all 2^11 codes for the ground speeds of `tasGs` (absent, and the values
    around every threshold of the cross-check) -/
theorem bds50_read_tas_as_modelled_partial : ∀ gs ∈ tasGs, ∀ s v, v < 2 ^ 10 →
    Gen.BdsFns.Bds50.read_tas gs s v = Model.Bds50.tas gs s v :=
  Rs1090.Proofs.GenBds.bds50_tas_sampled

/-- the layouts the model's `read` functions use (`flag`, `bits 1`, `bits 9|10`) are the reads of the Rust readers -/
theorem bds_reader_layouts :
    Gen.BdsFns.Bds50.read_roll_layout = [("bool", 1), ("u8", 1), ("u16", 9)] ∧
    Gen.BdsFns.Bds50.read_track_layout = [("bool", 1), ("u8", 1), ("u16", 10)] ∧
    Gen.BdsFns.Bds50.read_groundspeed_layout = [("bool", 1), ("u16", 10)] ∧
    Gen.BdsFns.Bds50.read_rate_layout = [("bool", 1), ("u8", 1), ("u16", 9)] ∧
    Gen.BdsFns.Bds50.read_tas_layout = [("bool", 1), ("u16", 10)] ∧
    Gen.BdsFns.Bds60.read_heading_layout = [("bool", 1), ("u8", 1), ("u16", 10)] ∧
    Gen.BdsFns.Bds60.read_ias_layout = [("bool", 1), ("u16", 10)] ∧
    Gen.BdsFns.Bds60.read_mach_layout = [("bool", 1), ("u16", 10)] ∧
    Gen.BdsFns.Bds60.read_vertical_layout = [("bool", 1), ("u8", 1), ("u16", 9)] :=
  let ⟨a, b, c, d, e⟩ := Rs1090.Proofs.GenBds.bds50_layouts
  ⟨a, b, c, d, e, Rs1090.Proofs.GenBds.bds60_layouts⟩

/-- the hypotheses are satisfiable and the readers do return values there -/
example : Gen.BdsFns.Bds50.read_roll true 1 500 = .ok (some (-135 / 64 : Rat)) := by decide +kernel
example : Gen.BdsFns.Bds50.read_rate (some (Rs1090.Proofs.GenBds.rollVal 12)) true 0 4 = .ok (some (1 / 8 : Rat)) := by
  decide +kernel
example : Gen.BdsFns.Bds50.read_rate (some (Rs1090.Proofs.GenBds.rollVal (-12))) true 0 4 = .err .assertion := by
  decide +kernel


open Rs1090.Proofs.GenBds in
/-- **BDS 4,0: `read_selected` (both selected altitudes) and `read_qnh` are the model's `selectedAlt` and `qnhNum`
    (tenths of hPa; `value as f64 * 0.1 + 800.` read exactly)** on all 2^13 codes each. -/
theorem bds40_readers_as_modelled :
    (∀ s v, v < 2 ^ 12 → Gen.BdsFns.Bds40.read_selected s v = Model.Bds40.selectedAlt s v) ∧
    (∀ s v, v < 2 ^ 12 → Gen.BdsFns.Bds40.read_qnh s v = scaledN 1 10 (Model.Bds40.qnhNum s v)) :=
  Rs1090.Proofs.GenBds.bds40_readers

open Rs1090.Proofs.GenBds in
/-- **BDS 4,4: `read_pressure` and `read_humidity` are the model's `pressure` and `humidity` (value·100 over 64)** on
    all 2^12 / 2^7 codes (the other four readers of bds44.rs use `match` / a second read and are still digest-pinned). -/
theorem bds44_readers_as_modelled :
    (∀ s v, v < 2 ^ 11 → Gen.BdsFns.Bds44.read_pressure s v = Model.Bds44.pressure s v) ∧
    (∀ s v, v < 2 ^ 6 → Gen.BdsFns.Bds44.read_humidity s v = scaledN 1 64 (Model.Bds44.humidity s v)) :=
  Rs1090.Proofs.GenBds.bds44_readers

theorem bds40_44_reader_layouts :
    Gen.BdsFns.Bds40.read_selected_layout = [("bool", 1), ("u16", 12)] ∧
    Gen.BdsFns.Bds40.read_qnh_layout = [("bool", 1), ("u16", 12)] ∧
    Gen.BdsFns.Bds44.read_pressure_layout = [("bool", 1), ("u16", 11)] ∧
    Gen.BdsFns.Bds44.read_humidity_layout = [("bool", 1), ("u8", 6)] := Rs1090.Proofs.GenBds.bds40_44_layouts

end Rs1090.Props.C08
