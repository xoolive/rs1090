/-
C05 — reference-based CPR decoding is exact in range and stays near the reference.

  "For every true position and every reference point closer than the unambiguous range (180 NM airborne,
   45 NM surface), decoding a single airborne or surface report against that reference yields the true
   position within 10 m (longitude compared modulo 360). For any finite reference whatsoever the result is
   either absent or lies within half a zone of the reference in both coordinates, with latitude in
   [-90, 90]."

Objects.  `Model.Cpr.airborneWithRef` / `surfaceWithRef` model `airborne_position_with_reference` /
`surface_position_with_reference` on exact rationals; `report nb i lat lon` is the format-`i` report of the
DO-260B encoder (`nb = 17` airborne, A.1.7.3; `nb = 19` surface, A.1.7.4, 17 low-order bits transmitted);
`rlat`, `rlon` the lattice point the encoder expects a receiver to recover; `dlat i`, `dlon i rl` the
airborne zone sizes (a quarter of them on the surface).  All theorems quantify over ALL rational positions
and references — exact arithmetic, no sampling.

"Closer than the unambiguous range" is the half-zone condition of `local_exact_*` (that is what
unambiguous means); DESIGN §6.2 explains why the nominal 180 NM / 45 NM imply it for |lat| ≤ 87° (the
harness exercises exactly that).  "Within 10 m" is exact recovery of `(Rlat, Rlon)`, which is within half
a quantisation step of the true point per axis (`recovered_close_*`, in degrees); the metres are theorems
too (`recovered_axes_metres`, `local_within_10m_airborne/_surface`, on the sphere of radius
6 399 594 m).
-/
import Rs1090.Proofs.CprLocalSpec
import Rs1090.Proofs.CprMetres
import Rs1090.Proofs.CprFloat
import Rs1090.Proofs.IeeeRound
import Rs1090.Proofs.CprFloatAsm
import Rs1090.Gen.HiddenState
namespace Rs1090.Props.C05
open Rs1090 Rs1090.Model.Cpr Rs1090.Spec.Cpr Rs1090.Proofs.Cpr

/-- **Exact local decoding, airborne, both parities.**  If the recovered lattice point `(Rlat, Rlon)` of the
    report (longitude taken on the turn `k` of the reference) is strictly within half a zone of the reference
    in both coordinates, the decoder returns exactly `(Rlat, Rlon + 360 k)`. -/
theorem local_exact_airborne (i : Nat) (hi : i ≤ 1) (lat lon latRef lonRef : ℚ) (k : ℤ)
    (hlat : -90 ≤ lat ∧ lat ≤ 90)
    (h1 : |rlat 17 i lat - latRef| < dlat i / 2)
    (h2 : |rlon 17 i (rlat 17 i lat) lon + 360 * k - lonRef| < dlon i (rlat 17 i lat) / 2) :
    airborneWithRef (report 17 i lat lon) latRef lonRef
      = .ok (some ⟨rlat 17 i lat, rlon 17 i (rlat 17 i lat) lon + 360 * k⟩) :=
  local_exact_air i hi lat lon latRef lonRef k hlat h1 h2

/-- **Exact local decoding, surface, both parities** (zones are a quarter of the airborne ones). -/
theorem local_exact_surface (i : Nat) (hi : i ≤ 1) (lat lon latRef lonRef : ℚ) (k : ℤ)
    (hlat : -90 ≤ lat ∧ lat ≤ 90)
    (h1 : |rlat 19 i lat - latRef| < dlat i / 4 / 2)
    (h2 : |rlon 19 i (rlat 19 i lat) lon + 360 * k - lonRef| < dlon i (rlat 19 i lat) / 4 / 2) :
    surfaceWithRef (report 19 i lat lon) latRef lonRef
      = .ok (some ⟨rlat 19 i lat, rlon 19 i (rlat 19 i lat) lon + 360 * k⟩) :=
  local_exact_surf i hi lat lon latRef lonRef k hlat h1 h2

/-- the recovered point is the true point up to half a quantisation step per axis ("within 10 m", in degrees) -/
theorem recovered_close_airborne (i : Nat) (hi : i ≤ 1) (lat lon : ℚ) :
    |rlat 17 i lat - lat| ≤ dlat i / 262144 ∧
    |rlon 17 i (rlat 17 i lat) lon - lon| ≤ dlon i (rlat 17 i lat) / 262144 := by
  constructor
  · rw [rlat_eq_recv]; exact recv17_err _ _ (dlat_pos i hi)
  · rw [rlon_eq_recv]; exact recv17_err _ _ (dlon_pos i _)

theorem recovered_close_surface (i : Nat) (hi : i ≤ 1) (lat lon : ℚ) :
    |rlat 19 i lat - lat| ≤ dlat i / 1048576 ∧
    |rlon 19 i (rlat 19 i lat) lon - lon| ≤ dlon i (rlat 19 i lat) / 1048576 := by
  constructor
  · rw [rlat_eq_recv]; exact recv19_err _ _ (dlat_pos i hi)
  · rw [rlon_eq_recv]; exact recv19_err _ _ (dlon_pos i _)

/-- ±90° are lattice points of all four latitude grids -/
theorem rlat_in_range (i : Nat) (hi : i ≤ 1) (lat : ℚ) (hlat : -90 ≤ lat ∧ lat ≤ 90) :
    (-90 ≤ rlat 17 i lat ∧ rlat 17 i lat ≤ 90) ∧ (-90 ≤ rlat 19 i lat ∧ rlat 19 i lat ≤ 90) :=
  ⟨rlat_range_air i hi lat hlat, rlat_range_surf i hi lat hlat⟩

/-- zone sizes that `withRef full` uses for a report: latitude `full/60` (even) or `full/59` (odd);
    longitude `full / max(nl(lat) − i, 1)` at the decoded latitude -/
theorem zone_sizes (full : ℚ) (m : Msg) (lat : ℚ) :
    dLatOf full m = (if m.parity = .even then full / 60 else full / 59) ∧
    dLonOf full m lat = full / ((max (nl lat - (if m.parity = .even then 0 else 1)) 1 : ℕ) : ℚ) :=
  ⟨rfl, rfl⟩

/-- **Near the reference, airborne** (second sentence of the property) — for ANY report (arbitrary field values,
    either parity) and ANY rational reference. -/
theorem local_near_ref_airborne (m : Msg) (latRef lonRef : ℚ) :
    airborneWithRef m latRef lonRef = .ok none ∨
    ∃ p, airborneWithRef m latRef lonRef = .ok (some p) ∧ -90 ≤ p.lat ∧ p.lat ≤ 90 ∧
      |p.lat - latRef| ≤ dLatOf 360 m / 2 ∧ |p.lon - lonRef| ≤ dLonOf 360 m p.lat / 2 :=
  withRef_none_or_near 360 m latRef lonRef

/-- **Near the reference, surface** — same statement with the 90° surface zones. -/
theorem local_near_ref_surface (m : Msg) (latRef lonRef : ℚ) :
    surfaceWithRef m latRef lonRef = .ok none ∨
    ∃ p, surfaceWithRef m latRef lonRef = .ok (some p) ∧ -90 ≤ p.lat ∧ p.lat ≤ 90 ∧
      |p.lat - latRef| ≤ dLatOf 90 m / 2 ∧ |p.lon - lonRef| ≤ dLonOf 90 m p.lat / 2 :=
  withRef_none_or_near 90 m latRef lonRef

/-- In exact arithmetic the two "not more than half a cell away" checks of the code can never fire:
    `floor(1/2 + ref/d − cpr)` always selects a lattice point within half a zone of the reference.  (They guard
    against floating-point rounding only; a mutant that removes them is equivalent on ℚ, one that turns `>`
    into `>=` differs on exact ties only.)  Hence the only refusal is a latitude outside [-90, 90]. -/
theorem half_cell_checks_never_fire (full : ℚ) (hf : 0 < full) (m : Msg) (latRef lonRef : ℚ) :
    |latOf full m latRef - latRef| ≤ dLatOf full m / 2 ∧
    |lonOf full m (latOf full m latRef) lonRef - lonRef| ≤ dLonOf full m (latOf full m latRef) / 2 ∧
    (withRef full m latRef lonRef = .ok none ↔ inLatRange (latOf full m latRef) = false) := by
  have h1 : |latOf full m latRef - latRef| ≤ dLatOf full m / 2 :=
    local_near _ (dLatOf_pos full hf m) _ _
  have h2 : |lonOf full m (latOf full m latRef) lonRef - lonRef| ≤ dLonOf full m (latOf full m latRef) / 2 :=
    local_near _ (dLonOf_pos full hf m _) _ _
  refine ⟨h1, h2, ?_⟩
  rw [withRef_eq]
  by_cases hr : inLatRange (latOf full m latRef) = false
  · simp [hr]
  · rw [if_neg hr, if_neg (not_lt.mpr h1), if_neg (not_lt.mpr h2)]
    simp [hr]

/-- **`ni > 0` guard / no underflow**: `nl ≥ 1`, so the checked `u64` subtraction `nl(lat) − 1` never
    underflows, the divisor of `360 / ni` (resp. `90 / ni`) is never zero (`max(nl − i, 1) ≥ 1`), and neither
    function ever panics — for arbitrary field values and references. -/
theorem ni_pos (m : Msg) (latRef lonRef lat : ℚ) (s : Site) :
    1 ≤ nl lat ∧ 1 ≤ niOf (fmt m) lat ∧ 0 < dLonOf 360 m lat ∧ 0 < dLonOf 90 m lat ∧
    airborneWithRef m latRef lonRef ≠ .panic s ∧ surfaceWithRef m latRef lonRef ≠ .panic s :=
  ⟨nl_pos lat, le_max_right _ _, dLonOf_pos 360 (by norm_num) m lat, dLonOf_pos 90 (by norm_num) m lat,
    withRef_ne_panic 360 m latRef lonRef s, withRef_ne_panic 90 m latRef lonRef s⟩

/-! ### "within 10 m": from degrees to metres

Same metric as in `Props/C04.lean` (sphere of radius `R_MAX = 6 399 594 m`, the largest radius of curvature
of WGS-84; `Geo.gcDist` = great-circle distance, `Geo.chordDist` = chord; `mPerDeg`, `cosUB`, `ewMax`,
`chordMax` as there).  Airborne: the decoded point is within 9.629 m (6.251 m where NL ≥ 3); surface (half a
step = 1/2^20 of the airborne zone): a quarter of that, ≤ 2.408 m.  Not a theorem: sphere vs ellipsoid, and
the link "reference within 180 NM / 45 NM ⇒ inside the half-zone box" (see `notes/C05.md`: in that wording
it is not even true on the ellipsoid at the full range, e.g. 180 NM due north at the equator is 3.015° of
latitude > Dlat₀/2 = 3°). -/

open Rs1090.Proofs.Metres in
/-- **The two axes in metres, airborne and surface** (rational statement): `q = 1` airborne (17 bits),
    `q = 4` surface (19 bits): north-south `≤ 2.6/q m`, east-west `≤ ewMax/q` (5.68 m; 9.27 m where NL ≤ 2),
    `NS² + EW² ≤ (chordMax/q)²`. -/
theorem recovered_axes_metres (i : Nat) (hi : i ≤ 1) (lat lon : ℚ) :
    (nsM (rlat 17 i lat - lat) ≤ 26 / 10 ∧
      ewM (NL (rlat 17 i lat)) (rlon 17 i (rlat 17 i lat) lon - lon) ≤ ewMax (NL (rlat 17 i lat)) ∧
      nsM (rlat 17 i lat - lat) ^ 2 + ewM (NL (rlat 17 i lat)) (rlon 17 i (rlat 17 i lat) lon - lon) ^ 2
        ≤ chordMax (NL (rlat 17 i lat)) ^ 2) ∧
    (nsM (rlat 19 i lat - lat) ≤ 26 / 10 / 4 ∧
      ewM (NL (rlat 19 i lat)) (rlon 19 i (rlat 19 i lat) lon - lon) ≤ ewMax (NL (rlat 19 i lat)) / 4 ∧
      nsM (rlat 19 i lat - lat) ^ 2 + ewM (NL (rlat 19 i lat)) (rlon 19 i (rlat 19 i lat) lon - lon) ^ 2
        ≤ (chordMax (NL (rlat 19 i lat)) / 4) ^ 2) := by
  constructor
  · obtain ⟨hA, hB⟩ := recovered_close_airborne i hi lat lon
    obtain ⟨h1, h59⟩ := NL_range (rlat 17 i lat)
    rw [dlon_eq_dlonOf] at hB
    exact axes_air _ i h1 h59 hi _ _ hA hB
  · obtain ⟨hA, hB⟩ := recovered_close_surface i hi lat lon
    obtain ⟨h1, h59⟩ := NL_range (rlat 19 i lat)
    rw [dlon_eq_dlonOf] at hB
    exact axes_surf _ i h1 h59 hi _ _ hA hB

open Rs1090.Proofs.Metres Rs1090.Proofs.Geo in
/-- **Airborne reference decoding returns a position within 10 m of the point** (great-circle distance on the
    sphere of radius `R_MAX`; NL ≥ 3 is |Rlat| < 86.535°), under the hypotheses of `local_exact_airborne`. -/
theorem local_within_10m_airborne (i : Nat) (hi : i ≤ 1) (lat lon latRef lonRef : ℚ) (k : ℤ)
    (hlat : -90 ≤ lat ∧ lat ≤ 90)
    (h1 : |rlat 17 i lat - latRef| < dlat i / 2)
    (h2 : |rlon 17 i (rlat 17 i lat) lon + 360 * k - lonRef| < dlon i (rlat 17 i lat) / 2) :
    ∃ p : Pos, airborneWithRef (report 17 i lat lon) latRef lonRef = .ok (some p) ∧
      gcDist 6399594 (rad lat) (rad lon) (rad p.lat) (rad p.lon) ≤ 9629 / 1000 ∧
      (3 ≤ NL (rlat 17 i lat) →
        gcDist 6399594 (rad lat) (rad lon) (rad p.lat) (rad p.lon) ≤ 6251 / 1000) ∧
      (9629 / 1000 : ℝ) < 10 := by
  refine ⟨_, local_exact_airborne i hi lat lon latRef lonRef k hlat h1 h2, ?_⟩
  have hB : |rlon 17 i (rlat 17 i lat) lon + 360 * k - (lon + 360 * k)|
      ≤ dlon i (rlat 17 i lat) / 262144 := by
    rw [add_sub_add_right_eq_sub]; exact (recovered_close_airborne i hi lat lon).2
  obtain ⟨_, hg, h3⟩ := air_dist_10m i hi lat lon hlat _ k hB
  exact ⟨hg, h3, by norm_num⟩

open Rs1090.Proofs.Metres Rs1090.Proofs.Geo in
/-- **Surface reference decoding**: same with the 19-bit encoder; the distance is at most 2.408 m. -/
theorem local_within_10m_surface (i : Nat) (hi : i ≤ 1) (lat lon latRef lonRef : ℚ) (k : ℤ)
    (hlat : -90 ≤ lat ∧ lat ≤ 90)
    (h1 : |rlat 19 i lat - latRef| < dlat i / 4 / 2)
    (h2 : |rlon 19 i (rlat 19 i lat) lon + 360 * k - lonRef| < dlon i (rlat 19 i lat) / 4 / 2) :
    ∃ p : Pos, surfaceWithRef (report 19 i lat lon) latRef lonRef = .ok (some p) ∧
      gcDist 6399594 (rad lat) (rad lon) (rad p.lat) (rad p.lon) ≤ 2408 / 1000 := by
  refine ⟨_, local_exact_surface i hi lat lon latRef lonRef k hlat h1 h2, ?_⟩
  have hB : |rlon 19 i (rlat 19 i lat) lon + 360 * k - (lon + 360 * k)|
      ≤ dlon i (rlat 19 i lat) / 1048576 := by
    rw [add_sub_add_right_eq_sub]; exact (recovered_close_surface i hi lat lon).2
  exact surf_dist_10m i hi lat lon hlat _ k hB

/-- `decode_airporne_position_with_reference` (8D40058B58C901375147EFD09357 against (49.0, 6.0)):
    49.82410…, 6.06785… -/
example : airborneWithRef ⟨.even, 39848, 83951⟩ 49 6
    = .ok (some ⟨(408159 : Rat) / 8192, (3777795 : Rat) / 622592⟩) := by decide +kernel

/-- second frame of the same test: 49.81755…, 6.08442… -/
example : airborneWithRef ⟨.odd, 21567, 81965⟩ 49 6
    = .ok (some ⟨(48156435 : Rat) / 966656, (3688425 : Rat) / 606208⟩) := by decide +kernel

/-- `decode_surface_position_with_reference` (8c4841753aab238733c8cd4020b1 against (51.99, 4.375)):
    52.32061…, 4.73473… -/
example : surfaceWithRef ⟨.even, 115609, 116941⟩ (5199 / 100) (4375 / 1000)
    = .ok (some ⟨(13716171 : Rat) / 262144, (1240065 : Rat) / 262144⟩) := by decide +kernel

/-- the hypotheses of `local_exact_airborne` are satisfiable: the odd report of (49.81755, 6.08442) and the
    reference (49.0, 6.0) of the repository's test (k = 0) -/
example : |rlat 17 1 (4981755 / 100000) - 49| < dlat 1 / 2 ∧
    |rlon 17 1 (rlat 17 1 (4981755 / 100000)) (608442 / 100000) + 360 * (0 : ℤ) - 6|
      < dlon 1 (rlat 17 1 (4981755 / 100000)) / 2 := by
  decide +kernel

/-- a reference more than half a zone away is refused or aliased, never wildly off: far reference, same
    report — the result (7.1057…, 96.985…) is an alias within half a zone of the reference -/
example : airborneWithRef ⟨.odd, 21567, 81965⟩ 10 100
    = .ok (some ⟨(6868755 : Rat) / 966656, (92162025 : Rat) / 950272⟩) := by decide +kernel

/-! ### the f64 argument, as theorems (for an abstract rounding `fl`, and for IEEE-754 binary64 `fl64`)

`airborne_position_with_reference` (cpr.rs l.315-372) and `surface_position_with_reference` (l.380-437) compute
in `f64`.  `Proofs/CprFloat.lean`: `F64Exact q` — `q` is a finite binary64 value; `Rounding fl` — the standard
model of rounding as a HYPOTHESIS on an abstract `fl : ℚ → ℚ` (identity on `F64Exact` values, monotone,
`|fl x − x| ≤ |x|·2⁻⁵³ + 2⁻¹⁰⁷⁵` for `|x| ≤ 2^1023`).  The real instance is not trusted:
`Proofs/IeeeRound.lean` DEFINES IEEE-754 binary64 round-to-nearest-even `fl64 : ℚ → ℚ` (gradual underflow, no
overflow to infinity — irrelevant here, every intermediate is below `2^40`) and PROVES `rounding_ieee :
Rounding fl64`; each theorem taking `(R : Rounding fl)` has an unconditional `…_ieee` corollary for `fl := fl64`
(what remains outside Lean: that the machine's `+ − × ÷`, `floor`, `u32 → f64` and literal parsing return
`fl64` of the exact result — IEEE-754 conformance of hardware / LLVM / libm).
`fDLat fl full m` (l.323-327 / 388-392), `fDLon fl full ni` (l.352 / 417), `fIdxArg fl ref d k` = the computed
`0.5 + ref / d - cpr` and `fIdx` its floor (l.335, 360 / 400, 425), `fCoord fl d j k` = the computed
`d * (j + cpr)` (l.337, 361 / 402, 426) — `fl` after EVERY operation; `full = 360` airborne, `90` surface.
Unlike global decoding, the zone indices here depend on an arbitrary `f64` reference, so they are exact only
away from the zone boundaries; what is exact unconditionally is stated by the `…_f64exact` theorems. -/

open Rs1090.Proofs.CprFloat (F64Exact Rounding fDLat fDLon fIdxArg fIdx fCoord gIdxArg)
open Rs1090.Proofs.IeeeRound (fl64)

/-- the rounding hypothesis is satisfiable (`fl = id`; the intended instance is `rounding_ieee`) -/
theorem rounding_satisfiable : Rounding id := Proofs.CprFloat.rounding_id

/-- **IEEE-754 binary64 round-to-nearest-even is an instance of the rounding hypothesis** (`fl64` is defined in
    `Proofs/IeeeRound.lean`: `fl64 q = rne (q / ulp q) · ulp q`, `ulp q = 2^(max ⌊log₂|q|⌋ (-1022) − 52)`) -/
theorem rounding_ieee : Rounding fl64 := Proofs.IeeeRound.rounding_fl64

/-- the value `fl64` returns is a finite binary64 value (no overflow below `2^1023`), so `fl64` is idempotent -/
theorem fl64_f64exact (q : ℚ) (h : |q| ≤ 2 ^ 1023) : F64Exact (fl64 q) ∧ fl64 (fl64 q) = fl64 q :=
  ⟨Proofs.IeeeRound.fl64_f64exact q h, Proofs.IeeeRound.fl64_idem q h⟩

/-- l.320-321 / 385-386 `f64::from(x) / CPR_MAX`: a binary64 value for every 17-bit field -/
theorem cpr_f64exact (n : ℕ) (hn : n < 131072) : F64Exact ((n : ℚ) / 131072) :=
  Proofs.CprFloat.cpr_f64exact n hn

/-- l.324 `360. / 60.`, l.389 `90. / 60.`, and l.337 / 402 `d_lat * (j + cpr_lat)` of an EVEN report: for every
    integer `|j| ≤ 1024` (the index is at most 242 in magnitude for `|ref| ≤ 360`) the sum and both products are
    binary64 values.  (Also l.361 / 426: `m + cpr_lon` is a binary64 value.) -/
theorem local_even_f64exact (j : ℤ) (k : ℕ) (hj : |j| ≤ 1024) (hk : k < 131072) :
    F64Exact (360 / 60 : ℚ) ∧ F64Exact (90 / 60 : ℚ) ∧ F64Exact ((j : ℚ) + (k : ℚ) / 131072) ∧
    F64Exact (360 / 60 * ((j : ℚ) + (k : ℚ) / 131072)) ∧ F64Exact (90 / 60 * ((j : ℚ) + (k : ℚ) / 131072)) :=
  Proofs.CprFloat.local_even_f64exact j k hj hk

/-- hence, given the zone index, the latitude of an EVEN report is computed exactly by both decoders -/
theorem local_lat_even_f64exact {fl : ℚ → ℚ} (R : Rounding fl) (j : ℤ) (k : ℕ) (hj : |j| ≤ 1024)
    (hk : k < 131072) :
    fCoord fl (fl (360 / 60)) j k = 360 / 60 * ((j : ℚ) + (k : ℚ) / 131072) ∧
    fCoord fl (fl (90 / 60)) j k = 90 / 60 * ((j : ℚ) + (k : ℚ) / 131072) :=
  Proofs.CprFloat.fCoord_even_eq R j k hj hk

theorem local_lat_even_f64exact_ieee (j : ℤ) (k : ℕ) (hj : |j| ≤ 1024) (hk : k < 131072) :
    fCoord fl64 (fl64 (360 / 60)) j k = 360 / 60 * ((j : ℚ) + (k : ℚ) / 131072) ∧
    fCoord fl64 (fl64 (90 / 60)) j k = 90 / 60 * ((j : ℚ) + (k : ℚ) / 131072) :=
  local_lat_even_f64exact rounding_ieee j k hj hk

/-- **Latitude of the local decoders under rounding** (`full = 360` airborne / `90` surface, either parity, any
    reference with `|latRef| ≤ 360`): (1) the computed floor argument is within `10⁻¹²` of the exact
    `1/2 + latRef/d_lat − cpr_lat`; (2) hence the computed zone index `j` is the rational model's unless that
    exact argument lies within `10⁻¹²` of an integer; (3) with the model's index the computed latitude is
    within `10⁻¹²` degrees of the model's `latOf` (`withRef_eq`: the latitude `withRef` returns). -/
theorem local_lat_float_close {fl : ℚ → ℚ} (R : Rounding fl) (full : ℚ) (hf : full = 360 ∨ full = 90)
    (m : Msg) (hm : m.lat < 131072) (latRef : ℚ) (href : |latRef| ≤ 360) :
    |fIdxArg fl latRef (fDLat fl full m) m.lat - gIdxArg latRef (dLatOf full m) m.lat| ≤ 1 / 10 ^ 12 ∧
    (((⌊gIdxArg latRef (dLatOf full m) m.lat⌋ : ℤ) : ℚ) + 1 / 10 ^ 12 ≤ gIdxArg latRef (dLatOf full m) m.lat →
      gIdxArg latRef (dLatOf full m) m.lat + 1 / 10 ^ 12
        < ((⌊gIdxArg latRef (dLatOf full m) m.lat⌋ : ℤ) : ℚ) + 1 →
      fIdx fl latRef (fDLat fl full m) m.lat = ⌊gIdxArg latRef (dLatOf full m) m.lat⌋) ∧
    |fCoord fl (fDLat fl full m) ⌊gIdxArg latRef (dLatOf full m) m.lat⌋ m.lat - latOf full m latRef|
      ≤ 1 / 10 ^ 12 := by
  obtain ⟨h1, h2, h3⟩ := Proofs.CprFloat.fDLat_err R full hf m
  rw [Proofs.CprFloat.latOf_eq]
  exact Proofs.CprFloat.local_axis R m.lat hm h2 h3 h1 href

theorem local_lat_float_close_ieee (full : ℚ) (hf : full = 360 ∨ full = 90)
    (m : Msg) (hm : m.lat < 131072) (latRef : ℚ) (href : |latRef| ≤ 360) :
    |fIdxArg fl64 latRef (fDLat fl64 full m) m.lat - gIdxArg latRef (dLatOf full m) m.lat| ≤ 1 / 10 ^ 12 ∧
    (((⌊gIdxArg latRef (dLatOf full m) m.lat⌋ : ℤ) : ℚ) + 1 / 10 ^ 12 ≤ gIdxArg latRef (dLatOf full m) m.lat →
      gIdxArg latRef (dLatOf full m) m.lat + 1 / 10 ^ 12
        < ((⌊gIdxArg latRef (dLatOf full m) m.lat⌋ : ℤ) : ℚ) + 1 →
      fIdx fl64 latRef (fDLat fl64 full m) m.lat = ⌊gIdxArg latRef (dLatOf full m) m.lat⌋) ∧
    |fCoord fl64 (fDLat fl64 full m) ⌊gIdxArg latRef (dLatOf full m) m.lat⌋ m.lat - latOf full m latRef|
      ≤ 1 / 10 ^ 12 :=
  local_lat_float_close rounding_ieee full hf m hm latRef href

/-- **Longitude of the local decoders under rounding**, at any latitude `lat` (in particular the decoded one),
    any reference with `|lonRef| ≤ 360`: `d_lon = full / ni` with `ni = max(nl(lat) − i, 1) ∈ 1..59` exact,
    one rounding for the quotient; the same three statements for `m` and the longitude `lonOf`. -/
theorem local_lon_float_close {fl : ℚ → ℚ} (R : Rounding fl) (full : ℚ) (hf : full = 360 ∨ full = 90)
    (m : Msg) (hm : m.lon < 131072) (lat lonRef : ℚ) (href : |lonRef| ≤ 360) :
    |fIdxArg fl lonRef (fDLon fl full (niOf (fmt m) lat)) m.lon - gIdxArg lonRef (dLonOf full m lat) m.lon|
      ≤ 1 / 10 ^ 12 ∧
    (((⌊gIdxArg lonRef (dLonOf full m lat) m.lon⌋ : ℤ) : ℚ) + 1 / 10 ^ 12 ≤ gIdxArg lonRef (dLonOf full m lat) m.lon →
      gIdxArg lonRef (dLonOf full m lat) m.lon + 1 / 10 ^ 12
        < ((⌊gIdxArg lonRef (dLonOf full m lat) m.lon⌋ : ℤ) : ℚ) + 1 →
      fIdx fl lonRef (fDLon fl full (niOf (fmt m) lat)) m.lon = ⌊gIdxArg lonRef (dLonOf full m lat) m.lon⌋) ∧
    |fCoord fl (fDLon fl full (niOf (fmt m) lat)) ⌊gIdxArg lonRef (dLonOf full m lat) m.lon⌋ m.lon
        - lonOf full m lat lonRef| ≤ 1 / 10 ^ 12 := by
  obtain ⟨n1, n59⟩ := Proofs.CprFloat.niOf_range (fmt m) lat
  obtain ⟨h1, h2, h3⟩ := Proofs.CprFloat.fDLon_err R full hf _ n1 n59
  rw [Proofs.CprFloat.lonOf_eq]
  exact Proofs.CprFloat.local_axis R m.lon hm h2 h3 h1 href

theorem local_lon_float_close_ieee (full : ℚ) (hf : full = 360 ∨ full = 90)
    (m : Msg) (hm : m.lon < 131072) (lat lonRef : ℚ) (href : |lonRef| ≤ 360) :
    |fIdxArg fl64 lonRef (fDLon fl64 full (niOf (fmt m) lat)) m.lon - gIdxArg lonRef (dLonOf full m lat) m.lon|
      ≤ 1 / 10 ^ 12 ∧
    (((⌊gIdxArg lonRef (dLonOf full m lat) m.lon⌋ : ℤ) : ℚ) + 1 / 10 ^ 12 ≤ gIdxArg lonRef (dLonOf full m lat) m.lon →
      gIdxArg lonRef (dLonOf full m lat) m.lon + 1 / 10 ^ 12
        < ((⌊gIdxArg lonRef (dLonOf full m lat) m.lon⌋ : ℤ) : ℚ) + 1 →
      fIdx fl64 lonRef (fDLon fl64 full (niOf (fmt m) lat)) m.lon = ⌊gIdxArg lonRef (dLonOf full m lat) m.lon⌋) ∧
    |fCoord fl64 (fDLon fl64 full (niOf (fmt m) lat)) ⌊gIdxArg lonRef (dLonOf full m lat) m.lon⌋ m.lon
        - lonOf full m lat lonRef| ≤ 1 / 10 ^ 12 :=
  local_lon_float_close rounding_ieee full hf m hm lat lonRef href

/-- hypotheses satisfiable and statement non-trivial: the repository's test report
    (`decode_airporne_position_with_reference`, 8D40058B58C901375147EFD09357, even, reference 49.0 / 6.0): the exact
    floor argument is 8.3626…, more than `10⁻¹²` away from an integer, so the computed index is `j = 8`
    for every `fl` satisfying the hypothesis -/
example {fl : ℚ → ℚ} (R : Rounding fl) : fIdx fl 49 (fDLat fl 360 ⟨.even, 39848, 83951⟩) 39848 = 8 := by
  have h := (local_lat_float_close R 360 (Or.inl rfl) ⟨.even, 39848, 83951⟩ (by decide) 49
    (by decide +kernel)).2.1
  exact (h (by decide +kernel) (by decide +kernel)).trans (by decide +kernel)

/-- … in particular for the real rounding: the IEEE-754 binary64 computation of the index returns `8`; and `fl64`
    is not the identity (`1/10 ↦ 3602879701896397 / 2^55`), so the `…_ieee` corollaries are not the `fl = id`
    instance -/
example :
    fIdx fl64 49 (fDLat fl64 360 ⟨.even, 39848, 83951⟩) 39848 = 8 ∧ fl64 (1 / 10) ≠ 1 / 10 := by
  have h := (local_lat_float_close_ieee 360 (Or.inl rfl) ⟨.even, 39848, 83951⟩ (by decide) 49
    (by decide +kernel)).2.1
  exact ⟨(h (by decide +kernel) (by decide +kernel)).trans (by decide +kernel),
    by rw [Proofs.IeeeRound.fl64_one_tenth]; norm_num⟩

/-! ### the f64 argument, ASSEMBLED: the complete float-level local decoders against the exact model

`Proofs/CprFloatAsm.lean`: `fWithRef fl full` (`fAirborneWithRef fl = fWithRef fl 360`, `fSurfaceWithRef fl =
fWithRef fl 90`) — the whole function with `fl` after every operation and every comparison made on the f64 values:
`d_lat`, `j = floor(0.5 + lat_ref / d_lat - cpr_lat)`, `lat`, the `[-90, 90]` test, `fabs(lat - lat_ref) > d_lat / 2.`,
`ni` from `fNl` (the NL ladder against the rounded decimal literals), `d_lon`, `m`, `lon`,
`fabs(lon - lon_ref) > d_lon / 2.`; `none` exactly where the Rust code returns `None`.  `LocalMargin full m latRef
lonRef` (`= LocalMarginAt 10⁻⁹ …`, decidable): on the EXACT values, the two floor arguments stay `10⁻⁹` away from the
integers, the latitude `10⁻⁹`° away from ±90 and from the 58 transition latitudes, `|lat − lat_ref|` and
`|lon − lon_ref|` `10⁻⁹`° away from half a zone. -/

open Rs1090.Proofs.CprFloat (fAirborneWithRef fSurfaceWithRef LocalMargin)

/-- **The complete f64 computation of `airborne_position_with_reference` returns (almost) what the exact model
    returns**, under the margin hypothesis. -/
theorem airborne_with_reference_f64_close (fl : ℚ → ℚ) (R : Rounding fl) (m : Msg)
    (hm : m.lat < 131072 ∧ m.lon < 131072) (latRef lonRef : ℚ) (hlr : |latRef| ≤ 360) (hor : |lonRef| ≤ 360)
    (M : LocalMargin 360 m latRef lonRef) :
    (fAirborneWithRef fl m latRef lonRef = none ↔ airborneWithRef m latRef lonRef = .ok none) ∧
    ∀ q, fAirborneWithRef fl m latRef lonRef = some q → ∃ p : Pos, airborneWithRef m latRef lonRef = .ok (some p) ∧
      |q.1 - p.lat| ≤ 1 / 10 ^ 11 ∧ |q.2 - p.lon| ≤ 1 / 10 ^ 11 :=
  Proofs.CprFloat.airborne_with_reference_f64_close fl R m hm latRef lonRef hlr hor M

theorem airborne_with_reference_ieee_close (m : Msg)
    (hm : m.lat < 131072 ∧ m.lon < 131072) (latRef lonRef : ℚ) (hlr : |latRef| ≤ 360) (hor : |lonRef| ≤ 360)
    (M : LocalMargin 360 m latRef lonRef) :
    (fAirborneWithRef fl64 m latRef lonRef = none ↔ airborneWithRef m latRef lonRef = .ok none) ∧
    ∀ q, fAirborneWithRef fl64 m latRef lonRef = some q → ∃ p : Pos, airborneWithRef m latRef lonRef = .ok (some p) ∧
      |q.1 - p.lat| ≤ 1 / 10 ^ 11 ∧ |q.2 - p.lon| ≤ 1 / 10 ^ 11 :=
  airborne_with_reference_f64_close fl64 rounding_ieee m hm latRef lonRef hlr hor M

/-- the same for `surface_position_with_reference` -/
theorem surface_with_reference_f64_close (fl : ℚ → ℚ) (R : Rounding fl) (m : Msg)
    (hm : m.lat < 131072 ∧ m.lon < 131072) (latRef lonRef : ℚ) (hlr : |latRef| ≤ 360) (hor : |lonRef| ≤ 360)
    (M : LocalMargin 90 m latRef lonRef) :
    (fSurfaceWithRef fl m latRef lonRef = none ↔ surfaceWithRef m latRef lonRef = .ok none) ∧
    ∀ q, fSurfaceWithRef fl m latRef lonRef = some q → ∃ p : Pos, surfaceWithRef m latRef lonRef = .ok (some p) ∧
      |q.1 - p.lat| ≤ 1 / 10 ^ 11 ∧ |q.2 - p.lon| ≤ 1 / 10 ^ 11 :=
  Proofs.CprFloat.surface_with_reference_f64_close fl R m hm latRef lonRef hlr hor M

theorem surface_with_reference_ieee_close (m : Msg)
    (hm : m.lat < 131072 ∧ m.lon < 131072) (latRef lonRef : ℚ) (hlr : |latRef| ≤ 360) (hor : |lonRef| ≤ 360)
    (M : LocalMargin 90 m latRef lonRef) :
    (fSurfaceWithRef fl64 m latRef lonRef = none ↔ surfaceWithRef m latRef lonRef = .ok none) ∧
    ∀ q, fSurfaceWithRef fl64 m latRef lonRef = some q → ∃ p : Pos, surfaceWithRef m latRef lonRef = .ok (some p) ∧
      |q.1 - p.lat| ≤ 1 / 10 ^ 11 ∧ |q.2 - p.lon| ≤ 1 / 10 ^ 11 :=
  surface_with_reference_f64_close fl64 rounding_ieee m hm latRef lonRef hlr hor M

/-- **The IEEE-754 computation recovers the encoder's lattice point within `10⁻¹¹` degrees** — the point
    `local_within_10m_airborne` places within 10 m of the true one (`10⁻¹¹`° ≤ 1.2 µm). -/
theorem local_f64_recovers_airborne (i : Nat) (hi : i ≤ 1) (lat lon latRef lonRef : ℚ) (k : ℤ)
    (hlat : -90 ≤ lat ∧ lat ≤ 90)
    (h1 : |rlat 17 i lat - latRef| < dlat i / 2)
    (h2 : |rlon 17 i (rlat 17 i lat) lon + 360 * k - lonRef| < dlon i (rlat 17 i lat) / 2)
    (hlr : |latRef| ≤ 360) (hor : |lonRef| ≤ 360)
    (M : LocalMargin 360 (report 17 i lat lon) latRef lonRef) :
    ∃ q, fAirborneWithRef fl64 (report 17 i lat lon) latRef lonRef = some q ∧
      |q.1 - rlat 17 i lat| ≤ 1 / 10 ^ 11 ∧
      |q.2 - (rlon 17 i (rlat 17 i lat) lon + 360 * k)| ≤ 1 / 10 ^ 11 := by
  have g := local_exact_airborne i hi lat lon latRef lonRef k hlat h1 h2
  have c := airborne_with_reference_ieee_close (report 17 i lat lon)
    (report_fields_lt 17 i lat lon) latRef lonRef hlr hor M
  obtain ⟨q, f, c1, c2⟩ := Proofs.CprFloat.Close.of_some c g
  exact ⟨q, f, c1, c2⟩

/-- non-vacuity: the repository's tests `decode_airporne_position_with_reference` (both frames against (49.0, 6.0))
    and `decode_surface_position_with_reference` (against (51.99, 4.375)) satisfy the margin … -/
example : LocalMargin 360 ⟨.even, 39848, 83951⟩ 49 6 ∧ LocalMargin 360 ⟨.odd, 21567, 81965⟩ 49 6 ∧
    LocalMargin 90 ⟨.even, 115609, 116941⟩ (5199 / 100) (4375 / 1000) :=
  Proofs.CprFloat.localMargin_tests

/-- … so the assembled theorem applies: the IEEE-754 computation of the second frame returns a position within
    `10⁻¹¹`° of the exact model's (49.81755…, 6.08442…) -/
example : ∃ q, fAirborneWithRef fl64 ⟨.odd, 21567, 81965⟩ 49 6 = some q ∧
    |q.1 - 48156435 / 966656| ≤ 1 / 10 ^ 11 ∧ |q.2 - 3688425 / 606208| ≤ 1 / 10 ^ 11 := by
  have c := airborne_with_reference_ieee_close ⟨.odd, 21567, 81965⟩ ⟨by decide, by decide⟩ 49 6
    (by decide +kernel) (by decide +kernel) Proofs.CprFloat.localMargin_tests.2.1
  have e : airborneWithRef ⟨.odd, 21567, 81965⟩ 49 6
      = .ok (some ⟨(48156435 : Rat) / 966656, (3688425 : Rat) / 606208⟩) := by decide +kernel
  obtain ⟨q, f, c1, c2⟩ := Proofs.CprFloat.Close.of_some c e
  exact ⟨q, f, c1, c2⟩

/-- the margin is a real restriction: a reference exactly half a zone from the decoded latitude (the even report
    with `lat_cpr = 0` against 51°: the floor argument is exactly 9, `lat = 54`, `|lat − lat_ref| = 3 = d_lat / 2`) does not
    satisfy it -/
example : ¬ LocalMargin 360 ⟨.even, 0, 0⟩ 51 0 := by decide +kernel

/-- **No hidden state besides the reviewed one** in the files this property is anchored in. 
    The two reference decoders and `nl` are functions of their arguments; cpr.rs holds nothing between calls.
    The translator lists on every run every construct through which a Rust function can carry state from one
    call to the next without it showing in its signature (`static`, `thread_local!`, `lazy_static!`,
    `OnceCell`/`OnceLock`/`Lazy`, `Cell`/`RefCell`/`UnsafeCell`, `Mutex`/`RwLock`, atomics, `unsafe`; whole
    files, gen/extractors/hidden_state.py); a memo, cache or counter added there breaks this obligation by
    name, whatever inputs the harness happens to generate. -/
theorem hidden_state_reviewed :
    Gen.HiddenState.sitesIn ["decode/cpr.rs"] =
      [] := by decide

end Rs1090.Props.C05
