/-
C06 — trajectory decoding never emits a wrong position; aircraft do not interfere.

  "When the position reports of aircraft flying at up to 700 kt are fed in any order of interleaving, with
   arbitrary losses, duplicates, gaps of any length and locally swapped timestamps, every latitude/longitude
   attached to a report is within 25 m of where that aircraft was when the report was encoded; reports may
   be left without a position but never given a wrong one. With a fixed receiver reference, what is decoded
   for one aircraft is identical whether or not other aircraft's reports are interleaved."

Objects.  `Model.CprState.decodePosition g dist upd` is the model of `rs1090::decode::cpr::decode_position`
(one report; cache and receiver reference threaded through), `decodePositions` the model of the batch driver
`decode_positions`; `g = Gates.source` are the windows and gates regenerated from the source on every run,
`dist` stands for `dist_haversine` (a parameter: every theorem holds for EVERY function `dist`, unless it
states an assumption on it), `upd` for the `update_reference` callback.  The model is tied to the code by the
verbatim comparison of the function bodies in the extractor and by differential execution on simulated
flights (DESIGN §2.3).

What is proved, and how strongly (the claim of each theorem is at the theorem).
* Clause 2 (no interference): `noninterference`, FULL strength with a fixed receiver reference; with an
  `update_reference` callback the reference is shared state and the clause is false (`interference_with_update`).
* One step of `decode_position` with the literal windows and gates: `emitted_iff_airborne`, `emitted_iff_surface`,
  `entry_after_*`, FULL strength; `cache_invariant`, FULL strength, no kinematics.
* Clause 1 (never a wrong position, within 25 m): `sound`, `sound_within_25m` about WHOLE histories, under
  `EncodesAll` and the state-independent hypothesis `Kin` (`KinDeg`: bounds in degrees between true positions).
  With `upd = none` (`sound_fixed_reference`) `Kin` relates reports of one aircraft only.  With a callback `Kin`
  has a cross-aircraft conjunct that the property's premises do not imply, and where it fails the code attaches a
  wrong position: RECORDED FINDING `finding_reference_update_wrong_position`.
* NOT theorems: "≤ 700 kt, 10 s / 180 s windows, receiver within 40 NM, time stamps disordered only locally ⇒
  `KinDeg`" (spherical kinematics: simulation only; `moving_flight_kin` shows a moving flight satisfies it), and
  ellipsoid-vs-sphere (geodesic distance on WGS-84 ≤ great-circle distance on the sphere of radius 6 399 594 m).
-/
import Rs1090.Proofs.CprStateInv
import Rs1090.Proofs.CprStateKin
import Rs1090.Gen.HiddenState
namespace Rs1090.Props.C06
open Rs1090 Rs1090.Model.Cpr Rs1090.Model.CprState Rs1090.Spec.Cpr Rs1090.Proofs.Cpr Rs1090.Proofs.CprState

/-- **Non-interference** (clause 2; fixed receiver reference, `update_reference = None`): the positions
    attached to the reports of `A` by the batch decoder run on `h` are exactly those attached when the reports
    of `A` are fed alone.  No assumption on `h`: any interleaving, losses, duplicates, time stamps.

    Which callers run in this regime (`update_reference = None`): the Python binding (`python/src/lib.rs`,
    `decode_positions(&mut res, position, &None)`), the example `crates/rs1090/examples/flight.rs`, and jet1090
    by DEFAULT (`crates/jet1090/src/main.rs`: `update_reference = None` unless `--update-position`).
    NOT covered: decode1090 ALWAYS passes a closure (`crates/decode1090/src/main.rs`: `alt < 1000`), and so does
    jet1090 with `--update-position` (`alt < 5000`); those runs are in the regime of `interference_with_update`
    (the reference is shared state, by design).  `sound` below holds in BOTH regimes (its `Kin` then also asks
    that every low-flagged airborne fix be near every later surface report). -/
theorem noninterference (dist : Pos → Pos → Rat) (reference : Option Pos) (h : List Report) (A : Address) :
    outputsOf A h (decodePositions Gates.source dist none reference h)
      = decodePositions Gates.source dist none reference (own A h) :=
  run_own Gates.source dist A h _ _ rfl rfl

/-- … from any state of the cache as well (the loop over `decode_position` that jet1090 runs never starts
    from an empty cache): two caches that agree on `A`'s entry attach the same positions to `A`'s reports,
    whatever else they contain and whatever other aircraft's reports are interleaved. -/
theorem noninterference_from (g : Gates) (dist : Pos → Pos → Rat) (A : Address) (h : List Report)
    (s1 s2 : State) (he : s1.1 A = s2.1 A) (hr : s1.2 = s2.2) :
    outputsOf A h (run g dist none s1 h) = run g dist none s2 (own A h) :=
  run_own g dist A h s1 s2 he hr

theorem frame (g : Gates) (dist : Pos → Pos → Rat) (st : State) (r : Report) (A : Address) (h : A ≠ r.addr) :
    (decodePosition g dist none st r).1.1 A = st.1 A ∧ (decodePosition g dist none st r).1.2 = st.2 :=
  ⟨decodePosition_frame g dist none st r A h, decodePosition_ref_fixed g dist st r⟩

/-- **The windows and gates regenerated from the source are the documented ones, with their comparison
    operators**: out-of-order `dt < 0`, pairing `dt < 10` s, reference `dt < 180` s, plausibility `d > 50` km,
    surface reference `dt < 180` s, surface continuity `d < 1` km.  Every theorem below that mentions a number
    rests on this one: an edit of a number or of an operator in `decode_position` breaks it. -/
theorem source_gates_literal : LiteralGates Gates.source :=
  ⟨fun _ => rfl, fun _ => rfl, fun _ => rfl, fun _ => rfl, fun _ => rfl, fun _ => rfl⟩

/-- the entry that a report finds (`aircraft.entry(icao24).or_insert(…)` with the report's own time stamp) -/
def entryOf (c : Cache) (r : Report) : AircraftState := (c r.addr).getD (AircraftState.fresh r.ts)

/-- **BDS 0,5.**  A position `p` is attached to an airborne report iff the report is not older than the stored
    report of the OTHER parity, and `p` is the global decoding against that report when it is less than 10 s
    old or, failing that (no such report, or the pair is refused), the local decoding against the aircraft's
    last position when that is less than 180 s old, and `p` is not more than 50 km from the last position if
    there is one (whatever its age). -/
theorem emitted_iff_airborne (dist : Pos → Pos → Rat) (upd : Option (Report → Bool)) (c : Cache)
    (reference : Option Pos) (r : Report) (hk : r.kind = .airborne) (p : Pos) :
    (decodePosition Gates.source dist upd (c, reference) r).2 = some p ↔
      0 ≤ r.ts - otherTs (entryOf c r) r.msg.parity ∧
      airCandidate (entryOf c r) r.ts r.msg = some p ∧
      ∀ lp, (entryOf c r).pos = some lp → dist p lp ≤ 50 := by
  rw [decodePosition_airborne Gates.source source_gates_literal dist upd c reference r hk (e := entryOf c r) rfl]
  exact Option.ite_none_left_eq_some.trans (and_congr not_lt gate50_eq_some)

/-- **BDS 0,6.**  A position `p` is attached to a surface report iff it is the local decoding against the
    aircraft's last position, that position being less than 180 s old and `p` less than 1 km from it, or,
    failing that, the local decoding against the receiver reference. -/
theorem emitted_iff_surface (dist : Pos → Pos → Rat) (upd : Option (Report → Bool)) (c : Cache)
    (reference : Option Pos) (r : Report) (hk : r.kind = .surface) (p : Pos) :
    (decodePosition Gates.source dist upd (c, reference) r).2 = some p ↔
      (match surfLast dist (entryOf c r) r.ts r.msg with
       | some q => some q
       | none =>
         match reference with
         | some rf => flat (surfaceWithRef r.msg rf.lat rf.lon)
         | none => none) = some p := by
  rw [decodePosition_surface Gates.source source_gates_literal dist upd c reference r hk rfl]
  rfl

theorem surfLast_iff (dist : Pos → Pos → Rat) (e : AircraftState) (ts : Rat) (m : Msg) (p : Pos) :
    surfLast dist e ts m = some p ↔
      ts - e.timestamp < 180 ∧
      ∃ lp, e.pos = some lp ∧ flat (surfaceWithRef m lp.lat lp.lon) = some p ∧ dist lp p < 1 :=
  surfLast_eq_some

theorem emitted_other (g : Gates) (dist : Pos → Pos → Rat) (upd : Option (Report → Bool)) (st : State)
    (r : Report) (hk : r.kind = .other) : (decodePosition g dist upd st r).2 = none :=
  congrArg Prod.snd (decodePosition_other g dist upd st.1 st.2 r hk)

/-- **The aircraft's entry after a BDS 0,5 report**: a report older than the stored report of the other
    parity changes nothing (it only creates the entry); otherwise the position becomes what was attached —
    `None` when nothing was —, its time stamp moves only on success, and the report is stored in its parity
    slot with its time stamp. -/
theorem entry_after_airborne (dist : Pos → Pos → Rat) (upd : Option (Report → Bool)) (c : Cache)
    (reference : Option Pos) (r : Report) (hk : r.kind = .airborne) :
    (decodePosition Gates.source dist upd (c, reference) r).1.1 r.addr =
      some (if r.ts - otherTs (entryOf c r) r.msg.parity < 0 then entryOf c r
        else storeSlot
          (match (decodePosition Gates.source dist upd (c, reference) r).2 with
           | some p => { entryOf c r with pos := some p, timestamp := r.ts }
           | none => { entryOf c r with pos := none })
          r.msg r.ts) := by
  simp only [decodePosition_airborne Gates.source source_gates_literal dist upd c reference r hk
    (e := entryOf c r) rfl, set_same]
  split_ifs <;> rfl

/-- **… after a BDS 0,6 report**: position and time stamp move on success only; the parity slots (airborne
    reports) are never touched. -/
theorem entry_after_surface (dist : Pos → Pos → Rat) (upd : Option (Report → Bool)) (c : Cache)
    (reference : Option Pos) (r : Report) (hk : r.kind = .surface) :
    (decodePosition Gates.source dist upd (c, reference) r).1.1 r.addr =
      some (match (decodePosition Gates.source dist upd (c, reference) r).2 with
        | some p => { entryOf c r with pos := some p, timestamp := r.ts }
        | none => entryOf c r) := by
  simp only [decodePosition_surface Gates.source source_gates_literal dist upd c reference r hk
    (e := entryOf c r) rfl, set_same]
  rfl

theorem pairDecode_iff (e : AircraftState) (ts : Rat) (m : Msg) (p : Pos) :
    pairDecode e ts m = some p ↔
      ts - otherTs e m.parity < 10 ∧
      ∃ o, otherMsg e m.parity = some o ∧ flat (airbornePosition o m) = some p :=
  pairDecode_eq_some

theorem refDecode_iff (e : AircraftState) (ts : Rat) (m : Msg) (p : Pos) :
    refDecode e ts m = some p ↔
      ts - e.timestamp < 180 ∧
      ∃ lp, e.pos = some lp ∧ flat (airborneWithRef m lp.lat lp.lon) = some p :=
  refDecode_eq_some

theorem airCandidate_iff (e : AircraftState) (ts : Rat) (m : Msg) (p : Pos) :
    airCandidate e ts m = some p ↔
      pairDecode e ts m = some p ∨ (pairDecode e ts m = none ∧ refDecode e ts m = some p) :=
  airCandidate_eq_some

/-- the table the extractor regenerates from `decode_position` on every run; `surfHasWindow`: the surface branch
    has its 180 s window (the code after `fix:` 28d1856) -/
theorem gates_pinned :
    Gen.CprState.table = [("outOfOrder", "<", 0), ("pairWindow", "<", 10), ("refWindow", "<", 180),
      ("gateReject", ">", 50), ("surfRefWindow", "<", 180), ("surfContinuity", "<", 1)] ∧
    Gen.CprState.surfHasWindow = true := by decide

/-- none of the three decoding primitives that `decode_position` calls can panic (so the model's `flat` hides
    nothing) -/
theorem primitives_never_panic (a b : Msg) (latRef lonRef : ℚ) (s : Site) :
    airbornePosition a b ≠ .panic s ∧ airborneWithRef a latRef lonRef ≠ .panic s ∧
    surfaceWithRef a latRef lonRef ≠ .panic s :=
  primitives_ne_panic a b latRef lonRef s

/-- **Global decoding of a pair encoded from two different positions** (C04's `global_correct` is the case of
    one position).  The even report was encoded from `(late, lone)`, the odd one from `(lato, lono)`, both on
    the globe, at most 12/295 ° (4.5 km) apart in latitude, their recovered latitudes in the same band `NL`,
    and `NL·(NL−1)·|lone − lono| ≤ 144` (longitudes on the same turn; ≥ 4.6 km everywhere).  Then both orders
    return exactly the lattice point of the LATER report's own position, longitude in [-180, 180). -/
theorem global_correct_two_points (late lone lato lono : ℚ) (he : -90 ≤ late ∧ late ≤ 90)
    (ho : -90 ≤ lato ∧ lato ≤ 90) (hlat : |late - lato| ≤ 12 / 295)
    (hnl : NL (rlat 17 0 late) = NL (rlat 17 1 lato))
    (hlon : (NL (rlat 17 0 late) : ℚ) * ((NL (rlat 17 0 late) : ℚ) - 1) * |lone - lono| ≤ 144) :
    airbornePosition (report 17 0 late lone) (report 17 1 lato lono)
      = .ok (some ⟨rlat 17 1 lato, norm180 (rlon 17 1 (rlat 17 1 lato) lono)⟩) ∧
    airbornePosition (report 17 1 lato lono) (report 17 0 late lone)
      = .ok (some ⟨rlat 17 0 late, norm180 (rlon 17 0 (rlat 17 0 late) lone)⟩) := by
  have h := global_pair late lone lato lono he ho hlat fun _ => hlon
  rwa [if_neg (not_not.mpr hnl), if_neg (not_not.mpr hnl)] at h

theorem global_refused_two_points (late lone lato lono : ℚ) (he : -90 ≤ late ∧ late ≤ 90)
    (ho : -90 ≤ lato ∧ lato ≤ 90) (hlat : |late - lato| ≤ 12 / 295)
    (hnl : NL (rlat 17 0 late) ≠ NL (rlat 17 1 lato)) :
    airbornePosition (report 17 0 late lone) (report 17 1 lato lono) = .ok none ∧
    airbornePosition (report 17 1 lato lono) (report 17 0 late lone) = .ok none := by
  have h := global_pair late lone lato lono he ho hlat fun h => absurd h hnl
  rwa [if_pos hnl, if_pos hnl] at h

/-- the true position of the aircraft when a report was encoded: format `i`, latitude, longitude -/
structure Truth where
  i : ℕ
  lat : ℚ
  lon : ℚ

/-- the report carries the DO-260B encoding of that position (airborne: 17 bits; surface: 19 bits, 17 sent) -/
def Encodes (r : Report) (t : Truth) : Prop :=
  t.i ≤ 1 ∧ (-90 ≤ t.lat ∧ t.lat ≤ 90) ∧
  match r.kind with
  | .airborne => r.msg = report 17 t.i t.lat t.lon
  | .surface => r.msg = report 19 t.i t.lat t.lon
  | .other => True

/-- **the safe boxes** of the branches that can attach a position to `r`, in the state `(c, reference)`:
    * BDS 0,5, pair branch: a stored report of the other parity less than 10 s old was encoded within the pair
      box of `r`'s true position (`PairBox`: 12/295 ° of latitude, `144/(NL(NL−1))` ° of longitude);
    * BDS 0,5, reference branch: a last position less than 180 s old is within half an airborne zone of `r`'s
      lattice point (`NearBox 17 … 1`);
    * BDS 0,6: a last position less than 180 s old, and the receiver reference if there is one, are within half
      a surface zone of `r`'s lattice point (`NearBox 19 … 4`). -/
def SafeStep (c : Cache) (reference : Option Pos) (r : Report) (t : Truth) : Prop :=
  match r.kind with
  | .airborne =>
    (∀ o, otherMsg (entryOf c r) r.msg.parity = some o →
      r.ts - otherTs (entryOf c r) r.msg.parity < 10 → PairBox t.i o t.lat t.lon) ∧
    (∀ lp, (entryOf c r).pos = some lp → r.ts - (entryOf c r).timestamp < 180 →
      NearBox 17 t.i 1 t.lat t.lon lp)
  | .surface =>
    (∀ lp, (entryOf c r).pos = some lp → r.ts - (entryOf c r).timestamp < 180 →
      NearBox 19 t.i 4 t.lat t.lon lp) ∧
    (∀ rf, reference = some rf → NearBox 19 t.i 4 t.lat t.lon rf)
  | .other => True

/-- the lattice point the encoder expects a receiver to recover from `r` -/
def Recovered (r : Report) (t : Truth) (p : Pos) : Prop :=
  match r.kind with
  | .airborne => IsLattice 17 t.i t.lat t.lon p
  | .surface => IsLattice 19 t.i t.lat t.lon p
  | .other => False

theorem sound_step (dist : Pos → Pos → Rat) (upd : Option (Report → Bool)) (c : Cache) (reference : Option Pos)
    (r : Report) (t : Truth) (henc : Encodes r t) (hsafe : SafeStep c reference r t) (p : Pos)
    (h : (decodePosition Gates.source dist upd (c, reference) r).2 = some p) : Recovered r t p := by
  obtain ⟨hi, hlat, hmsg⟩ := henc
  unfold SafeStep at hsafe
  unfold Recovered
  cases hk : r.kind with
  | airborne =>
    simp only [hk] at hsafe hmsg ⊢
    rw [decodePosition_airborne Gates.source source_gates_literal dist upd c reference r hk
      (e := entryOf c r) rfl, hmsg] at h
    rw [hmsg] at hsafe
    exact airOut_sound dist (entryOf c r) r.ts t.i hi t.lat t.lon hlat hsafe.1 hsafe.2 p
      (Option.ite_none_left_eq_some.1 h).2
  | surface =>
    simp only [hk] at hsafe hmsg ⊢
    rw [decodePosition_surface Gates.source source_gates_literal dist upd c reference r hk
      (e := entryOf c r) rfl, hmsg] at h
    exact surfOut_sound dist (entryOf c r) reference r.ts t.i hi t.lat t.lon hlat hsafe.1 hsafe.2 p h
  | other =>
    rw [decodePosition_other Gates.source dist upd c reference r hk] at h
    cases h

/- Clause 1 of the property as the property words it — NOT a theorem of this file:

       ∀ (flights : finite set of great-circle flights, ground speed ≤ 700 kt, airborne or on the
         surface with the receiver reference within 40 NM of every surface report, |lat| ≤ 87° there)
       (h : any history obtained from the reports of `flights` — each the DO-260B encoding of the aircraft's
            position at its time stamp — by interleaving, losses, duplicates, gaps and local swaps) :
       ∀ k p, (decodePositions Gates.source haversine none reference h)[k]? = some (some p) →
         greatCircleDistance p (position of h[k]'s aircraft at h[k]'s encoding time) ≤ 25 m

   The theorems `sound` and `sound_within_25m` have the state-independent hypothesis `Kin` on the true positions
   in the place of the flights; "≤ 700 kt ⇒ `Kin`" and ellipsoid-vs-sphere are what is not proved. -/

/-- **Never a wrong position — one step.**  If `r` carries the encoding of the true position `t` and, in the
    state reached after `pre`, the safe boxes of the branches that can fire hold (`SafeStep`), then a position
    attached to `r` by the batch decoder IS the lattice point `(Rlat, Rlon + 360k)` of `r`'s own true position.

    PARTIAL: that ≤ 700 kt together with the 10 s and 180 s windows (and a receiver within 40 NM, |lat| ≤ 87°)
    puts the true positions inside these boxes (3.6 km < 4.5 km; 65 km < half a zone ≥ 83 km) is spherical
    kinematics, NOT proved here: simulation of the harness only.  ALSO PARTIAL in that `SafeStep` speaks about
    the decoder's state after `pre`; the hypothesis `Kin` of `sound` speaks about the history only. -/
theorem sound_partial (dist : Pos → Pos → Rat) (upd : Option (Report → Bool)) (reference : Option Pos)
    (pre post : List Report) (r : Report) (t : Truth) (henc : Encodes r t)
    (hsafe : SafeStep (runState Gates.source dist upd (Cache.empty, reference) pre).1
      (runState Gates.source dist upd (Cache.empty, reference) pre).2 r t)
    (p : Pos)
    (h : (decodePositions Gates.source dist upd reference (pre ++ r :: post))[pre.length]? = some (some p)) :
    Recovered r t p := by
  unfold decodePositions at h
  rw [run_append, List.getElem?_append_right (by rw [run_length]), run_length, Nat.sub_self, run,
    List.getElem?_cons_zero] at h
  exact sound_step dist upd _ _ r t henc hsafe p (Option.some.inj h)

/-- a history together with, for every report, the true position of its aircraft when the report was ENCODED
    (format, latitude, longitude on any turn).  The list order is the order of DELIVERY to the decoder; the
    recorded time stamp `ts` of a report is whatever the receiver wrote — nothing relates it to the encoding
    time except `Kin` below. -/
abbrev History := List (Report × Truth)

/-- **The cache invariant** (no kinematics, no assumption on the contents of the reports; `α` = any
    annotation of the reports).  After ANY history from the empty cache:
    * every parity slot of every entry holds an earlier report of the same address — airborne, of that
      parity — and the slot's time stamp is that report's recorded time stamp;
    * `pos`, when present, is the position that was ATTACHED to an earlier report of the same address whose
      recorded time stamp is `timestamp`;
    * the receiver reference is the initial one, or — with a callback `f` only — the position attached to an
      earlier airborne report (of any address) on which `f` answered `true`. -/
theorem cache_invariant {α : Type} (dist : Pos → Pos → Rat) (upd : Option (Report → Bool))
    (reference : Option Pos) (H : List (Report × α)) :
    CacheInv (logOf Gates.source dist upd (Cache.empty, reference) H)
      (runState Gates.source dist upd (Cache.empty, reference) (H.map Prod.fst)).1 ∧
    RefInv upd reference (logOf Gates.source dist upd (Cache.empty, reference) H)
      (runState Gates.source dist upd (Cache.empty, reference) (H.map Prod.fst)).2 :=
  inv_run Gates.source source_gates_literal dist upd reference H

theorem reference_fixed {α : Type} (dist : Pos → Pos → Rat) (reference : Option Pos) (H : List (Report × α)) :
    (runState Gates.source dist none (Cache.empty, reference) (H.map Prod.fst)).2 = reference := by
  rcases (cache_invariant dist none reference H).2 with h | ⟨_, _, f, _, hf, _⟩
  · exact h
  · cases hf

def EncodesAll (H : History) : Prop := ∀ x ∈ H, Encodes x.1 x.2

/-- the lattice point the encoder expects a receiver to recover from a report (longitude on the turn of the
    true longitude) -/
def latticeOf (x : Report × Truth) : Pos :=
  match x.1.kind with
  | .surface => ⟨rlat 19 x.2.i x.2.lat, rlon 19 x.2.i (rlat 19 x.2.i x.2.lat) x.2.lon⟩
  | _ => ⟨rlat 17 x.2.i x.2.lat, rlon 17 x.2.i (rlat 17 x.2.i x.2.lat) x.2.lon⟩

/-- the point `q` is inside the near box of the report `y` (strictly within half an airborne zone / half a
    quarter surface zone of `y`'s lattice point, longitude on a suitable turn) -/
def NearOf (y : Report × Truth) (q : Pos) : Prop :=
  match y.1.kind with
  | .airborne => NearBox 17 y.2.i 1 y.2.lat y.2.lon q
  | .surface => NearBox 19 y.2.i 4 y.2.lat y.2.lon q
  | .other => True

/-- the true positions of two airborne reports are inside the pair box of `global_correct_two_points`:
    at most 12/295 ° of latitude apart and, when their recovered latitudes lie in the same band `NL`, at most
    `144/(NL(NL−1))` ° of longitude apart on a suitable turn -/
def PairOf (x y : Report × Truth) : Prop :=
  |x.2.lat - y.2.lat| ≤ 12 / 295 ∧
  (NL (rlat 17 x.2.i x.2.lat) = NL (rlat 17 y.2.i y.2.lat) → ∃ k : ℤ,
    (NL (rlat 17 y.2.i y.2.lat) : ℚ) * ((NL (rlat 17 y.2.i y.2.lat) : ℚ) - 1)
      * |x.2.lon + 360 * k - y.2.lon| ≤ 144)

/-- what `Kin` asks of a report `x` delivered BEFORE a report `y`.  Only true positions, kinds, formats,
    addresses, RECORDED time stamps (and the answer of the caller's `update_reference` closure) occur — never
    the state of the decoder.
    Same aircraft:
    * both airborne, of opposite formats, `0 ≤ y.ts − x.ts < 10` (the out-of-order guard and the pairing
      window of the source) ⇒ pair box;
    * `x` a position report, `y.ts − x.ts < 180` — NEGATIVE differences included, the source has no lower
      bound there — ⇒ `x`'s lattice point is inside `y`'s near box.
    Any two aircraft, only with an `update_reference` callback `f`: `x` airborne with `f x = true`, `y` a
    surface report ⇒ `x`'s lattice point is inside `y`'s near box (the reference may have been moved there). -/
def KinRel (upd : Option (Report → Bool)) (x y : Report × Truth) : Prop :=
  (x.1.addr = y.1.addr →
    (x.1.kind = .airborne → y.1.kind = .airborne → x.2.i ≠ y.2.i →
      0 ≤ y.1.ts - x.1.ts → y.1.ts - x.1.ts < 10 → PairOf x y) ∧
    (x.1.kind ≠ .other → y.1.ts - x.1.ts < 180 → NearOf y (latticeOf x))) ∧
  (∀ f, upd = some f → f x.1 = true → x.1.kind = .airborne → y.1.kind = .surface → NearOf y (latticeOf x))

/-- **The kinematic hypothesis** on a history — state-independent: `KinRel` for every pair (earlier
    delivered, later delivered), and every surface report has the initial receiver reference, if there is
    one, inside its near box.

    Time stamps.  `Kin` is stated on the RECORDED time stamps, the only ones the decoder sees; the true
    positions are those at the ENCODING times.  So a disorder of the stamps (exchanged stamps, swapped
    delivery, a duplicate stamped later, late delivery) is admitted exactly when the boxes still hold for
    the recorded differences.  At ≤ 700 kt (0.36 km/s) the pair box (≥ 4.5 km) leaves 2.5 s and the near
    boxes (airborne ≥ 300 km; surface ≥ 81 km against 65 km in 180 s) leave ≥ 45 s of total stamp error;
    the harness exchanges stamps / swaps deliveries of neighbours less than 1.5 s apart and stamps
    duplicates up to 0.3 s later.  Outside it the decoder CAN attach a wrong position:
    `disorder_outside_kin`. -/
def Kin (upd : Option (Report → Bool)) (reference : Option Pos) (H : History) : Prop :=
  H.Pairwise (KinRel upd) ∧
  ∀ y ∈ H, y.1.kind = .surface → ∀ rf, reference = some rf → NearOf y rf

/-- the first conjunct of `KinRel`: reports of ONE aircraft -/
def KinOwn (x y : Report × Truth) : Prop :=
  x.1.addr = y.1.addr →
    (x.1.kind = .airborne → y.1.kind = .airborne → x.2.i ≠ y.2.i →
      0 ≤ y.1.ts - x.1.ts → y.1.ts - x.1.ts < 10 → PairOf x y) ∧
    (x.1.kind ≠ .other → y.1.ts - x.1.ts < 180 → NearOf y (latticeOf x))

/-- the second conjunct of `KinRel`, under a callback `f`: it relates ANY TWO aircraft — every fix `x` on which
    the closure answers true must lie inside the near box (45 NM) of every surface report `y` delivered later,
    of any address, however much later.  This is a hypothesis on the MIX OF TRAFFIC; it does not follow from
    "≤ 700 kt, receiver within 40 NM". -/
def KinCross (f : Report → Bool) (x y : Report × Truth) : Prop :=
  f x.1 = true → x.1.kind = .airborne → y.1.kind = .surface → NearOf y (latticeOf x)

theorem kinRel_none (x y : Report × Truth) : KinRel none x y ↔ KinOwn x y := by
  unfold KinRel KinOwn
  exact ⟨fun h => h.1, fun h => ⟨h, fun f hf => by cases hf⟩⟩

theorem kinRel_some (f : Report → Bool) (x y : Report × Truth) :
    KinRel (some f) x y ↔ KinOwn x y ∧ KinCross f x y := by
  unfold KinRel KinOwn KinCross
  constructor
  · exact fun h => ⟨h.1, h.2 f rfl⟩
  · rintro ⟨h1, h2⟩
    refine ⟨h1, fun g hg => ?_⟩
    cases hg
    exact h2

/-- exactly what `sound` assumes more when `upd = some f` -/
theorem kin_some_iff (f : Report → Bool) (reference : Option Pos) (H : History) :
    Kin (some f) reference H ↔ Kin none reference H ∧ H.Pairwise (KinCross f) := by
  unfold Kin
  have e1 : H.Pairwise (KinRel (some f)) ↔ H.Pairwise (fun x y => KinOwn x y ∧ KinCross f x y) :=
    ⟨fun h => h.imp (fun h => (kinRel_some f _ _).1 h), fun h => h.imp (fun h => (kinRel_some f _ _).2 h)⟩
  have e2 : H.Pairwise (KinRel none) ↔ H.Pairwise KinOwn :=
    ⟨fun h => h.imp (fun h => (kinRel_none _ _).1 h), fun h => h.imp (fun h => (kinRel_none _ _).2 h)⟩
  rw [e1, e2, List.pairwise_and_iff]
  tauto

theorem near_of_recovered (x y : Report × Truth) (lp : Pos) (h : NearOf y (latticeOf x))
    (hr : Recovered x.1 x.2 lp) : NearOf y lp := by
  unfold NearOf at h ⊢
  unfold latticeOf at h
  unfold Recovered at hr
  cases hx : x.1.kind <;> simp only [hx] at h hr
  all_goals
    cases hy : y.1.kind <;> simp only [hy] at h ⊢
    all_goals exact nearBox_of_isLattice h hr

/-- `sound` in log form.  By induction over the history: the cache invariant turns the decoder's state into
    earlier reports and earlier OUTPUTS, the induction hypothesis makes those outputs lattice points of their
    own true positions, `Kin` puts them inside the safe boxes, and `sound_step` concludes. -/
theorem sound_log (dist : Pos → Pos → Rat) (upd : Option (Report → Bool)) (reference : Option Pos)
    (H : History) (henc : EncodesAll H) (hkin : Kin upd reference H) :
    ∀ y ∈ logOf Gates.source dist upd (Cache.empty, reference) H, ∀ p, y.2 = some p →
      Recovered y.1.1 y.1.2 p := by
  refine (run_invariant Gates.source dist upd (Cache.empty, reference)
    (fun log st => (CacheInv log st.1 ∧ RefInv upd reference log st.2) ∧
      ∀ y ∈ log, ∀ p, y.2 = some p → Recovered y.1.1 y.1.2 p) H
    ⟨⟨fun _ _ hA => (by cases hA), Or.inl rfl⟩, fun _ hy => (by cases hy)⟩ ?_).2
  rintro pre x post hH log ⟨c, ref⟩ hlog ⟨⟨hc, hr⟩, hpre⟩
  refine ⟨⟨cacheInv_step _ source_gates_literal dist upd log c ref x hc,
    refInv_step _ source_gates_literal dist upd reference log c ref x hr⟩, fun y hy p hp => ?_⟩
  rcases List.mem_append.1 hy with hy | hy
  · exact hpre y hy p hp
  cases List.mem_singleton.1 hy
  have hmem : ∀ y ∈ log, y.1 ∈ pre := fun y hy => hlog ▸ List.mem_map_of_mem hy
  have hxH : x ∈ H := by rw [hH]; simp
  have hrel : ∀ a ∈ pre, KinRel upd a x := by
    have h := hkin.1
    rw [hH, List.pairwise_append] at h
    exact fun a ha => h.2.2 a ha x List.mem_cons_self
  have hex := henc x hxH
  refine sound_step dist upd c ref x.1 x.2 hex ?_ p hp
  have hE : EntryInv log x.1.addr (entryOf c x.1) := EntryInv.getD hc x.1
  -- the last position, when young enough, is inside the near box of `x`
  have hlast : ∀ lp, (entryOf c x.1).pos = some lp → x.1.ts - (entryOf c x.1).timestamp < 180 →
      NearOf x lp := by
    intro lp hlp h180
    obtain ⟨y, hy, ha, hts, hout⟩ := hE.pos lp hlp
    have hrec := hpre y hy lp hout
    have hk' : y.1.1.kind ≠ .other := by
      intro h; unfold Recovered at hrec; rw [h] at hrec; exact hrec
    exact near_of_recovered y.1 x lp (((hrel y.1 (hmem y hy)).1 ha).2 hk' (by rw [hts]; exact h180)) hrec
  unfold SafeStep
  cases hk : x.1.kind with
  | other => trivial
  | airborne =>
    refine ⟨fun o ho h10 => ?_, by simpa only [NearOf, hk] using hlast⟩
    have hguard := ((emitted_iff_airborne dist upd c ref x.1 hk p).1 hp).1
    obtain ⟨y, hy, ha, hky, hmsg, hpar, hts⟩ := hE.other _ o ho
    obtain ⟨hiy, hry, hmy⟩ := henc y.1 (by rw [hH]; exact List.mem_append_left _ (hmem y hy))
    obtain ⟨hix, hrx, hmx⟩ := hex
    simp only [hky] at hmy
    simp only [hk] at hmx
    have hne : y.1.2.i ≠ x.2.i := by
      intro h
      apply hpar
      rw [← hmsg, hmy, hmx, report_parity, report_parity, h]
    have hpo := ((hrel y.1 (hmem y hy)).1 ha).1 hky hk hne (by rw [hts]; exact hguard) (by rw [hts]; exact h10)
    rw [← hmsg, hmy]
    exact pairBox_of_deg x.2.i y.1.2.i (by omega) x.2.lat x.2.lon y.1.2.lat y.1.2.lon hry hpo.1 hpo.2
  | surface =>
    refine ⟨by simpa only [NearOf, hk] using hlast, fun rf hrf => ?_⟩
    suffices goal : NearOf x rf by simpa only [NearOf, hk] using goal
    rcases hr with h | ⟨z, hz, f, p', hupd, hf, hkz, hout, href⟩
    · exact hkin.2 x hxH hk rf (by rw [← h]; exact hrf)
    · cases hrf.symm.trans href
      exact near_of_recovered z.1 x _ ((hrel z.1 (hmem z hz)).2 f hupd hf hkz hk) (hpre z hz _ hout)

/-- **Never a wrong position** (clause 1 of the property, as a theorem about WHOLE histories: any number of
    aircraft, interleaving, losses, duplicates, gaps, recorded time stamps; with or without a callback; any
    `dist`).  If every report carries the encoding of its aircraft's true position (`EncodesAll`) and the true
    positions satisfy the state-independent kinematic hypothesis `Kin`, then every position the batch decoder
    attaches to the `k`-th report IS the lattice point `(Rlat, Rlon + 360·n)` of that report's own true position
    (in metres: `sound_within_25m`).
    The 50 km plausibility gate and the 1 km surface continuity test need nothing: they only remove positions.

    What remains OUTSIDE Lean: that aircraft flying at ≤ 700 kt whose time stamps are disordered only
    locally (see `Kin`), with the receiver within 40 NM of every surface report, satisfy `Kin` (`KinDeg`) —
    spherical kinematics, established by the simulation of the harness only.

    THE EXTRA ASSUMPTION WHEN `upd = some f`.  `Kin (some f)` is `Kin none` AND `H.Pairwise (KinCross f)`
    (`kin_some_iff`).  That conjunct is NOT implied by the premises of the property (≤ 700 kt, receiver within
    40 NM): it restricts which aircraft may be in the air together.  Where it fails the code DOES attach a
    wrong position — `finding_reference_update_wrong_position` below.  So with a callback this theorem proves
    clause 1 only for traffic confined to one airport's neighbourhood; the clause as the property states it is
    proved for `upd = none` (`sound_fixed_reference`). -/
theorem sound (dist : Pos → Pos → Rat) (upd : Option (Report → Bool)) (reference : Option Pos)
    (H : History) (henc : EncodesAll H) (hkin : Kin upd reference H)
    (k : ℕ) (x : Report × Truth) (p : Pos) (hx : H[k]? = some x)
    (h : (decodePositions Gates.source dist upd reference (H.map Prod.fst))[k]? = some (some p)) :
    Recovered x.1 x.2 p :=
  sound_log dist upd reference H henc hkin (x, some p)
    (logOf_getElem? Gates.source dist upd (Cache.empty, reference) H k x (some p) hx h) p rfl

/-- **`sound` for a prefix of the deliveries.**  `Kin` is a conjunction over all pairs of the history, so ONE
    report delivered outside the admitted disorder (later than the stamp slack allows, see notes/C06.md) makes
    `Kin H` false and `sound H` silent.  The outputs of the reports delivered BEFORE it — in the run over the
    WHOLE history — are still covered (later deliveries do not change earlier outputs, `run_take`). -/
theorem sound_prefix (dist : Pos → Pos → Rat) (upd : Option (Report → Bool)) (reference : Option Pos)
    (H : History) (n : ℕ) (henc : EncodesAll (H.take n)) (hkin : Kin upd reference (H.take n))
    (k : ℕ) (hk : k < n) (x : Report × Truth) (p : Pos) (hx : H[k]? = some x)
    (h : (decodePositions Gates.source dist upd reference (H.map Prod.fst))[k]? = some (some p)) :
    Recovered x.1 x.2 p := by
  refine sound dist upd reference (H.take n) henc hkin k x p ?_ ?_
  · rw [List.getElem?_take_of_lt hk]; exact hx
  · unfold decodePositions at h ⊢
    rw [List.map_take, run_take, List.getElem?_take_of_lt hk]
    exact h

theorem cache_positions_sound (dist : Pos → Pos → Rat) (upd : Option (Report → Bool))
    (reference : Option Pos) (H : History) (henc : EncodesAll H) (hkin : Kin upd reference H)
    (A : Address) (e : AircraftState)
    (he : (runState Gates.source dist upd (Cache.empty, reference) (H.map Prod.fst)).1 A = some e)
    (lp : Pos) (hlp : e.pos = some lp) :
    ∃ x ∈ H, x.1.addr = A ∧ x.1.ts = e.timestamp ∧ Recovered x.1 x.2 lp := by
  obtain ⟨y, hy, ha, hts, hout⟩ := ((cache_invariant dist upd reference H).1 A e he).pos lp hlp
  exact ⟨y.1, (List.of_mem_zip hy).1, ha, hts, sound_log dist upd reference H henc hkin y hy lp hout⟩

/-- the point `(lat', lon')` is inside the DEGREE box of the report `y`, measured from `y`'s true position:
    airborne — at most 2.99 ° of latitude (half a zone is ≥ 3 °) and 0.49 longitude zone away; surface — at
    most 0.74 ° of latitude (half a quarter zone is ≥ 0.75 °) and 0.49 quarter longitude zone away; the
    longitude on a suitable turn.  The margins (0.01 °, 0.01 zone) absorb the quantisation of both reports. -/
def NearDeg (lat' lon' : ℚ) (y : Report × Truth) : Prop :=
  match y.1.kind with
  | .airborne => |lat' - y.2.lat| ≤ 299 / 100 ∧
      ∃ k : ℤ, |lon' + 360 * k - y.2.lon| ≤ 49 / 100 * dlon y.2.i (rlat 17 y.2.i y.2.lat)
  | .surface => |lat' - y.2.lat| ≤ 74 / 100 ∧
      ∃ k : ℤ, |lon' + 360 * k - y.2.lon| ≤ 49 / 100 * (dlon y.2.i (rlat 19 y.2.i y.2.lat) / 4)
  | .other => True

/-- `KinRel` between TRUE positions (no lattice point occurs) -/
def KinRelDeg (upd : Option (Report → Bool)) (x y : Report × Truth) : Prop :=
  (x.1.addr = y.1.addr →
    (x.1.kind = .airborne → y.1.kind = .airborne → x.2.i ≠ y.2.i →
      0 ≤ y.1.ts - x.1.ts → y.1.ts - x.1.ts < 10 → PairOf x y) ∧
    (x.1.kind ≠ .other → y.1.ts - x.1.ts < 180 → NearDeg x.2.lat x.2.lon y)) ∧
  (∀ f, upd = some f → f x.1 = true → x.1.kind = .airborne → y.1.kind = .surface →
    NearDeg x.2.lat x.2.lon y)

/-- **`Kin` in degrees**: what a kinematic argument (or the simulation) has to deliver — bounds between
    true positions of reports of one aircraft whose recorded time stamps differ by less than 10 s / 180 s,
    and between the receiver and every surface report. -/
def KinDeg (upd : Option (Report → Bool)) (reference : Option Pos) (H : History) : Prop :=
  H.Pairwise (KinRelDeg upd) ∧
  ∀ y ∈ H, y.1.kind = .surface → ∀ rf, reference = some rf → NearDeg rf.lat rf.lon y

theorem near_of_deg (lat' lon' : ℚ) (y : Report × Truth) (hy : y.2.i ≤ 1) (q : Pos)
    (hq1 : |q.lat - lat'| ≤ 1 / 40000) (hq2 : |q.lon - lon'| ≤ 1 / 700) (h : NearDeg lat' lon' y) :
    NearOf y q := by
  unfold NearDeg at h
  unfold NearOf
  cases hk : y.1.kind <;> simp only [hk] at h ⊢
  · obtain ⟨h1, k, h2⟩ := h
    exact nearBox_of_deg 0 y.2.i hy 1 (299 / 100) y.2.lat y.2.lon q lat' lon' k (c := 49 / 100)
      (fun d h6 _ => by linarith only [h6]) (fun d h => by linarith only [h]) hq1 hq2 h1 (by rwa [div_one])
  · obtain ⟨h1, k, h2⟩ := h
    exact nearBox_of_deg 2 y.2.i hy 4 (74 / 100) y.2.lat y.2.lon q lat' lon' k
      (fun d h6 _ => by linarith only [h6]) (fun d h => by linarith only [h]) hq1 hq2 h1 h2

theorem latticeOf_close (x : Report × Truth) (hx : x.2.i ≤ 1) :
    |(latticeOf x).lat - x.2.lat| ≤ 1 / 40000 ∧ |(latticeOf x).lon - x.2.lon| ≤ 1 / 700 := by
  unfold latticeOf
  split
  · exact lattice_close 2 x.2.i hx x.2.lat x.2.lon
  · exact lattice_close 0 x.2.i hx x.2.lat x.2.lon

theorem kin_of_deg (upd : Option (Report → Bool)) (reference : Option Pos) (H : History)
    (henc : EncodesAll H) (h : KinDeg upd reference H) : Kin upd reference H := by
  refine ⟨h.1.imp_of_mem ?_, ?_⟩
  · intro x y hx hy hxy
    have hxi := (henc x hx).1
    have hyi := (henc y hy).1
    have hc := latticeOf_close x hxi
    refine ⟨fun ha => ⟨(hxy.1 ha).1, fun hk hts => ?_⟩, fun f hupd hf hkx hky => ?_⟩
    · exact near_of_deg _ _ y hyi _ hc.1 hc.2 ((hxy.1 ha).2 hk hts)
    · exact near_of_deg _ _ y hyi _ hc.1 hc.2 (hxy.2 f hupd hf hkx hky)
  · intro y hy hk rf hrf
    exact near_of_deg rf.lat rf.lon y (henc y hy).1 rf (by simp) (by simp) (h.2 y hy hk rf hrf)

theorem sound_deg (dist : Pos → Pos → Rat) (upd : Option (Report → Bool)) (reference : Option Pos)
    (H : History) (henc : EncodesAll H) (hkin : KinDeg upd reference H)
    (k : ℕ) (x : Report × Truth) (p : Pos) (hx : H[k]? = some x)
    (h : (decodePositions Gates.source dist upd reference (H.map Prod.fst))[k]? = some (some p)) :
    Recovered x.1 x.2 p :=
  sound dist upd reference H henc (kin_of_deg upd reference H henc hkin) k x p hx h

open Rs1090.Proofs.Metres Rs1090.Proofs.Geo in
/-- **A lattice point of a report is within 25 m of the report's true position**, on the sphere of radius
    6 399 594 m (`R_MAX`, the largest radius of curvature of WGS-84; `gcDist` = great-circle distance,
    `rad` = degrees → radians): at most 9.629 m for a BDS 0,5 report (17 bits), at most 2.408 m for a BDS 0,6
    report (19 bits).  The turn `360·n` of the longitude in `Recovered` does not matter: the distance depends
    on the longitude difference through `sin²(Δλ/2)` only (`Proofs.Metres.air_dist` / `surf_dist`, the metric
    lemmas of C04/C05, take the recovered longitude on any turn). -/
theorem recovered_within_25m (r : Report) (t : Truth) (henc : Encodes r t) (p : Pos) (h : Recovered r t p) :
    gcDist 6399594 (rad t.lat) (rad t.lon) (rad p.lat) (rad p.lon) ≤ 9629 / 1000 ∧
    (r.kind = .surface →
      gcDist 6399594 (rad t.lat) (rad t.lon) (rad p.lat) (rad p.lon) ≤ 2408 / 1000) ∧
    gcDist 6399594 (rad t.lat) (rad t.lon) (rad p.lat) (rad p.lon) < 25 := by
  obtain ⟨hi, hlat, _⟩ := henc
  unfold Recovered at h
  cases hk : r.kind <;> simp only [hk] at h
  · have := lattice_air_metres t.i hi t.lat t.lon hlat p h
    exact ⟨this, (fun h' => by cases h'), lt_of_le_of_lt this (by norm_num)⟩
  · have := lattice_surf_metres t.i hi t.lat t.lon hlat p h
    exact ⟨le_trans this (by norm_num), fun _ => this, lt_of_le_of_lt this (by norm_num)⟩

open Rs1090.Proofs.Metres Rs1090.Proofs.Geo in
/-- **The property's clause, in metres** — "every latitude/longitude attached to a report is within 25 m of
    where that aircraft was when the report was encoded", under the hypotheses of `sound`: great-circle distance
    from the true position `x.2` of THAT report, on the sphere of radius 6 399 594 m.  Not a theorem: the geodesic
    distance on the WGS-84 ellipsoid (bounded by the great-circle distance on the sphere of the largest radius
    of curvature; checked by the harness oracle only), and "≤ 700 kt and the windows ⇒ `KinDeg`". -/
theorem sound_within_25m (dist : Pos → Pos → Rat) (upd : Option (Report → Bool)) (reference : Option Pos)
    (H : History) (henc : EncodesAll H) (hkin : Kin upd reference H)
    (k : ℕ) (x : Report × Truth) (p : Pos) (hx : H[k]? = some x)
    (h : (decodePositions Gates.source dist upd reference (H.map Prod.fst))[k]? = some (some p)) :
    gcDist 6399594 (rad x.2.lat) (rad x.2.lon) (rad p.lat) (rad p.lon) ≤ 9629 / 1000 ∧
    (x.1.kind = .surface →
      gcDist 6399594 (rad x.2.lat) (rad x.2.lon) (rad p.lat) (rad p.lon) ≤ 2408 / 1000) ∧
    gcDist 6399594 (rad x.2.lat) (rad x.2.lon) (rad p.lat) (rad p.lon) < 25 :=
  recovered_within_25m x.1 x.2 (henc x (List.mem_of_getElem? hx)) p
    (sound dist upd reference H henc hkin k x p hx h)

open Rs1090.Proofs.Metres Rs1090.Proofs.Geo in
/-- **Clause 1 with a fixed receiver reference** (`update_reference = None`: Python binding, `examples/flight.rs`,
    jet1090 by default) — the `upd = none` instance of `sound` / `sound_within_25m`, with its hypothesis spelled
    out: `KinOwn` for every pair (earlier delivered, later delivered) — a condition on the reports of ONE
    aircraft at a time (pair box within 10 s, near box within 180 s) — and the fixed reference inside the
    near box of every surface report.  NO hypothesis relates two different aircraft: under a fixed reference
    the traffic mix is irrelevant (as `noninterference` says of the outputs). -/
theorem sound_fixed_reference (dist : Pos → Pos → Rat) (reference : Option Pos)
    (H : History) (henc : EncodesAll H) (hown : H.Pairwise KinOwn)
    (href : ∀ y ∈ H, y.1.kind = .surface → ∀ rf, reference = some rf → NearOf y rf)
    (k : ℕ) (x : Report × Truth) (p : Pos) (hx : H[k]? = some x)
    (h : (decodePositions Gates.source dist none reference (H.map Prod.fst))[k]? = some (some p)) :
    Recovered x.1 x.2 p ∧
    gcDist 6399594 (rad x.2.lat) (rad x.2.lon) (rad p.lat) (rad p.lon) < 25 := by
  have hkin : Kin none reference H := ⟨hown.imp (fun h => (kinRel_none _ _).2 h), href⟩
  exact ⟨sound dist none reference H henc hkin k x p hx h,
    (sound_within_25m dist none reference H henc hkin k x p hx h).2.2⟩

open Rs1090.Proofs.Metres Rs1090.Proofs.Geo in
/-- what is left to the simulation is exactly "≤ 700 kt and the windows ⇒ `KinDeg`" -/
theorem sound_deg_within_25m (dist : Pos → Pos → Rat) (upd : Option (Report → Bool)) (reference : Option Pos)
    (H : History) (henc : EncodesAll H) (hkin : KinDeg upd reference H)
    (k : ℕ) (x : Report × Truth) (p : Pos) (hx : H[k]? = some x)
    (h : (decodePositions Gates.source dist upd reference (H.map Prod.fst))[k]? = some (some p)) :
    gcDist 6399594 (rad x.2.lat) (rad x.2.lon) (rad p.lat) (rad p.lon) ≤ 9629 / 1000 ∧
    (x.1.kind = .surface →
      gcDist 6399594 (rad x.2.lat) (rad x.2.lon) (rad p.lat) (rad p.lon) ≤ 2408 / 1000) ∧
    gcDist 6399594 (rad x.2.lat) (rad x.2.lon) (rad p.lat) (rad p.lon) < 25 :=
  sound_within_25m dist upd reference H henc (kin_of_deg upd reference H henc hkin) k x p hx h

/-- all true positions of the history, and the receiver reference if any, lie within 1/50 ° of a point `c`
    in both coordinates (aircraft taxiing, holding or hovering around an airport; 2.2 km × ≥ 0.04 km) -/
def Confined (c : Pos) (reference : Option Pos) (H : History) : Prop :=
  (∀ x ∈ H, |x.2.lat - c.lat| ≤ 1 / 50 ∧ |x.2.lon - c.lon| ≤ 1 / 50) ∧
  ∀ rf, reference = some rf → |rf.lat - c.lat| ≤ 1 / 50 ∧ |rf.lon - c.lon| ≤ 1 / 50

def Within (c : ℚ) (x y : Report × Truth) : Prop :=
  -c ≤ x.2.lat - y.2.lat ∧ x.2.lat - y.2.lat ≤ c ∧ -c ≤ x.2.lon - y.2.lon ∧ x.2.lon - y.2.lon ≤ c

instance (c : ℚ) (x y : Report × Truth) : Decidable (Within c x y) := by unfold Within; infer_instance

/-- what bounded motion asks of two reports of ONE aircraft (true positions only; decidable): at most 0.74 ° apart
    in each coordinate — 82 km of latitude; at ≤ 700 kt that is more than 225 s — and at most 1/25 ° apart
    (4.4 km of latitude, ≥ 12 s at 700 kt) when they are of opposite formats and stamped `0 ≤ Δ < 10 s` apart -/
def MoveOk (x y : Report × Truth) : Prop :=
  x.1.addr = y.1.addr →
    Within (74 / 100) x y ∧
    (x.2.i ≠ y.2.i → 0 ≤ y.1.ts - x.1.ts → y.1.ts - x.1.ts < 10 → Within (1 / 25) x y)

instance (x y : Report × Truth) : Decidable (MoveOk x y) := by unfold MoveOk; infer_instance

/-- the cross-aircraft counterpart needed under a callback: an airborne report and a later surface report of
    ANY aircraft are at most 0.74 ° apart (one airport's neighbourhood) -/
def CrossOk (x y : Report × Truth) : Prop :=
  x.1.kind = .airborne → y.1.kind = .surface → Within (74 / 100) x y

instance (x y : Report × Truth) : Decidable (CrossOk x y) := by unfold CrossOk; infer_instance

/-- 0.74 ° in each coordinate is inside both degree boxes (`Dlon ≥ 360/59`) -/
theorem nearDeg_of_within (lat' lon' : ℚ) (y : Report × Truth)
    (h : -(74 / 100) ≤ lat' - y.2.lat ∧ lat' - y.2.lat ≤ 74 / 100 ∧
      -(74 / 100) ≤ lon' - y.2.lon ∧ lon' - y.2.lon ≤ 74 / 100) : NearDeg lat' lon' y := by
  obtain ⟨h1, h2, h3, h4⟩ := h
  have hl : |lat' - y.2.lat| ≤ 74 / 100 := abs_le.2 ⟨h1, h2⟩
  have hn : |lon' - y.2.lon| ≤ 74 / 100 := abs_le.2 ⟨h3, h4⟩
  unfold NearDeg
  cases y.1.kind <;> simp only
  · have := dlon_ge y.2.i (rlat 17 y.2.i y.2.lat)
    exact ⟨hl.trans (by norm_num), 0,
      by rw [Int.cast_zero, mul_zero, add_zero]; exact hn.trans (by linarith only [this])⟩
  · have := dlon_ge y.2.i (rlat 19 y.2.i y.2.lat)
    exact ⟨hl, 0, by rw [Int.cast_zero, mul_zero, add_zero]; exact hn.trans (by linarith only [this])⟩

/-- 1/25 ° in each coordinate is inside the pair box in every band (`59·58/25 ≤ 144`) -/
theorem pairOf_of_within (x y : Report × Truth) (h : Within (1 / 25) x y) : PairOf x y := by
  obtain ⟨h1, h2, h3, h4⟩ := h
  have hl : |x.2.lat - y.2.lat| ≤ 1 / 25 := abs_le.2 ⟨h1, h2⟩
  have hn : |x.2.lon - y.2.lon| ≤ 1 / 25 := abs_le.2 ⟨h3, h4⟩
  refine ⟨le_trans hl (by norm_num), fun _ => ⟨0, ?_⟩⟩
  simp only [Int.cast_zero, mul_zero, add_zero]
  have h1 : (1 : ℚ) ≤ (NL (rlat 17 y.2.i y.2.lat) : ℚ) := by exact_mod_cast (NL_range _).1
  have h2 : (NL (rlat 17 y.2.i y.2.lat) : ℚ) ≤ 59 := by exact_mod_cast (NL_range _).2
  generalize (NL (rlat 17 y.2.i y.2.lat) : ℚ) = N at h1 h2 ⊢
  have hN : N * (N - 1) ≤ 59 * 58 := mul_le_mul h2 (by linarith only [h2]) (sub_nonneg.2 h1) (by norm_num)
  calc N * (N - 1) * |x.2.lon - y.2.lon| ≤ 59 * 58 * (1 / 25) := mul_le_mul hN hn (abs_nonneg _) (by norm_num)
    _ ≤ 144 := by norm_num

/-- **`KinDeg` (hence `Kin`) for MOVING aircraft**, from hypotheses that are decidable on a concrete history
    (`moving_flight_kin`). -/
theorem kinDeg_of_bounded_motion (upd : Option (Report → Bool)) (reference : Option Pos) (H : History)
    (hown : H.Pairwise MoveOk) (hcross : upd ≠ none → H.Pairwise CrossOk)
    (href : ∀ y ∈ H, y.1.kind = .surface → ∀ rf, reference = some rf →
      -(74 / 100) ≤ rf.lat - y.2.lat ∧ rf.lat - y.2.lat ≤ 74 / 100 ∧
      -(74 / 100) ≤ rf.lon - y.2.lon ∧ rf.lon - y.2.lon ≤ 74 / 100) :
    KinDeg upd reference H := by
  refine ⟨?_, fun y hy hk rf hrf => nearDeg_of_within _ _ y (href y hy hk rf hrf)⟩
  cases upd with
  | none =>
    refine hown.imp (fun {x y} h => ⟨fun ha => ?_, fun f hf => by cases hf⟩)
    exact ⟨fun _ _ hi h0 h10 => pairOf_of_within x y ((h ha).2 hi h0 h10),
      fun _ _ => nearDeg_of_within _ _ y (h ha).1⟩
  | some f =>
    have hc := hcross (by simp)
    refine (hown.and hc).imp (fun {x y} h => ⟨fun ha => ?_, fun _ _ _ hx hy => nearDeg_of_within _ _ y (h.2 hx hy)⟩)
    exact ⟨fun _ _ hi h0 h10 => pairOf_of_within x y ((h.1 ha).2 hi h0 h10),
      fun _ _ => nearDeg_of_within _ _ y (h.1 ha).1⟩

/-- **`KinDeg` (hence `Kin`) is satisfiable, for every callback and ALL recorded time stamps**: any history
    confined to 1/50 ° around a point satisfies it (pairs are then ≤ 1/25 ° apart: inside the pair box
    12/295 °, `59·58/25 ≤ 144`, and inside both near boxes). -/
theorem kinDeg_of_confined (upd : Option (Report → Bool)) (c : Pos) (reference : Option Pos) (H : History)
    (h : Confined c reference H) : KinDeg upd reference H := by
  have tri : ∀ a b m : ℚ, |a - m| ≤ 1 / 50 → |b - m| ≤ 1 / 50 → -(1 / 25) ≤ a - b ∧ a - b ≤ 1 / 25 := by
    intro a b m h1 h2
    rw [abs_le] at h1 h2
    constructor <;> linarith only [h1.1, h1.2, h2.1, h2.2]
  have wide : ∀ {a : ℚ}, -(1 / 25) ≤ a ∧ a ≤ 1 / 25 → -(74 / 100) ≤ a ∧ a ≤ 74 / 100 :=
    fun h => ⟨le_trans (by norm_num) h.1, h.2.trans (by norm_num)⟩
  have hw : ∀ x ∈ H, ∀ y ∈ H, Within (1 / 25) x y ∧ Within (74 / 100) x y := by
    intro x hx y hy
    have hl := tri _ _ _ (h.1 x hx).1 (h.1 y hy).1
    have hn := tri _ _ _ (h.1 x hx).2 (h.1 y hy).2
    exact ⟨⟨hl.1, hl.2, hn.1, hn.2⟩, (wide hl).1, (wide hl).2, (wide hn).1, (wide hn).2⟩
  refine kinDeg_of_bounded_motion upd reference H
    (List.pairwise_of_forall_mem_list fun x hx y hy _ => ⟨(hw x hx y hy).2, fun _ _ _ => (hw x hx y hy).1⟩)
    (fun _ => List.pairwise_of_forall_mem_list fun x hx y hy _ _ => (hw x hx y hy).2) ?_
  intro y hy _ rf hrf
  have hl := wide (tri _ _ _ (h.2 rf hrf).1 (h.1 y hy).1)
  have hn := wide (tri _ _ _ (h.2 rf hrf).2 (h.1 y hy).2)
  exact ⟨hl.1, hl.2, hn.1, hn.2⟩

instance (r : Report) (t : Truth) : Decidable (Encodes r t) := by
  unfold Encodes
  cases r.kind <;> infer_instance

instance (H : History) : Decidable (EncodesAll H) := by unfold EncodesAll; infer_instance

/-- a taxicab over-estimate of the great-circle distance (km) for points at latitudes ≥ 69°:
    111 km per degree of latitude, 40 km per degree of longitude; symmetric, zero on the diagonal -/
def distHigh (p q : Pos) : Rat :=
  111 * Spec.Cpr.absR (p.lat - q.lat) + 40 * Spec.Cpr.absR (p.lon - q.lon)

theorem distHigh_symm_zero (p q : Pos) : distHigh p q = distHigh q p ∧ distHigh p p = 0 := by
  unfold distHigh
  simp only [absR_eq_abs]
  exact ⟨by rw [abs_sub_comm p.lat, abs_sub_comm p.lon], by simp⟩

/-- the history of `corpus/C06/surface_stale.txt`: two airborne fixes near (70.987, −94.99), silence for 516 s
    while the aircraft flies 5° of longitude east (182 km, 685 kt) and lands, then surface reports from
    (70.989, −90.000) -/
def staleHistory : List Report := [
  { ts := 755581 / 1024, addr := 1, kind := .airborne, msg := ⟨.even, 108936, 129269⟩ },
  { ts := 756010 / 1024, addr := 1, kind := .airborne, msg := ⟨.odd, 83092, 32811⟩ },
  { ts := 756543 / 1024, addr := 1, kind := .airborne, msg := ⟨.odd, 83093, 32844⟩ },
  { ts := 1285375 / 1024, addr := 1, kind := .surface, msg := ⟨.odd, 70422, 0⟩ },
  { ts := 1285979 / 1024, addr := 1, kind := .surface, msg := ⟨.odd, 70424, 131070⟩ }]

/-- **The defect (repaired by `fix:` 28d1856).**  The fourth report is the odd surface report of the point
    (70.98907°, −90.0000001°), whose lattice longitude is exactly −90°.  The code as found
    (`Gates.unrepaired`: last position used whatever its age) attaches longitude −95° to it — one odd
    surface zone (90/18 = 5°, 182 km) off, next to the 516 s old airborne fix, where the 1 km continuity test
    confirms the alias.  The repaired code (`Gates.source`) attaches nothing (no receiver reference here), and
    the true lattice point when a receiver reference is available. -/
theorem surface_stale_witness :
    report 19 1 (304895717775 / 4294967296) (-386547056947 / 4294967296) = ⟨.odd, 70422, 0⟩ ∧
    rlon 19 1 (rlat 19 1 (304895717775 / 4294967296)) (-386547056947 / 4294967296) = -90 ∧
    (decodePositions Gates.unrepaired distHigh none none staleHistory)[3]?
      = some (some ⟨137244015 / 1933312, -95⟩) ∧
    (decodePositions Gates.source distHigh none none staleHistory)[3]? = some none ∧
    (decodePositions Gates.source distHigh none (some ⟨71, -90⟩) staleHistory)[3]?
      = some (some ⟨137244015 / 1933312, -90⟩) := by
  refine ⟨by decide +kernel, by decide +kernel, by decide +kernel, by decide +kernel, by decide +kernel⟩

/-- **Outside `Kin` a wrong position IS attached** (why the hypothesis on recorded time stamps is needed, and
    what "locally swapped time stamps" must mean).  An aircraft sends an even report at 0 s and an odd one at
    0.5 s from (70.98671°, −94.99744°), is not heard for 500 s while it flies 5° of longitude east (181 km;
    704 kt here — any lower speed will do with a longer silence), and sends an odd report at 500.5 s.  The receiver
    EXCHANGES the time stamps of the two neighbouring odd reports (500 s apart).  Every report carries the
    encoding of its true position, but the third one — encoded at (70.98671°, −89.99744°), stamped 0.5 s — is
    paired with the even report stamped 0 s: recorded difference 0.5 s < 10 s, true positions 5° apart, pair box
    violated, `Kin` false.  The decoder attaches longitude 170.0026° to it: 260° (3228 km) off, and there is
    no last position for the 50 km gate to compare with.  The real code does the same
    (`corpus/C06/disorder_outside_kin.txt`, replayed on every run; with the truths given the harness oracle
    reports `far`, 3 228 386 m).  The harness only exchanges stamps / swaps deliveries of neighbours less
    than 1.5 s apart, which keeps `Kin` at 700 kt. -/
def disorderHistory : History := [
  ({ ts := 0, addr := 1, kind := .airborne, msg := ⟨.even, 108936, 129269⟩ },
    ⟨0, 304885543845 / 4294967296, -408010903220 / 4294967296⟩),
  ({ ts := 512512 / 1024, addr := 1, kind := .airborne, msg := ⟨.odd, 83091, 32785⟩ },
    ⟨1, 304885586795 / 4294967296, -408010817321 / 4294967296⟩),
  ({ ts := 512 / 1024, addr := 1, kind := .airborne, msg := ⟨.odd, 83091, 65553⟩ },
    ⟨1, 304885586795 / 4294967296, -386536066740 / 4294967296⟩)]

theorem disorder_outside_kin :
    EncodesAll disorderHistory ∧ ¬ Kin none none disorderHistory ∧
    (decodePositions Gates.source distHigh none none (disorderHistory.map Prod.fst))[2]?
      = some (some ⟨68619735 / 966656, 5570645 / 32768⟩) ∧
    latticeOf (({ ts := 512 / 1024, addr := 1, kind := .airborne, msg := ⟨.odd, 83091, 65553⟩ } : Report),
      (⟨1, 304885586795 / 4294967296, -386536066740 / 4294967296⟩ : Truth))
      = ⟨68619735 / 966656, -2949035 / 32768⟩ := by
  refine ⟨by decide +kernel, fun hk => ?_, by decide +kernel, by decide +kernel⟩
  -- reports 0 and 2: one aircraft, opposite formats, stamped 0.5 s apart, so `Kin` asks for the pair box
  have h := hk.1
  simp only [disorderHistory, List.pairwise_cons] at h
  have hp := ((h.1 _ (List.mem_cons_of_mem _ List.mem_cons_self)).1 rfl).1 rfl rfl (by decide)
    (by norm_num) (by norm_num)
  have hn : NL (rlat 17 0 (304885543845 / 4294967296)) = 19 := by decide +kernel
  have hn' : NL (rlat 17 1 (304885586795 / 4294967296)) = 19 := by decide +kernel
  obtain ⟨k, hk⟩ := hp.2 (hn.trans hn'.symm)
  -- 19 · 18 · |−5° + 360° k| ≤ 144 for no integer `k`
  rw [hn', ← le_div_iff₀' (by norm_num), abs_le] at hk
  exact no_int_between (a := 0) (by push_cast; linarith [hk.1]) (by push_cast; linarith [hk.2])

/-- **With an `update_reference` callback the receiver reference is shared state: interference is possible**
    (and the position attached is WRONG: `finding_reference_update_wrong_position` below).  Aircraft 1 sends one
    surface report next to the receiver (71°, −90°); alone it is decoded correctly (longitude −90°).  Interleaved after two low-altitude airborne reports of aircraft 2 near
    (70.987°, −94.99°) — which move the reference there — the same report gets longitude −95°. -/
theorem interference_with_update :
    let upd : Option (Report → Bool) := some (·.low)
    let a : Report := { ts := 756100 / 1024, addr := 1, kind := .surface, msg := ⟨.odd, 70422, 0⟩ }
    let h : List Report := [
      { ts := 755581 / 1024, addr := 2, kind := .airborne, msg := ⟨.even, 108936, 129269⟩, low := true },
      { ts := 756010 / 1024, addr := 2, kind := .airborne, msg := ⟨.odd, 83092, 32811⟩, low := true },
      a]
    decodePositions Gates.source distHigh upd (some ⟨71, -90⟩) (own 1 h) = [some ⟨137244015 / 1933312, -90⟩] ∧
    outputsOf 1 h (decodePositions Gates.source distHigh upd (some ⟨71, -90⟩) h)
      = [some ⟨137244015 / 1933312, -95⟩] := by
  refine ⟨by decide +kernel, by decide +kernel⟩

/-- the history of `corpus/C06/reference_update_wrong_position.txt` with the true positions: aircraft 2 sends an
    even and an odd BDS 0,5 report, on which the callers' closure answers true (below 1000 ft), from
    (70.9867°, −94.9974°); aircraft 1, on the ground at (70.98907°, −90.0000001°) next to the receiver (71°, −90°),
    then sends an odd BDS 0,6 report -/
def refUpdateHistory : History := [
  ({ ts := 755581 / 1024, addr := 2, kind := .airborne, msg := ⟨.even, 108936, 129269⟩, low := true },
    ⟨0, 304885543845 / 4294967296, -408010903220 / 4294967296⟩),
  ({ ts := 756010 / 1024, addr := 2, kind := .airborne, msg := ⟨.odd, 83092, 32811⟩, low := true },
    ⟨1, 304885785217 / 4294967296, -407993544603 / 4294967296⟩),
  ({ ts := 756100 / 1024, addr := 1, kind := .surface, msg := ⟨.odd, 70422, 0⟩ },
    ⟨1, 304895717775 / 4294967296, -386547056947 / 4294967296⟩)]
/-- **FINDING `C06-update-reference-moves-surface-reference` (recorded in `known_findings.json`):
    with an `update_reference` callback a WRONG POSITION is attached** (not only a different one, as
    `interference_with_update` says).  On `refUpdateHistory` every report carries the encoding of its true
    position (`EncodesAll`) and the premises of the property hold in the form `sound_fixed_reference` needs
    (`Kin none`: per-aircraft boxes, receiver inside the near box of the surface report).  With
    `update_reference = None` the surface report of aircraft 1 gets its lattice point, longitude −90°.  With the
    callback (decode1090 always; jet1090 `--update-position`) the fix of aircraft 2 replaces the shared
    reference and the same report gets longitude −95°: one odd surface zone (90/18 = 5°; 181 869 m by the
    harness oracle on the real code) from where the aircraft is — not `Recovered`.  `Kin (some f)` is false on
    this history, through its cross-aircraft conjunct only (`kin_some_iff`). -/
theorem finding_reference_update_wrong_position :
    EncodesAll refUpdateHistory ∧
    Kin none (some ⟨71, -90⟩) refUpdateHistory ∧
    ¬ Kin (some (·.low)) (some ⟨71, -90⟩) refUpdateHistory ∧
    latticeOf refUpdateHistory[2] = ⟨137244015 / 1933312, -90⟩ ∧
    (decodePositions Gates.source distHigh none (some ⟨71, -90⟩) (refUpdateHistory.map Prod.fst))[2]?
      = some (some ⟨137244015 / 1933312, -90⟩) ∧
    (decodePositions Gates.source distHigh (some (·.low)) (some ⟨71, -90⟩) (refUpdateHistory.map Prod.fst))[2]?
      = some (some ⟨137244015 / 1933312, -95⟩) ∧
    ¬ Recovered refUpdateHistory[2].1 refUpdateHistory[2].2 ⟨137244015 / 1933312, -95⟩ := by
  have henc : EncodesAll refUpdateHistory := by decide +kernel
  have hrlon := surface_stale_witness.2.1
  refine ⟨henc, ?_, fun hk => ?_, by decide +kernel, by decide +kernel, by decide +kernel, fun hr => ?_⟩
  · refine kin_of_deg none _ _ henc
      (kinDeg_of_bounded_motion none _ _ (by decide +kernel) (fun h => (h rfl).elim) ?_)
    intro y hy hk rf hrf
    cases hrf
    revert y
    decide +kernel
  · -- the low fix of aircraft 2 (report 1) would have to be inside the near box of the surface report 2
    have h := hk.1
    simp only [refUpdateHistory, List.pairwise_cons] at h
    have h12 := (h.2.1 _ List.mem_cons_self).2 (·.low) rfl rfl rfl rfl
    have hl : latticeOf refUpdateHistory[1] = ⟨17154945 / 241664, -3112745 / 32768⟩ := by decide +kernel
    simp only [refUpdateHistory, List.getElem_cons_succ, List.getElem_cons_zero] at hl
    have hd : dlon 1 (rlat 19 1 (304895717775 / 4294967296)) = 20 := by decide +kernel
    unfold NearOf at h12
    simp only [hl] at h12
    obtain ⟨k, hk⟩ := h12.2
    rw [hrlon, hd, abs_lt] at hk
    exact no_int_between (a := -1) (by push_cast; linarith [hk.1]) (by push_cast; linarith [hk.2])
  · simp only [refUpdateHistory, List.getElem_cons_succ, List.getElem_cons_zero, Recovered] at hr
    obtain ⟨k, hk⟩ := hr.2
    rw [hrlon] at hk
    exact no_int_between (a := -1) (by push_cast; linarith) (by push_cast; linarith)

def st1 : State := runState Gates.source distHigh none (Cache.empty, none) (staleHistory.take 1)

/-- its second report, and the simulated true position it was encoded from -/
def rep2 : Report := { ts := 756010 / 1024, addr := 1, kind := .airborne, msg := ⟨.odd, 83092, 32811⟩ }
def truth2 : Truth := ⟨1, 304885785217 / 4294967296, -407993544603 / 4294967296⟩

/-- The hypotheses of `sound_partial` are satisfiable, with a position actually attached: the second report
    of `staleHistory` (odd, 0.42 s after the even one, the aircraft 19 m further) carries the encoding of its
    true position, the stored even report lies in its pair box (NL = 19 at 71°), there is no last position
    yet — and the decoder attaches (70.98679…, −94.99344…), the report's lattice point. -/
example : Encodes rep2 truth2 ∧ SafeStep st1.1 st1.2 rep2 truth2 ∧
    (decodePosition Gates.source distHigh none st1 rep2).2
      = some ⟨17154945 / 241664, -3112745 / 32768⟩ := by
  -- the entry that `rep2` finds holds the even report and no position
  have he : entryOf st1.1 rep2 = { AircraftState.fresh (755581 / 1024) with
      evenMsg := some ⟨.even, 108936, 129269⟩ } := by decide +kernel
  refine ⟨by decide +kernel, ⟨fun o ho _ => ?_, fun lp hlp => ?_⟩, by decide +kernel⟩
  · rw [he] at ho
    cases ho
    -- the position the stored even report was encoded from: the clauses of the pair box are then arithmetic
    exact ⟨304885543845 / 4294967296, -408010903220 / 4294967296, by decide +kernel⟩
  · rw [he] at hlp
    cases hlp

/-- `noninterference` on a history where it says something: two aircraft interleaved, both get positions -/
example :
    let h : List Report := [
      { ts := 755581 / 1024, addr := 1, kind := .airborne, msg := ⟨.even, 108936, 129269⟩ },
      { ts := 755600 / 1024, addr := 2, kind := .airborne, msg := ⟨.even, 39848, 83951⟩ },
      { ts := 756010 / 1024, addr := 1, kind := .airborne, msg := ⟨.odd, 83092, 32811⟩ },
      { ts := 756020 / 1024, addr := 2, kind := .airborne, msg := ⟨.odd, 21567, 81965⟩ }]
    decodePositions Gates.source distHigh none none h
      = [none, none, some ⟨17154945 / 241664, -3112745 / 32768⟩, some ⟨48156435 / 966656, 3688425 / 606208⟩] ∧
    outputsOf 2 h (decodePositions Gates.source distHigh none none h)
      = [none, some ⟨48156435 / 966656, 3688425 / 606208⟩] := by
  intro h
  have hrun : decodePositions Gates.source distHigh none none h
      = [none, none, some ⟨17154945 / 241664, -3112745 / 32768⟩, some ⟨48156435 / 966656, 3688425 / 606208⟩] := by
    decide +kernel
  exact ⟨hrun, by rw [hrun]; rfl⟩

/-- every window at its boundary (the strict `<` of the source): an odd report exactly 10 s after the even one
    is not paired, 10 s − 1/1024 s is; a report older than the stored other parity is skipped -/
example :
    let e : Report := { ts := 0, addr := 1, kind := .airborne, msg := ⟨.even, 39848, 83951⟩ }
    let o (t : Rat) : Report := { ts := t, addr := 1, kind := .airborne, msg := ⟨.odd, 21567, 81965⟩ }
    decodePositions Gates.source distHigh none none [e, o 10] = [none, none] ∧
    decodePositions Gates.source distHigh none none [e, o (10 - 1 / 1024)]
      = [none, some ⟨48156435 / 966656, 3688425 / 606208⟩] ∧
    decodePositions Gates.source distHigh none none [o 5, e] = [none, none] := by
  refine ⟨by decide +kernel, by decide +kernel, by decide +kernel⟩

/-- a history on which EVERY branch attaches a position: an aircraft near (70.987°, −94.998°), receiver at
    (71°, −95°).  Report 0 even airborne; 1 odd airborne 0.42 s later (PAIR branch); 2 odd airborne at 12 s —
    the even report is then 12 s old (REFERENCE branch, last position 11.6 s old); 3 odd surface at 100 s
    (SURFACE, LAST POSITION, 88 s old); 4 even surface at 400 s — the last position is then 300 s old
    (SURFACE, RECEIVER REFERENCE).  `corpus/C06/kin_example.txt`: the real code attaches the same positions. -/
def branchHistory : History := [
  ({ ts := 0, addr := 1, kind := .airborne, msg := ⟨.even, 108936, 129269⟩ },
    ⟨0, 304885543845 / 4294967296, -408010903220 / 4294967296⟩),
  ({ ts := 430 / 1024, addr := 1, kind := .airborne, msg := ⟨.odd, 83091, 32785⟩ },
    ⟨1, 304885586795 / 4294967296, -408010817321 / 4294967296⟩),
  ({ ts := 12, addr := 1, kind := .airborne, msg := ⟨.odd, 83097, 32788⟩ },
    ⟨1, 304886832335 / 4294967296, -408008755736 / 4294967296⟩),
  ({ ts := 100, addr := 1, kind := .surface, msg := ⟨.odd, 70253, 83⟩ },
    ⟨1, 304887261832 / 4294967296, -408008326240 / 4294967296⟩),
  ({ ts := 400, addr := 1, kind := .surface, msg := ⟨.even, 42563, 123880⟩ },
    ⟨0, 304887261832 / 4294967296, -408007896743 / 4294967296⟩)]

def branchEntry (k : ℕ) (r : Report) : AircraftState :=
  entryOf (runState Gates.source distHigh none (Cache.empty, some ⟨71, -95⟩)
    ((branchHistory.take k).map Prod.fst)).1 r

/-- `branchHistory` satisfies the hypotheses of `sound_deg` for every callback (it stays within 1/50 ° of its
    first point), and this is what the decoder attaches to it -/
theorem branchHistory_kin :
    EncodesAll branchHistory ∧ (∀ upd, KinDeg upd (some ⟨71, -95⟩) branchHistory) ∧
    decodePositions Gates.source distHigh none (some ⟨71, -95⟩) (branchHistory.map Prod.fst)
      = [none, some ⟨68619735 / 966656, -3112875 / 32768⟩, some ⟨68620005 / 966656, -778215 / 8192⟩,
         some ⟨274480425 / 3866624, -12451425 / 131072⟩, some ⟨18608841 / 262144, -14786055 / 155648⟩] := by
  refine ⟨by decide +kernel, fun upd => kinDeg_of_confined upd
    ⟨304885543845 / 4294967296, -408010903220 / 4294967296⟩ _ _ ⟨by decide +kernel, fun rf h => ?_⟩,
    by decide +kernel⟩
  cases h
  decide +kernel

/-- **All hypotheses of `sound` hold together and every branch attaches a position**: the decoder attaches a
    position to reports 1–4 of `branchHistory`, each through a different branch: pair; reference (the pair
    branch gives nothing); surface against the last position; surface against the receiver reference (the last
    position gives nothing). -/
example :
    EncodesAll branchHistory ∧
    (∀ upd, KinDeg upd (some ⟨71, -95⟩) branchHistory ∧ Kin upd (some ⟨71, -95⟩) branchHistory) ∧
    decodePositions Gates.source distHigh none (some ⟨71, -95⟩) (branchHistory.map Prod.fst)
      = [none, some ⟨68619735 / 966656, -3112875 / 32768⟩, some ⟨68620005 / 966656, -778215 / 8192⟩,
         some ⟨274480425 / 3866624, -12451425 / 131072⟩, some ⟨18608841 / 262144, -14786055 / 155648⟩] ∧
    (let r : Report := { ts := 430 / 1024, addr := 1, kind := .airborne, msg := ⟨.odd, 83091, 32785⟩ }
     pairDecode (branchEntry 1 r) r.ts r.msg = some ⟨68619735 / 966656, -3112875 / 32768⟩) ∧
    (let r : Report := { ts := 12, addr := 1, kind := .airborne, msg := ⟨.odd, 83097, 32788⟩ }
     pairDecode (branchEntry 2 r) r.ts r.msg = none ∧
     refDecode (branchEntry 2 r) r.ts r.msg = some ⟨68620005 / 966656, -778215 / 8192⟩) ∧
    (let r : Report := { ts := 100, addr := 1, kind := .surface, msg := ⟨.odd, 70253, 83⟩ }
     surfLast distHigh (branchEntry 3 r) r.ts r.msg = some ⟨274480425 / 3866624, -12451425 / 131072⟩) ∧
    (let r : Report := { ts := 400, addr := 1, kind := .surface, msg := ⟨.even, 42563, 123880⟩ }
     surfLast distHigh (branchEntry 4 r) r.ts r.msg = none) := by
  obtain ⟨henc, hkin, hrun⟩ := branchHistory_kin
  exact ⟨henc, fun upd => ⟨hkin upd, kin_of_deg upd _ _ henc (hkin upd)⟩, hrun, by decide +kernel,
    by decide +kernel, by decide +kernel, by decide +kernel⟩

/-- … and `sound` applied to report 2 (reference branch) -/
example : Recovered branchHistory[2].1 branchHistory[2].2 ⟨68620005 / 966656, -778215 / 8192⟩ := by
  obtain ⟨henc, hkin, hrun⟩ := branchHistory_kin
  exact sound_deg distHigh none (some ⟨71, -95⟩) branchHistory henc (hkin none) 2 _ _ rfl (by rw [hrun]; rfl)

open Rs1090.Proofs.Geo in
/-- … and `sound_deg_within_25m` applied to report 2 (airborne, reference branch) and report 3 (surface, last
    position) -/
example :
    gcDist 6399594 (rad (branchHistory[2].2.lat : ℚ)) (rad (branchHistory[2].2.lon : ℚ))
      (rad ((68620005 / 966656 : ℚ) : ℝ)) (rad ((-778215 / 8192 : ℚ) : ℝ)) ≤ 9629 / 1000 ∧
    gcDist 6399594 (rad (branchHistory[3].2.lat : ℚ)) (rad (branchHistory[3].2.lon : ℚ))
      (rad ((274480425 / 3866624 : ℚ) : ℝ)) (rad ((-12451425 / 131072 : ℚ) : ℝ)) ≤ 2408 / 1000 := by
  obtain ⟨henc, hkin, hrun⟩ := branchHistory_kin
  exact ⟨(sound_deg_within_25m distHigh none (some ⟨71, -95⟩) branchHistory henc (hkin none)
      2 _ ⟨68620005 / 966656, -778215 / 8192⟩ rfl (by rw [hrun]; rfl)).1,
    (sound_deg_within_25m distHigh none (some ⟨71, -95⟩) branchHistory henc (hkin none)
      3 _ ⟨274480425 / 3866624, -12451425 / 131072⟩ rfl (by rw [hrun]; rfl)).2.1 rfl⟩

/-- a taxicab over-estimate of the great-circle distance (km) for points at latitudes ≥ 48°: 111 km per degree of
    latitude, 75 km per degree of longitude (the theorems hold for every `dist`; this one only has to let the
    50 km gate and the 1 km continuity test behave as `dist_haversine` does on `movingHistory`) -/
def dist48 (p q : Pos) : Rat :=
  111 * Spec.Cpr.absR (p.lat - q.lat) + 75 * Spec.Cpr.absR (p.lon - q.lon)

/-- `corpus/C06/kin_moving.txt`: aircraft 1 flies north-east from (47.949°, 11.000°) at 566 kt — 3/256 ° of
    latitude (1.30 km) and 1/64 ° of longitude (1.16 km at 48°) every 6 s, crossing the zone edge at 48° — and
    sends ten BDS 0,5 reports of alternating format at 0, 6, …, 54 s (every consecutive pair is inside the 10 s
    window, every pair inside the 180 s window), all below the callback's altitude; total displacement 27/256 °
    = 0.105° > 1/25°, 15.7 km.  Aircraft 2 taxies at (48.0508°, 11.1016°) and sends two BDS 0,6 reports at 20 s
    and 41 s, interleaved.  Receiver at (48.1016°, 11.1992°).  Time stamps = encoding times. -/
def movingHistory : History := [
  ({ ts := 0, addr := 1, kind := .airborne, msg := ⟨.even, 129963, 29127⟩, low := true }, ⟨0, 12275 / 256, 704 / 64⟩),
  ({ ts := 6, addr := 1, kind := .airborne, msg := ⟨.odd, 112757, 25344⟩, low := true }, ⟨1, 12278 / 256, 705 / 64⟩),
  ({ ts := 12, addr := 1, kind := .airborne, msg := ⟨.even, 130475, 29582⟩, low := true }, ⟨0, 12281 / 256, 706 / 64⟩),
  ({ ts := 18, addr := 1, kind := .airborne, msg := ⟨.odd, 113260, 25788⟩, low := true }, ⟨1, 12284 / 256, 707 / 64⟩),
  ({ ts := 20, addr := 2, kind := .surface, msg := ⟨.even, 4437, 122425⟩ }, ⟨0, 12301 / 256, 2842 / 256⟩),
  ({ ts := 24, addr := 1, kind := .airborne, msg := ⟨.even, 130987, 30037⟩, low := true }, ⟨0, 12287 / 256, 708 / 64⟩),
  ({ ts := 30, addr := 1, kind := .airborne, msg := ⟨.odd, 113764, 26231⟩, low := true }, ⟨1, 12290 / 256, 709 / 64⟩),
  ({ ts := 36, addr := 1, kind := .airborne, msg := ⟨.even, 427, 30492⟩, low := true }, ⟨0, 12293 / 256, 710 / 64⟩),
  ({ ts := 41, addr := 2, kind := .surface, msg := ⟨.odd, 65551, 106271⟩ }, ⟨1, 196817 / 4096, 45473 / 4096⟩),
  ({ ts := 42, addr := 1, kind := .airborne, msg := ⟨.odd, 114267, 26675⟩, low := true }, ⟨1, 12296 / 256, 711 / 64⟩),
  ({ ts := 48, addr := 1, kind := .airborne, msg := ⟨.even, 939, 30948⟩, low := true }, ⟨0, 12299 / 256, 712 / 64⟩),
  ({ ts := 54, addr := 1, kind := .airborne, msg := ⟨.odd, 114770, 27119⟩, low := true }, ⟨1, 12302 / 256, 713 / 64⟩)]

/-- **`EncodesAll`, `KinDeg` and `Kin` hold on a MOVING flight, for every callback**, with reports inside the
    10 s and the 180 s windows, and the decoder attaches a position to the eleven reports after the first
    (pair branch for aircraft 1, receiver reference — under the callback: the latest low fix of aircraft 1 —
    then last position for aircraft 2).  The hypotheses of `sound` are therefore satisfiable by traffic that
    moves by more than the 1/25 ° box of `kinDeg_of_confined`. -/
theorem moving_flight_kin :
    EncodesAll movingHistory ∧
    (∀ upd, KinDeg upd (some ⟨12314 / 256, 2867 / 256⟩) movingHistory ∧
      Kin upd (some ⟨12314 / 256, 2867 / 256⟩) movingHistory) ∧
    decodePositions Gates.source dist48 (some (·.low)) (some ⟨12314 / 256, 2867 / 256⟩) (movingHistory.map Prod.fst)
      = [none, some ⟨46361745 / 966656, 705 / 64⟩, some ⟨3143937 / 65536, 722943 / 65536⟩,
         some ⟨11596095 / 241664, 588225 / 53248⟩, some ⟨12596223 / 262144, 5820417 / 524288⟩,
         some ⟨3145473 / 65536, 1449981 / 131072⟩, some ⟨11601765 / 241664, 2359545 / 212992⟩,
         some ⟨3147009 / 65536, 363519 / 32768⟩, some ⟨185795235 / 3866624, 9458385 / 851968⟩,
         some ⟨46429695 / 966656, 2366205 / 212992⟩, some ⟨3148545 / 65536, 364545 / 32768⟩,
         some ⟨23226165 / 483328, 2372865 / 212992⟩] ∧
    (1 : ℚ) / 25 < movingHistory[11].2.lat - movingHistory[0].2.lat := by
  have henc : EncodesAll movingHistory := by decide +kernel
  refine ⟨henc, fun upd => ?_, by decide +kernel, by decide +kernel⟩
  have hk : KinDeg upd (some ⟨12314 / 256, 2867 / 256⟩) movingHistory := by
    refine kinDeg_of_bounded_motion upd _ _ (by decide +kernel) (fun _ => by decide +kernel) ?_
    intro y hy hk rf hrf
    cases hrf
    revert y
    decide +kernel
  exact ⟨hk, kin_of_deg upd _ _ henc hk⟩

open Rs1090.Proofs.Metres Rs1090.Proofs.Geo in
/-- … and `sound_within_25m` applied to it, whatever the distance function and the callback; report 9 is
    aircraft 1 at 42 s, report 8 aircraft 2 on the ground at 41 s. -/
theorem moving_flight_within_25m :
    (∀ (dist : Pos → Pos → Rat) (upd : Option (Report → Bool)) (k : ℕ) (x : Report × Truth) (p : Pos),
      movingHistory[k]? = some x →
      (decodePositions Gates.source dist upd (some ⟨12314 / 256, 2867 / 256⟩)
        (movingHistory.map Prod.fst))[k]? = some (some p) →
      gcDist 6399594 (rad x.2.lat) (rad x.2.lon) (rad p.lat) (rad p.lon) < 25) ∧
    gcDist 6399594 (rad (movingHistory[9].2.lat : ℚ)) (rad (movingHistory[9].2.lon : ℚ))
      (rad ((46429695 / 966656 : ℚ) : ℝ)) (rad ((2366205 / 212992 : ℚ) : ℝ)) ≤ 9629 / 1000 ∧
    gcDist 6399594 (rad (movingHistory[8].2.lat : ℚ)) (rad (movingHistory[8].2.lon : ℚ))
      (rad ((185795235 / 3866624 : ℚ) : ℝ)) (rad ((9458385 / 851968 : ℚ) : ℝ)) ≤ 2408 / 1000 := by
  obtain ⟨henc, hkin, hrun, _⟩ := moving_flight_kin
  refine ⟨fun dist upd k x p hx h =>
    (sound_within_25m dist upd _ movingHistory henc (hkin upd).2 k x p hx h).2.2, ?_, ?_⟩
  · exact (sound_within_25m dist48 (some (·.low)) _ movingHistory henc (hkin _).2
      9 _ ⟨46429695 / 966656, 2366205 / 212992⟩ rfl (by rw [hrun]; rfl)).1
  · exact (sound_within_25m dist48 (some (·.low)) _ movingHistory henc (hkin _).2
      8 _ ⟨185795235 / 3866624, 9458385 / 851968⟩ rfl (by rw [hrun]; rfl)).2.1 rfl

/-! ### hidden state (the code side of "is a function of its input") -/

/-- **No hidden state besides the reviewed one** in the files this property is anchored in.  The state of trajectory decoding is EXPLICIT: the per-aircraft cache and the reference are arguments of `decode_position` (modelled as such); cpr.rs itself holds nothing between calls — which is what the non-interference theorem needs of the code.
    The translator lists on every run every construct through which a Rust function can carry state from one
    call to the next without it showing in its signature (`static`, `thread_local!`, `lazy_static!`,
    `OnceCell`/`OnceLock`/`Lazy`, `Cell`/`RefCell`/`UnsafeCell`, `Mutex`/`RwLock`, atomics, `unsafe`; whole
    files, gen/extractors/hidden_state.py); a memo, cache or counter added there breaks this obligation by
    name, whatever inputs the harness happens to generate. -/
theorem hidden_state_reviewed :
    Gen.HiddenState.sitesIn ["decode/cpr.rs"] =
      [] := by decide

end Rs1090.Props.C06
