/-
C17 — Terminal table navigation is total and keeps the selection in range.

"For every sequence of key presses and terminal events applied to a table holding any
number of aircraft, including none, handling the event does not panic and afterwards the
selected row index is 0 when the table is empty and otherwise less than the number of
rows; quit, search-mode and sort-key flags change only on their documented keys."

Model: Rs1090/Model/Tui.lean (`update`, `next/previous/home`, checked `usize` arithmetic).

How "the selected row index" is read.  `TableState::selected()` is an `Option<usize>`: it is
`None` for a `TableState::default()` until the first navigation key, and ratatui's
`Table::render` resets it to `None` whenever an empty table is drawn.  `None` means "no row
is selected"; there is then no index to constrain, so the invariant `Inv` constrains the
index *when there is one* (0 on an empty table, `< n` otherwise).  The stricter reading —
there always is an index and it is in range — is `InvStrict`; it is preserved by the handler
as well (`update_inv_strict`: `update()` never clears the selection) and holds from the
start-up state of `main` (`TableState::default().with_selected(0)`), see `run_from_startup`.

The only side condition is `n < 2^64` (`items.len()` is a `usize`).
-/
import Rs1090.Proofs.Tui
import Rs1090.Gen.Ratatui
import Rs1090.Gen.TuiPump
namespace Rs1090.Props.C17
open Rs1090 Rs1090.Model.Tui Rs1090.Proofs.Tui

def Inv (ui : Ui) : Prop :=
  ui.n < 2 ^ 64 ∧ ∀ i, ui.selected = some i → (ui.n = 0 → i = 0) ∧ (0 < ui.n → i < ui.n)

def InvStrict (ui : Ui) : Prop :=
  ui.n < 2 ^ 64 ∧ ∃ i, ui.selected = some i ∧ (ui.n = 0 → i = 0) ∧ (0 < ui.n → i < ui.n)

theorem InvStrict.inv {ui : Ui} (h : InvStrict ui) : Inv ui := by
  obtain ⟨hn, i, hi, h0, h1⟩ := h
  refine ⟨hn, ?_⟩
  intro j hj
  rw [hi] at hj
  cases hj
  exact ⟨h0, h1⟩

/-- **No panic.**  On a table of any size (`n < 2^64`) and *whatever* the current selection
    — in range, stale, or absent — handling an event does not panic. -/
theorem update_ne_panic (ui : Ui) (ev : Event) (hn : ui.n < 2 ^ 64) (s : Site) :
    update ui ev ≠ .panic s := by
  obtain ⟨ui', h, _⟩ := update_sel ui ev hn
  rw [h]; intro h'; cases h'

/-- … in particular from every state satisfying the invariant. -/
theorem update_ne_panic_inv (ui : Ui) (ev : Event) (h : Inv ui) (s : Site) :
    update ui ev ≠ .panic s := update_ne_panic ui ev h.1 s

/-- Handling an event always yields a state (no `Err` either). -/
theorem update_total (ui : Ui) (ev : Event) (hn : ui.n < 2 ^ 64) :
    ∃ ui', update ui ev = .ok ui' ∧ ui'.n = ui.n := by
  obtain ⟨ui', h, hn', _⟩ := update_sel ui ev hn
  exact ⟨ui', h, hn'⟩

/-- `Inv` is kept: the row count is not touched, and `SelPost` puts a new selection in range (0 on an empty table). -/
theorem update_inv (ui ui' : Ui) (ev : Event) (h : Inv ui) (hu : update ui ev = .ok ui') :
    Inv ui' := by
  obtain ⟨hn, hsel⟩ := h
  obtain ⟨ui'', h, hn', hs⟩ := update_sel ui ev hn
  cases h.symm.trans hu
  refine ⟨hn' ▸ hn, ?_⟩
  intro i hi
  rw [hn']
  rcases hs with hs | ⟨j, hj, h0, h1⟩
  · exact hsel i (hs ▸ hi)
  · rw [hj] at hi; cases hi
    refine ⟨fun hz => h0 hz ?_, fun hp => h1 (fun i hi => (hsel i hi).2 hp) hp⟩
    cases hsl : ui.selected with
    | none => exact .inr rfl
    | some i => exact .inl (by rw [(hsel i hsl).1 hz])

theorem update_inv_strict (ui ui' : Ui) (ev : Event) (h : InvStrict ui)
    (hu : update ui ev = .ok ui') : InvStrict ui' := by
  have hinv := update_inv ui ui' ev h.inv hu
  obtain ⟨hn, i, hi, _⟩ := h
  obtain ⟨ui'', h', _, hs⟩ := update_sel ui ev hn
  cases h'.symm.trans hu
  -- `update()` never clears the selection
  obtain ⟨j, hj⟩ : ∃ j, ui'.selected = some j := hs.elim (fun hs => ⟨i, hs ▸ hi⟩) fun ⟨j, hj, _⟩ => ⟨j, hj⟩
  exact ⟨hinv.1, j, hj, hinv.2 j hj⟩

/-- **Every sequence of events, every table size**: the run never panics, ends in a state,
    and the invariant holds at the end (hence, by prefix-closure, after every event). -/
theorem run_inv (evs : List Event) : ∀ ui, Inv ui →
    ∃ ui', run ui evs = .ok ui' ∧ Inv ui' ∧ ui'.n = ui.n :=
  run_preserves Inv (fun ui ev h =>
    let ⟨u, hu, hn⟩ := update_total ui ev h.1
    ⟨u, hu, update_inv ui u ev h hu, hn⟩) evs

theorem run_inv_strict (evs : List Event) : ∀ ui, InvStrict ui →
    ∃ ui', run ui evs = .ok ui' ∧ InvStrict ui' ∧ ui'.n = ui.n :=
  run_preserves InvStrict (fun ui ev h =>
    let ⟨u, hu, hn⟩ := update_total ui ev h.1
    ⟨u, hu, update_inv_strict ui u ev h hu, hn⟩) evs

theorem run_ne_panic (evs : List Event) (ui : Ui) (h : Inv ui) (s : Site) :
    run ui evs ≠ .panic s := by
  obtain ⟨u, hu, _⟩ := run_inv evs ui h
  rw [hu]; intro h'; cases h'

theorem init_inv (n : Nat) (hn : n < 2 ^ 64) : Inv (init n) :=
  ⟨hn, fun _ h => by cases h⟩

theorem init_inv_strict (n : Nat) (hn : n < 2 ^ 64) : InvStrict (init n (some 0)) :=
  ⟨hn, 0, rfl, fun _ => rfl, fun h => h⟩

/-- From `TableState::default()` (nothing selected yet), any `n`, any events. -/
theorem run_from_default (n : Nat) (hn : n < 2 ^ 64) (evs : List Event) :
    ∃ ui', run (init n) evs = .ok ui' ∧ Inv ui' ∧ ui'.n = n :=
  run_inv evs _ (init_inv n hn)

/-- From the start-up state of `main` (`with_selected(0)`), any `n` including 0, any events:
    the selected index always exists, is 0 on an empty table and `< n` otherwise. -/
theorem run_from_startup (n : Nat) (hn : n < 2 ^ 64) (evs : List Event) :
    ∃ ui' i, run (init n (some 0)) evs = .ok ui' ∧ ui'.selected = some i ∧
      (n = 0 → i = 0) ∧ (0 < n → i < n) := by
  obtain ⟨u, hu, ⟨_, i, hi, h0, h1⟩, hnn⟩ := run_inv_strict evs _ (init_inv_strict n hn)
  have hnn : u.n = n := hnn
  exact ⟨u, i, hu, hi, by rw [← hnn]; exact h0, by rw [← hnn]; exact h1⟩

/-- the six sort keys of the help line: `a` altitude, `c` callsign, `v` vertical rate,
    `.` count, `f` first seen, `l` last seen -/
def sortChars : List Char := ['a', 'c', 'v', '.', 'f', 'l']

/-- **Flags rule.**  Whatever the state, one handled event changes
    * `should_quit` only on `q` / `Esc` outside search mode;
    * `is_search_mode` only on `/` (entering, outside search mode) and `Enter` / `Esc` (leaving);
    * `sort_key` only on `a c v . f l` outside search mode; `sort_asc` only on `-` outside search mode;
    * `search_query` only in search mode (a character, `Backspace`, `Esc`);
    * `width` only on a tick;
    * the selection only on `j k g` (outside search mode) and `↓ ↑ Home PageUp`;
    and never the number of rows. -/
theorem flags_only_on_keys (ui ui' : Ui) (ev : Event) (hu : update ui ev = .ok ui') :
    (ui'.quit ≠ ui.quit → ui.search = false ∧ (ev = .key (.char 'q') ∨ ev = .key .esc)) ∧
    (ui'.search ≠ ui.search →
      (ui.search = false ∧ ev = .key (.char '/')) ∨
      (ui.search = true ∧ (ev = .key .enter ∨ ev = .key .esc))) ∧
    (ui'.sortKey ≠ ui.sortKey → ui.search = false ∧ ∃ c, c ∈ sortChars ∧ ev = .key (.char c)) ∧
    (ui'.asc ≠ ui.asc → ui.search = false ∧ ev = .key (.char '-')) ∧
    (ui'.query ≠ ui.query → ui.search = true ∧
      ((∃ c, ev = .key (.char c)) ∨ ev = .key .backspace ∨ ev = .key .esc)) ∧
    (ui'.width ≠ ui.width → ∃ w, ev = .tick w) ∧
    (ui'.selected ≠ ui.selected →
      (ui.search = false ∧ (ev = .key (.char 'j') ∨ ev = .key (.char 'k') ∨ ev = .key (.char 'g'))) ∨
      ev = .key .down ∨ ev = .key .up ∨ ev = .key .home ∨ ev = .key .pageUp) ∧
    ui'.n = ui.n := by
  cases ev with
  | tick w => cases hu; simp
  | error => cases hu; simp
  | key k =>
    -- which cells the action of the key may write (`applyAct_changes`), and which keys ask for it (`keysOf_keyAct`)
    have hu : applyAct true ui (keyAct ui.search k) = .ok ui' := updateKey_eq true ui k ▸ hu
    have hk := keysOf_keyAct ui.search k
    obtain ⟨hn, hw, hq, hs, hso, ha, hqr, hsel⟩ := applyAct_changes hu
    refine ⟨fun h => ?_, fun h => ?_, fun h => ?_, fun h => ?_, fun h => ?_, fun h => absurd hw h, fun h => ?_, hn⟩
    · rw [hq h] at hk; exact hk
    · rcases hs h with ha | ⟨c, ha⟩ <;> rw [ha] at hk
      · exact .inl hk
      · cases c
        · exact .inr ⟨hk.1, .inl hk.2⟩
        · exact .inr ⟨hk.1, .inr hk.2⟩
    · obtain ⟨s, ha⟩ := hso h
      rw [ha] at hk; exact hk
    · rw [ha h] at hk; exact hk
    · rcases hqr h with ha | ⟨c, ha⟩ | ha <;> rw [ha] at hk
      · exact ⟨hk.1, .inr (.inr hk.2)⟩
      · exact ⟨hk.1, .inl hk.2⟩
      · exact ⟨hk.1, .inr (.inl hk.2)⟩
    · rcases hsel h with ha | ha | ha <;> rw [ha] at hk
      · exact hk.imp (fun h => ⟨h.1, .inl h.2⟩) .inl
      · exact hk.imp (fun h => ⟨h.1, .inr (.inl h.2)⟩) fun h => .inr (.inl h)
      · exact hk.imp (fun h => ⟨h.1, .inr (.inr h.2)⟩) fun h => .inr (.inr h)

/-- In search mode a character key does nothing but append to the query — `q` does not quit,
    `j`/`k` do not move, the sort keys do not sort. -/
theorem search_mode_chars_edit_query (ui : Ui) (c : Char) (hs : ui.search = true) :
    update ui (.key (.char c)) = .ok { ui with query := ui.query ++ [c] } := by
  show updateKey true ui (.char c) = _
  rw [updateKey_eq]
  conv => lhs; rw [hs]
  rfl

/-- The documented keys do act (the rule above is not satisfied by a handler that ignores
    everything): outside search mode `q` and `Esc` quit, `/` enters search mode, each sort key
    selects its column, `-` flips the order; in search mode `Enter` leaves keeping the query and
    `Esc` leaves clearing it; a tick records the width. -/
theorem documented_keys_act (ui : Ui) :
    (ui.search = false →
      update ui (.key (.char 'q')) = .ok { ui with quit := true } ∧
      update ui (.key .esc) = .ok { ui with quit := true } ∧
      update ui (.key (.char '/')) = .ok { ui with search := true } ∧
      update ui (.key (.char 'a')) = .ok { ui with sortKey := .altitude } ∧
      update ui (.key (.char 'c')) = .ok { ui with sortKey := .callsign } ∧
      update ui (.key (.char 'v')) = .ok { ui with sortKey := .vrate } ∧
      update ui (.key (.char '.')) = .ok { ui with sortKey := .count } ∧
      update ui (.key (.char 'f')) = .ok { ui with sortKey := .first } ∧
      update ui (.key (.char 'l')) = .ok { ui with sortKey := .last } ∧
      update ui (.key (.char '-')) = .ok { ui with asc := !ui.asc }) ∧
    (ui.search = true →
      update ui (.key .enter) = .ok { ui with search := false } ∧
      update ui (.key .esc) = .ok { ui with search := false, query := [] } ∧
      update ui (.key .backspace) = .ok { ui with query := ui.query.dropLast }) ∧
    (∀ w, update ui (.tick w) = .ok { ui with width := w }) := by
  have h : ∀ s, ui.search = s → ∀ k, update ui (.key k) = applyAct true ui (keyAct s k) :=
    fun s hs k => hs ▸ updateKey_eq true ui k
  refine ⟨fun hs => ?_, fun hs => ?_, fun _ => rfl⟩ <;> simp only [h _ hs]
  · exact ⟨rfl, rfl, rfl, rfl, rfl, rfl, rfl, rfl, rfl, rfl⟩
  · exact ⟨rfl, rfl, rfl⟩

/-! ### sessions: events interleaved with redraws of a table whose size changes

`update()` is not the only writer of the selection: jet1090 redraws after every handled event
and ratatui's `Table::render` clamps the selection to the rows drawn (and clears it for an
empty table).  With that step (`Model.Tui.draw` / `drawOn`, written from ratatui 0.29.0 —
`ratatui_version_modelled` — and compared with the real `table::build_table` on a `TestBackend`
by the correspondence check) the statement extends from a fixed `n` to tables that grow and
shrink between events. -/

theorem draw_inv (ui : Ui) (rows : Nat) (hr : rows < 2 ^ 64) : Inv (draw ui rows) := by
  refine ⟨hr, ?_⟩
  intro i hi
  simp only [draw] at hi ⊢
  by_cases h0 : rows = 0
  · simp [h0] at hi
  · simp only [h0, if_false] at hi
    cases hs : ui.selected with
    | none => simp [hs] at hi
    | some k =>
      simp only [hs] at hi
      split at hi <;> cases hi <;> constructor <;> intros <;> omega

def Redrawn (steps : List Step) : Prop :=
  ∃ st ∈ steps, (∃ r, st = .redraw r) ∨ (∃ t r, st = .redrawOn t r ∧ t.showsTable = true)

/-- side conditions of a session: row counts are `usize`s, and no terminal has zero columns -/
def StepsOk (steps : List Step) : Prop :=
  (∀ r, Step.redraw r ∈ steps → r < 2 ^ 64) ∧
  (∀ t r, Step.redrawOn t r ∈ steps → r < 2 ^ 64 ∧ 0 < t.w)

def AllShown (steps : List Step) : Prop :=
  ∀ t r, Step.redrawOn t r ∈ steps → t.showsTable = true

theorem drawOn_shown (t : Term) (ui : Ui) (r : Nat) (hw : 0 < t.w) (hs : t.showsTable = true) :
    drawOn t ui r = .ok (draw ui r) := by
  unfold drawOn
  rw [if_neg (by omega), if_pos hs]

theorem drawOn_hidden (t : Term) (ui : Ui) (r : Nat) (hw : 0 < t.w) (hs : t.showsTable = false) :
    drawOn t ui r = .ok { ui with n := r } := by
  unfold drawOn
  rw [if_neg (by omega), if_neg (by simp [hs])]

theorem session_end (steps : List Step) : ∀ ui, ui.n < 2 ^ 64 → StepsOk steps →
    ∃ ui', session ui steps = .ok ui' ∧ ui'.n < 2 ^ 64 ∧
      (AllShown steps → (Inv ui ∨ Redrawn steps) → Inv ui') := by
  induction steps with
  | nil =>
    intro ui h _
    refine ⟨ui, rfl, h, fun _ hi => hi.elim id ?_⟩
    rintro ⟨st, hst, _⟩; cases hst
  | cons st rest ih =>
    intro ui hn hok
    have hok' : StepsOk rest :=
      ⟨fun r h => hok.1 r (List.mem_cons_of_mem _ h), fun t r h => hok.2 t r (List.mem_cons_of_mem _ h)⟩
    have hsh' : AllShown (st :: rest) → AllShown rest := fun h t r hm => h t r (List.mem_cons_of_mem _ hm)
    cases st with
    | ev e =>
      obtain ⟨u1, h1, hn1⟩ := update_total ui e hn
      obtain ⟨u2, h2, hn2, hi2⟩ := ih u1 (by omega) hok'
      refine ⟨u2, ?_, hn2, fun hsh hi => hi2 (hsh' hsh) ?_⟩
      · show (update ui e).bind _ = _
        rw [h1, Outcome.bind_ok]; exact h2
      · rcases hi with hi | ⟨st, hst, hk⟩
        · exact .inl (update_inv ui u1 e hi h1)
        · rcases List.mem_cons.mp hst with rfl | hst
          · rcases hk with ⟨r, hk⟩ | ⟨t, r, hk, _⟩ <;> cases hk
          · exact .inr ⟨st, hst, hk⟩
    | redraw r =>
      have hrr : r < 2 ^ 64 := hok.1 r (List.mem_cons_self ..)
      obtain ⟨u2, h2, hn2, hi2⟩ := ih (draw ui r) hrr hok'
      exact ⟨u2, h2, hn2, fun hsh _ => hi2 (hsh' hsh) (.inl (draw_inv ui r hrr))⟩
    | redrawOn t r =>
      obtain ⟨hrr, hw⟩ := hok.2 t r (List.mem_cons_self ..)
      cases hs : t.showsTable with
      | true =>
        obtain ⟨u2, h2, hn2, hi2⟩ := ih (draw ui r) hrr hok'
        refine ⟨u2, ?_, hn2, fun hsh _ => hi2 (hsh' hsh) (.inl (draw_inv ui r hrr))⟩
        show (drawOn t ui r).bind _ = _
        rw [drawOn_shown t ui r hw hs, Outcome.bind_ok]; exact h2
      | false =>
        obtain ⟨u2, h2, hn2, _⟩ := ih { ui with n := r } hrr hok'
        refine ⟨u2, ?_, hn2, fun hsh _ => ?_⟩
        · show (drawOn t ui r).bind _ = _
          rw [drawOn_hidden t ui r hw hs, Outcome.bind_ok]; exact h2
        · have := hsh t r (List.mem_cons_self ..)
          rw [hs] at this; cases this

/-- **Sessions.**  For ANY start state (even a stale selection) and every prefix of the session: no panic, and
    — when the redraws are on terminals that show the table — once a redraw has happened (or the
    invariant held at the start) the invariant holds, i.e. it holds at every later point. -/
theorem session_ok (steps : List Step) (ui : Ui) (hn : ui.n < 2 ^ 64) (hok : StepsOk steps) :
    ∀ pre, pre <+: steps →
      ∃ ui', session ui pre = .ok ui' ∧ ui'.n < 2 ^ 64 ∧
        (AllShown pre → (Inv ui ∨ Redrawn pre) → Inv ui') := by
  intro pre hp
  have hsub := hp.subset
  exact session_end pre ui hn
    ⟨fun r h => hok.1 r (hsub h), fun t r h => hok.2 t r (hsub h)⟩

/-- … in particular no session panics (any terminal sizes with at least one column). -/
theorem session_ne_panic (steps : List Step) (ui : Ui) (hn : ui.n < 2 ^ 64) (hok : StepsOk steps)
    (s : Site) : session ui steps ≠ .panic s := by
  obtain ⟨u, h, _⟩ := session_end steps ui hn hok
  rw [h]; intro h'; cases h'

/-- The hypothesis `AllShown` is needed: on a terminal too small to show the table (here 4
    columns) ratatui returns before the clamp, and a table that shrank keeps its stale selection. -/
theorem hidden_redraw_keeps_stale :
    ∃ ui', session (init 3 (some 2)) [.redrawOn ⟨4, 30⟩ 1] = .ok ui' ∧ ¬ Inv ui' := by
  refine ⟨{ init 3 (some 2) with n := 1 }, by decide, ?_⟩
  intro h
  have := (h.2 2 rfl).2 (by decide)
  exact absurd this (by decide)

/-- The hypothesis `0 < t.w` is needed: ratatui 0.29's `Scrollbar` panics ("Scrollbar area is
    empty") when `build_table` draws a non-empty table on a terminal with no column and ≥ 3 lines
    (observed through the verification driver: `tui 3:2 Term0x3 Draw1`).  This is the redraw, not
    the event handler, and needs a zero-width terminal; recorded in notes/C17.md. -/
theorem zero_width_redraw_panics :
    session (init 0) [.redrawOn ⟨0, 3⟩ 1] = .panic .unwrapNone := by decide +kernel

/-- `draw` / `drawOn` were written from ratatui **0.29.0** (`Table::render_ref`, `Scrollbar`); this
    is the one ratatui package in the repository's Cargo.lock (version, registry source, checksum of
    the crate contents), and the version jet1090 asks for.  A dependency bump makes this theorem
    fail until the model has been re-read against the new version. -/
theorem ratatui_version_modelled :
    Gen.Ratatui.packages =
      [("0.29.0", "registry+https://github.com/rust-lang/crates.io-index",
        "eabd94c2f37801c20583fc49dd5cd6b0ba68c716787c2dd6ed18571e1e63117b")] ∧
    Gen.Ratatui.jet1090Requirement = "0.29.0" :=
  ⟨rfl, rfl⟩

/-! ### search mode: the rows DISPLAYED are the aircraft the current query lists

`build_table` refills `items` on every redraw with the aircraft of that moment which the current
`search_query` lists (`Model.Tui.displayed`), and `main` redraws after every handled event
(`Model.Tui.mainLoop`).  The theorems hold for ANY regex semantics (`m : Matcher`), any query, any fleet
at every iteration (aircraft appear, disappear, age out or change their fields between two key presses). -/

/-- the second age filter of `build_table` (same `now`) removes nothing: the table has exactly one row per
    item, so ratatui clamps the selection against `items.len()` -/
theorem tableRows_eq_displayed (m : Matcher) (now : Nat) (q : List Char) (fleet : List Aircraft) :
    tableRows m now q fleet = displayed m now q fleet := by
  unfold tableRows displayed
  rw [List.filter_filter]
  congr 1
  funext a
  unfold listed
  cases fresh now a <;> simp

theorem displayed_le (m : Matcher) (now : Nat) (q : List Char) (fleet : List Aircraft) :
    (displayed m now q fleet).length ≤ fleet.length := List.length_filter_le _ _

/-- side conditions of a run of the loop: `state_vectors` holds fewer than `2^64` aircraft and every
    redraw is on a terminal that shows the table (≥ 5 columns, ≥ 3 lines) -/
def ItersOk (its : List Iter) : Prop :=
  ∀ it ∈ its, it.fleet.length < 2 ^ 64 ∧ it.t.showsTable = true

theorem showsTable_w {t : Term} (h : t.showsTable = true) : 0 < t.w := by
  simp [Term.showsTable] at h; omega

/-- **One redraw.**  From ANY state (stale selection, any query): afterwards the row count is the number
    of aircraft the current query lists, the query is unchanged, and the selected index — when there is
    one — is below the number of displayed rows; on an empty display nothing is selected. -/
theorem redrawF_displayed (m : Matcher) (t : Term) (now : Nat) (fleet : List Aircraft) (ui : Ui)
    (hf : fleet.length < 2 ^ 64) (ht : t.showsTable = true) :
    ∃ ui', redrawF m t now fleet ui = .ok ui' ∧ ui'.query = ui.query ∧ ui'.quit = ui.quit ∧
      ui'.n = (displayed m now ui'.query fleet).length ∧ Inv ui' ∧
      (∀ i, ui'.selected = some i → i < (displayed m now ui'.query fleet).length) := by
  have hk : (displayed m now ui.query fleet).length < 2 ^ 64 :=
    Nat.lt_of_le_of_lt (displayed_le ..) hf
  refine ⟨draw ui (displayed m now ui.query fleet).length, ?_, rfl, rfl, rfl, draw_inv _ _ hk, ?_⟩
  · unfold redrawF; exact drawOn_shown t ui _ (showsTable_w ht) ht
  · intro i hi
    have hinv := draw_inv ui (displayed m now ui.query fleet).length hk
    have hq : (draw ui (displayed m now ui.query fleet).length).query = ui.query := rfl
    rw [hq]
    by_cases h0 : (displayed m now ui.query fleet).length = 0
    · simp [draw, h0] at hi
    · exact (hinv.2 i hi).2 (Nat.pos_of_ne_zero h0)

/-- **The loop of `main`, every run.**  Any regex semantics, any start state satisfying the invariant
    (`main`'s start-up state does: `init_inv_strict`), any list of iterations — each with an optional event
    (typing / deleting characters in search mode included), its own fleet, clock and terminal size:
    the loop does not panic, the invariant holds at the end (hence after every iteration: the statement
    is about every list), and unless the loop was left by `q`/`Esc` the row count the invariant speaks of
    IS the number of aircraft of the last iteration's fleet that the final query lists. -/
theorem mainLoop_inv (m : Matcher) (its : List Iter) : ∀ ui, Inv ui → ItersOk its →
    ∃ ui', mainLoop m ui its = .ok ui' ∧ Inv ui' ∧
      (∀ it, its.getLast? = some it → ui'.quit = false →
        ui'.n = (displayed m it.now ui'.query it.fleet).length ∧
        ∀ i, ui'.selected = some i → i < (displayed m it.now ui'.query it.fleet).length) := by
  induction its with
  | nil => intro ui h _; exact ⟨ui, rfl, h, fun it hl => by cases hl⟩
  | cons it rest ih =>
    intro ui hinv hok
    have hok' : ItersOk rest := fun x hx => hok x (List.mem_cons_of_mem _ hx)
    obtain ⟨hf, ht⟩ := hok it (List.mem_cons_self ..)
    have hev : ∃ u1, stepEv ui it.ev = .ok u1 ∧ Inv u1 := by
      cases it.ev with
      | none => exact ⟨ui, rfl, hinv⟩
      | some e =>
        obtain ⟨u1, h1, _⟩ := update_total ui e hinv.1
        exact ⟨u1, h1, update_inv ui u1 e hinv h1⟩
    obtain ⟨u1, h1, hi1⟩ := hev
    cases hq : u1.quit with
    | true =>
      refine ⟨u1, ?_, hi1, fun _ _ hq' => by rw [hq] at hq'; cases hq'⟩
      unfold mainLoop; rw [h1, Outcome.bind_ok]; simp [hq]
    | false =>
      obtain ⟨u2, h2, hq2, hquit2, hn2, hi2, hs2⟩ := redrawF_displayed m it.t it.now it.fleet u1 hf ht
      obtain ⟨u3, h3, hi3, hl3⟩ := ih u2 hi2 hok'
      refine ⟨u3, ?_, hi3, ?_⟩
      · unfold mainLoop; rw [h1, Outcome.bind_ok]; simp only [hq]
        rw [h2, Outcome.bind_ok]; exact h3
      · intro x hx hqx
        cases rest with
        | nil =>
          simp at hx; subst hx
          have : u3 = u2 := by simp [mainLoop] at h3; exact h3.symm
          subst this
          exact ⟨hn2, hs2⟩
        | cons y ys =>
          rw [List.getLast?_cons_cons] at hx
          exact hl3 x hx hqx

/-- … from the start-up state of `main` (no aircraft yet, `with_selected(0)`). -/
theorem mainLoop_from_startup (m : Matcher) (its : List Iter) (hok : ItersOk its) :
    ∃ ui', mainLoop m (init 0 (some 0)) its = .ok ui' ∧ Inv ui' ∧
      (∀ it, its.getLast? = some it → ui'.quit = false →
        ∀ i, ui'.selected = some i → i < (displayed m it.now ui'.query it.fleet).length) := by
  obtain ⟨u, h, hi, hl⟩ := mainLoop_inv m its _ (init_inv_strict 0 (by decide)).inv hok
  exact ⟨u, h, hi, fun it hx hq => (hl it hx hq).2⟩

theorem mainLoop_ne_panic (m : Matcher) (its : List Iter) (ui : Ui) (h : Inv ui) (hok : ItersOk its)
    (s : Site) : mainLoop m ui its ≠ .panic s := by
  obtain ⟨u, hu, _⟩ := mainLoop_inv m its ui h hok
  rw [hu]; intro h'; cases h'

/-- Between the key press and the redraw the selection may exceed the rows the NEW query lists (the handler
    does not look at the fleet): typing `b` with row 1 of `[aaaaaa, bbbbbb]` selected leaves index 1 while
    the query now lists one aircraft; the redraw of the same iteration clamps it to 0.  `Inv` after
    `update()` alone therefore speaks of the rows still on screen (`ui.n`), and the `mainLoop` theorems of
    the rows on screen after each redraw. -/
def twoAircraft : List Aircraft := [{ icao24 := "aaaaaa".toList }, { icao24 := "bbbbbb".toList }]

theorem typing_then_redraw_clamps :
    update { init 2 (some 1) with search := true } (.key (.char 'b')) =
      .ok { init 2 (some 1) with search := true, query := ['b'] } ∧
    (displayed litMatch 0 ['b'] twoAircraft).length = 1 ∧
    mainLoop litMatch { init 2 (some 1) with search := true }
        [⟨some (.key (.char 'b')), ⟨100, 30⟩, 0, twoAircraft⟩] =
      .ok { init 1 (some 0) with search := true, query := ['b'] } := by
  decide +kernel

/-! ### `tui.rs`: crossterm event → `tui::Event` -/

/-- `pump` was written from these branches of `tui.rs` (re-read from the source on every run by
    `gen/extractors/tuipump.py`: the two branches of the `tokio::select!`, the arms of `match maybe_event` and of
    `match evt`, white space removed), clause by clause:
    `.key k kind` — arm 1 (sent only when `kind == Press`, the `KeyEvent` unchanged);
    `.resize col _` — arm 2 (only the `width` cell);  `.mouse _` — arm 3 (`k` on `ScrollUp`, `j` on `ScrollDown`,
    the two `if`s are exclusive because `event.kind` is one value);  `.otherEvent` — arm 4;  `.readError` — arm 5;
    `.streamEnd` — arm 6;  `.tickDue` — arm 7 (the only `send` whose failure is ignored; the four others `unwrap`,
    which panics only when the receiver — owned by the UI task through `EventHandler` — is gone).
    An edit of any arm makes this theorem fail until `pump` has been re-read. -/
theorem pump_arms_modelled :
    Gen.TuiPump.tickMillis = 250 ∧
    Gen.TuiPump.arms = [
      ("maybe_event=crossterm_event / Some(Ok(evt)) / crossterm::event::Event::Key(key)",
        "if key.kind==crossterm::event::KeyEventKind::Press{tx.send(Event::Key(key)).unwrap();}"),
      ("maybe_event=crossterm_event / Some(Ok(evt)) / crossterm::event::Event::Resize(col,_)",
        "width=col"),
      ("maybe_event=crossterm_event / Some(Ok(evt)) / crossterm::event::Event::Mouse(event)",
        "if event.kind==crossterm::event::MouseEventKind::ScrollUp{tx.send(Event::Key(KeyEvent::new(crossterm::event::KeyCode::Char('k'),event.modifiers))).unwrap();}if event.kind==crossterm::event::MouseEventKind::ScrollDown{tx.send(Event::Key(KeyEvent::new(crossterm::event::KeyCode::Char('j'),event.modifiers))).unwrap();}"),
      ("maybe_event=crossterm_event / Some(Ok(evt)) / _", ""),
      ("maybe_event=crossterm_event / Some(Err(_))", "tx.send(Event::Error).unwrap();"),
      ("maybe_event=crossterm_event / None", ""),
      ("_=delay", "tx.send(Event::Tick(width)).unwrap_or(());")] :=
  ⟨rfl, rfl⟩

/-- **Total**: every turn of the event task sends at most one event and leaves a width. -/
theorem pump_total (w : Nat) (i : Input) : ∃ w' evs, pump w i = (w', evs) ∧ evs.length ≤ 1 := by
  refine ⟨_, _, rfl, ?_⟩
  cases i with
  | key k kind => show (if kind = .press then [Event.key k] else []).length ≤ 1; split <;> simp
  | mouse kind => cases kind <;> simp
  | _ => simp

/-- what reaches the channel: key PRESSES only (the key code unchanged), `k`/`j` for the mouse wheel, a tick
    carrying the width of the latest resize, an error for a read error — nothing else -/
theorem pump_sends (w : Nat) (i : Input) (e : Event) (h : e ∈ (pump w i).2) :
    (∃ k, i = .key k .press ∧ e = .key k) ∨
    (i = .mouse .scrollUp ∧ e = .key (.char 'k')) ∨ (i = .mouse .scrollDown ∧ e = .key (.char 'j')) ∨
    (i = .readError ∧ e = .error) ∨ (i = .tickDue ∧ e = .tick w) := by
  cases i with
  | key k kind =>
    simp only [pump] at h
    split at h
    · next hk => simp at h; subst hk; exact .inl ⟨k, rfl, h⟩
    · simp at h
  | mouse kind => cases kind <;> simp_all [pump]
  | _ => simp_all [pump]

theorem pump_width (w : Nat) (i : Input) :
    (pump w i).1 = w ∨ ∃ col rows, i = .resize col rows ∧ (pump w i).1 = col := by
  cases i with
  | mouse kind => cases kind <;> simp [pump]
  | resize col rows => exact .inr ⟨col, rows, rfl, rfl⟩
  | _ => simp [pump]

/-- **Composition with `update()`.**  Whatever crossterm delivers (any input history, any initial width),
    the events it puts on the channel, handled in order, never panic and keep the invariant. -/
theorem pump_update_inv (w : Nat) (ins : List Input) (ui : Ui) (h : Inv ui) :
    ∃ ui', run ui (pumpAll w ins) = .ok ui' ∧ Inv ui' ∧ ui'.n = ui.n :=
  run_inv (pumpAll w ins) ui h

/-- … and with the whole loop (a redraw after every event that crossterm's history produced). -/
theorem pump_mainLoop_inv (m : Matcher) (w : Nat) (ins : List Input) (frames : Event → Iter)
    (hfr : ∀ e, (frames e).fleet.length < 2 ^ 64 ∧ (frames e).t.showsTable = true)
    (ui : Ui) (h : Inv ui) :
    ∃ ui', mainLoop m ui ((pumpAll w ins).map fun e => { frames e with ev := some e }) = .ok ui' ∧
      Inv ui' := by
  obtain ⟨u, hu, hi, _⟩ := mainLoop_inv m ((pumpAll w ins).map fun e => { frames e with ev := some e }) ui h
    (by
      intro it hit
      obtain ⟨e, _, rfl⟩ := List.mem_map.mp hit
      exact hfr e)
  exact ⟨u, hu, hi⟩

/-! ### the defect this property found (model of the code before the repair)

`items.len() - 1` on an empty table underflows: from the start-up state of `main`
(`with_selected(0)`, no aircraft yet) the keys `j`, `k`, `↓`, `↑` panic; from
`TableState::default()` the second such key does.  Replayed on the real code as
`tui 0:0 j` / `tui 0 j j` (known_findings.json, `C17-empty-table-navigation-underflow`). -/

theorem unguarded_panics :
    updateG false (init 0 (some 0)) (.key (.char 'j')) = .panic .subOverflow ∧
    updateG false (init 0 (some 0)) (.key (.char 'k')) = .panic .subOverflow ∧
    updateG false (init 0 (some 0)) (.key .down) = .panic .subOverflow ∧
    updateG false (init 0 (some 0)) (.key .up) = .panic .subOverflow ∧
    runG false (init 0) [.key (.char 'j'), .key (.char 'j')] = .panic .subOverflow := by
  decide +kernel

/-- … and the full-strength no-panic statement is therefore false of the old code. -/
theorem unguarded_not_total :
    ¬ ∀ ui ev s, Inv ui → updateG false ui ev ≠ .panic s := by
  intro h
  exact h (init 0 (some 0)) (.key (.char 'j')) .subOverflow
    ⟨by decide, fun i hi => by cases hi; exact ⟨fun _ => rfl, fun h => by cases h⟩⟩
    unguarded_panics.1

example : Inv (init 0) ∧ Inv (init 0 (some 0)) ∧ Inv (init 3 (some 2)) ∧ InvStrict (init 0 (some 0)) := by
  refine ⟨init_inv 0 (by decide), (init_inv_strict 0 (by decide)).inv, ⟨by decide, ?_⟩,
    init_inv_strict 0 (by decide)⟩
  intro i hi; cases hi; exact ⟨by decide, by decide⟩
/-- the repaired handler on the inputs that used to panic -/
example : update (init 0 (some 0)) (.key (.char 'j')) = .ok (init 0 (some 0)) := by decide +kernel
example : update (init 0 (some 0)) (.key .up) = .ok (init 0 (some 0)) := by decide +kernel
/-- wrap-around in both directions on three rows -/
example : (run (init 3) [.key (.char 'j'), .key .down, .key (.char 'j'), .key (.char 'j')]).toOption.map (·.selected)
    = some (some 0) := by decide +kernel
example : (run (init 3 (some 0)) [.key (.char 'k')]).toOption.map (·.selected) = some (some 2) := by decide +kernel
/-- `q` typed into the search box does not quit; `Enter` then `q` does -/
example : (run (init 2) [.key (.char '/'), .key (.char 'q'), .key .enter]).toOption.map (fun u => (u.quit, u.query))
    = some (false, ['q']) := by decide +kernel
example : (run (init 2) [.key (.char '/'), .key (.char 'q'), .key .enter, .key (.char 'q')]).toOption.map (·.quit)
    = some true := by decide +kernel
/-- the hypotheses of `mainLoop_inv` are satisfiable: a search typed on two aircraft, then `Esc` -/
example : ItersOk [⟨some (.key (.char '/')), ⟨100, 30⟩, 5, twoAircraft⟩, ⟨some (.key (.char 'b')), ⟨80, 24⟩, 6, []⟩,
    ⟨none, ⟨80, 24⟩, 7, twoAircraft⟩] := by
  intro it h
  simp only [List.mem_cons, List.not_mem_nil, or_false] at h
  rcases h with rfl | rfl | rfl <;> exact ⟨by decide, by decide⟩
/-- the filter lists by address, callsign (case-insensitive), registration without dashes; not the stale or once-seen -/
example : (displayed litMatch 100 "f-gk".toList
    [{ icao24 := "39ac45".toList, registration := some "F-GKXA".toList, lastseen := 90 },
     { icao24 := "0fgk00".toList, lastseen := 100 },
     { icao24 := "aaaaaa".toList, callsign := some "FGK1".toList, lastseen := 60 },
     { icao24 := "bbbbbb".toList, callsign := some "FGK2".toList, count := 1, lastseen := 100 },
     { icao24 := "cccccc".toList, lastseen := 100 }]).map (fun a => String.ofList a.icao24) = ["39ac45", "0fgk00"] := by
  decide +kernel
/-- crossterm history: a release is dropped, the wheel scrolls, a resize is carried by the next tick -/
example : pumpAll 80 [.key (.char 'q') .release, .mouse .scrollDown, .resize 120 40, .tickDue, .readError, .key .esc .press]
    = [.key (.char 'j'), .tick 120, .error, .key .esc] := by decide +kernel

end Rs1090.Props.C17
