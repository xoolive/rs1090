/-
C10 — de-duplication conserves receptions and emits each frame once per window.

Model: Rs1090/Model/Dedup.lean (`step`/`run`: one iteration / a whole history of the receive loop of
crates/jet1090/src/dedup.rs, cache and heap as in the Rust function; `stepG`/`runG` are the same
loop reporting the groups taken out of the cache, of which the records are a function:
`records_of_groups`).  Spec: Rs1090/Spec/Dedup.lean — the grouping rule AS IMPLEMENTED, without the
heap (groups, windows, records; join first, then close: `refines_spec` is heap elimination) — and
Rs1090/Spec/DedupStrict.lean — an INDEPENDENT reading of "window" (close first, then join), with the
exact condition under which the two agree (`strict_spec_agrees_iff`) and the witness where they
differ (`strict_spec_differs`).  Lemmas: Rs1090/Proofs/Dedup*.lean.

The late joiner (`closing_arrival_joins_its_group`): every clause of the property text —
each reception in exactly one record once its window has closed (`conservation`, `exactly_once`,
`emitted_when_closed_hist`), frame / first-arrival time stamp / all members' receptions in arrival
order (`record_shape`), spacing and order under non-decreasing times (`spacing`, `ordered`) — is
proved for the implemented rule on ALL histories, late joiners included.  The text does not say
which receptions form a group; it is satisfied by both rules.  The late joiner contradicts the doc
comment of dedup.rs, not C10.

Every theorem quantifies over **all** histories (`List Arrival`, any length), any number of frames
and receivers, arbitrary time stamps (equal, decreasing, far apart) unless `Monotone` is assumed,
every window length `w` (0 included) and every decodability predicate.
-/
import Rs1090.Proofs.DedupStrict
import Rs1090.Proofs.DedupEof
import Rs1090.Model.Decode.Message
namespace Rs1090.Props.C10
open Rs1090 Rs1090.Dedup
open Rs1090.Spec.Dedup (firstT closes WellFormed members recordOf records before Monotone Spaced
  Ordered StrictlyOrdered sortBy)
open Rs1090.Spec.DedupStrict (LateJoin NoLateJoin)

/-- The invariant of the loop (`Inv`, Proofs/Dedup.lean: heap and cache hold the same open groups, one per
    frame, each non-empty) holds before the first arrival. -/
theorem inv_init (w : Nat) : Inv w init := Dedup.inv_init w

theorem inv_step (w : Nat) (dec : Frame → Bool) (s : State) (a : Arrival) (h : Inv w s) :
    Inv w (step w dec s a).1 := (stepG_spec a h).inv

theorem inv_reachable (w : Nat) (dec : Frame → Bool) (hist : List Arrival) :
    Inv w (run w dec init hist).1 := by
  rw [run_eq dec hist (Dedup.inv_init w)]
  exact reach w hist

/-- The records sent are exactly the records (frame, first member's time stamp, receptions of all
    members in order) of the groups taken out of the cache whose frame decodes, in the same order;
    groups whose frame does not decode are dropped. -/
theorem records_of_groups (w : Nat) (dec : Frame → Bool) (hist : List Arrival) :
    run w dec init hist = ((runG w init hist).1, records dec (runG w init hist).2) :=
  run_eq dec hist (Dedup.inv_init w)

/-- **conservation** (messages): the arrivals of a history are, as a multiset, the members of the
    emitted groups ⊎ the members of the groups dropped as undecodable ⊎ the arrivals still in the
    cache.  Nothing is invented, lost or duplicated. -/
theorem conservation (w : Nat) (dec : Frame → Bool) (hist : List Arrival) :
    hist.Perm
      (members ((runG w init hist).2.filter (fun g => dec g.1)) ++
       members ((runG w init hist).2.filter (fun g => !dec g.1)) ++
       pending (run w dec init hist).1) := by
  rw [records_of_groups]
  have h := runG_members (w := w) hist (Dedup.inv_init w)
  have hf := List.filter_append_perm (fun g : Group => dec g.1) (runG w init hist).2
  simp only [pending, init, List.map_nil, List.flatten_nil, List.nil_append] at h
  rw [← members_append]
  exact (((members_perm hf).append_right _).trans h).symm

/-- **conservation** (receptions): the same for the reception records (metadata entries) — the
    receptions that arrived are those carried by the records sent ⊎ those of dropped undecodable
    groups ⊎ those still pending. -/
theorem conservation_rx (w : Nat) (dec : Frame → Bool) (hist : List Arrival) :
    (hist.flatMap (·.rx)).Perm
      ((run w dec init hist).2.flatMap (·.rx) ++
       (members ((runG w init hist).2.filter (fun g => !dec g.1))).flatMap (·.rx) ++
       (pending (run w dec init hist).1).flatMap (·.rx)) := by
  have h := (conservation w dec hist).flatMap_right (·.rx)
  simp only [List.flatMap_append] at h
  refine h.trans ?_
  rw [records_of_groups, records_rx]

/-- **exactly once**: if the receptions of the history are pairwise distinct, no reception occurs
    in two records or twice in one record. -/
theorem exactly_once (w : Nat) (dec : Frame → Bool) (hist : List Arrival)
    (h : (hist.flatMap (·.rx)).Nodup) : ((run w dec init hist).2.flatMap (·.rx)).Nodup := by
  have := (conservation_rx w dec hist).nodup_iff.mp h
  rw [List.append_assoc] at this
  exact (List.nodup_append.mp this).1

/-- … and in general no reception is sent more often than it arrived. -/
theorem not_invented (w : Nat) (dec : Frame → Bool) (hist : List Arrival) (id : Nat) :
    ((run w dec init hist).2.flatMap (·.rx)).count id ≤ (hist.flatMap (·.rx)).count id := by
  rw [(conservation_rx w dec hist).count_eq, List.count_append, List.count_append]
  omega

/-- **record shape**: every record sent is the record of a closed group: it carries the group's
    frame, which decodes; the time stamp of the group's FIRST member; and the receptions of all
    members concatenated in order — where the members are non-empty, all carry that frame, and
    form a subsequence of the history (arrival order is kept). -/
theorem record_shape (w : Nat) (dec : Frame → Bool) (hist : List Arrival) :
    ∀ r ∈ (run w dec init hist).2, ∃ g ∈ (runG w init hist).2,
      r = ⟨g.1, firstT g, g.2.flatMap (·.rx)⟩ ∧ dec g.1 = true ∧
      g.2 ≠ [] ∧ (∀ m ∈ g.2, m.frame = g.1) ∧ g.2.head?.map (·.t) = some r.ts ∧
      g.2.Sublist hist := by
  intro r hr
  rw [records_of_groups] at hr
  simp only [records, List.mem_map, List.mem_filter] at hr
  obtain ⟨g, ⟨hg, hd⟩, rfl⟩ := hr
  have hwf := runG_wf (w := w) hist (Dedup.inv_init w) g hg
  have hsub := runG_closed_sublist (w := w) hist (past := []) (Dedup.inv_init w) (fun _ h => nomatch h) g hg
  refine ⟨g, hg, rfl, hd, hwf.1, hwf.2, ?_, hsub⟩
  obtain ⟨f, ms⟩ := g
  cases ms with
  | nil => exact absurd rfl hwf.1
  | cons m ms => rfl

/-- A group leaves only once its window has closed: the arrival that makes the loop take it out
    has a time stamp at or after first + w. -/
theorem emitted_when_closed (w : Nat) (s : State) (a : Arrival) (h : Inv w s) :
    ∀ g ∈ (stepG w s a).2, firstT g + w ≤ a.t := fun _ hg =>
  ((mem_stepG_closed a h).mp hg).2

/-- `emitted_when_closed` for histories (`new`: the records sent while the arrival `a` is
    processed).  No record leaves before its window has closed. -/
theorem emitted_when_closed_hist (w : Nat) (dec : Frame → Bool) (hist : List Arrival) (a : Arrival) :
    ∃ new, (run w dec init (hist ++ [a])).2 = (run w dec init hist).2 ++ new ∧
      ∀ r ∈ new, r.ts + w ≤ a.t := by
  refine ⟨records dec (stepG w (runG w init hist).1 a).2, ?_, ?_⟩
  · rw [records_of_groups, records_of_groups, runG_snoc, records_append]
  · intro r hr
    simp only [records, List.mem_map, List.mem_filter] at hr
    obtain ⟨g, ⟨hg, _⟩, rfl⟩ := hr
    exact emitted_when_closed w _ a (reach w hist) g hg

/-- … the same for the groups (undecodable ones included). -/
theorem emitted_groups_when_closed_hist (w : Nat) (hist : List Arrival) (a : Arrival) :
    (runG w init (hist ++ [a])).2 = (runG w init hist).2 ++ (stepG w (runG w init hist).1 a).2 ∧
    ∀ g ∈ (stepG w (runG w init hist).1 a).2, firstT g + w ≤ a.t :=
  ⟨by rw [runG_snoc], emitted_when_closed w _ a (reach w hist)⟩

/-- **closed groups are emitted** (one iteration): after an arrival at time `t` has been
    processed, no group with expiry ≤ t remains in the cache. -/
theorem closed_groups_emitted_step (w : Nat) (s : State) (a : Arrival) (h : Inv w s) :
    ∀ g ∈ (stepG w s a).1.cache, a.t < firstT g + w := fun _ hg =>
  ((mem_stepG_cache a h).mp hg).2

/-- … and so after the last arrival of a history no group that is due is still in the cache. -/
theorem closed_groups_emitted (w : Nat) (dec : Frame → Bool) (hist : List Arrival) (a : Arrival) :
    ∀ g ∈ (run w dec init (hist ++ [a])).1.cache, a.t < firstT g + w := by
  rw [records_of_groups, runG_snoc]
  exact closed_groups_emitted_step w _ a (reach w hist)

/-- Together: after a history ending at time `t`, every reception of a decodable frame has been
    sent in a record, or belongs to a pending group whose window is still open at `t`. -/
theorem sent_or_window_open (w : Nat) (dec : Frame → Bool) (hist : List Arrival) (a : Arrival) :
    ∀ x ∈ hist ++ [a], dec x.frame = true →
      (∃ g ∈ (runG w init (hist ++ [a])).2, dec g.1 = true ∧ x ∈ g.2) ∨
      (∃ g ∈ (run w dec init (hist ++ [a])).1.cache, x ∈ g.2 ∧ a.t < firstT g + w) := by
  intro x hx hd
  have hmem := (conservation w dec (hist ++ [a])).subset hx
  simp only [List.mem_append, members, pending, List.mem_flatten, List.mem_map] at hmem
  rcases hmem with (⟨_, ⟨g, hg, rfl⟩, hxg⟩ | ⟨_, ⟨g, hg, rfl⟩, hxg⟩) | ⟨_, ⟨g, hg, rfl⟩, hxg⟩
  · have := List.mem_filter.mp hg
    exact Or.inl ⟨g, this.1, this.2, hxg⟩
  · exfalso
    have hg' := List.mem_filter.mp hg
    have hwf := runG_wf (w := w) (hist ++ [a]) (Dedup.inv_init w) g hg'.1
    have : dec g.1 = true := hwf.2 x hxg ▸ hd
    simp [this] at hg'
  · exact Or.inr ⟨g, hg, hxg, closed_groups_emitted w dec hist a g hg⟩

/-- **spacing**: when arrival times never decrease, two records with the same frame have first
    arrivals at least `w` apart (the later one at or after the earlier one + w). -/
theorem spacing (w : Nat) (dec : Frame → Bool) (hist : List Arrival) (hm : Monotone hist) :
    (run w dec init hist).2.Pairwise (fun r r' => r.frame = r'.frame → r.ts + w ≤ r'.ts) := by
  rw [records_of_groups]
  have := (runG_closed_ordered hist (Dedup.inv_init w) (mono_init w hm).1 (mono_init w hm).2).2.1
  exact pairwise_records dec this (fun _ _ h => h)

/-- **ordered**: when arrival times never decrease, records leave in order of first arrival: the
    time stamps of the records sent never decrease. -/
theorem ordered (w : Nat) (dec : Frame → Bool) (hist : List Arrival) (hm : Monotone hist) :
    (run w dec init hist).2.Pairwise (fun r r' => r.ts ≤ r'.ts) := by
  rw [records_of_groups]
  have := (runG_closed_ordered hist (Dedup.inv_init w) (mono_init w hm).1 (mono_init w hm).2).1
  exact pairwise_records dec this (fun _ _ h => h)

/-- **ordered, ties included** (`w > 0`): the sequence of records is *strictly* increasing in
    (first arrival, frame bytes) — records with the same first-arrival time stamp leave in the byte
    order of their frames (the heap's tie-break), and no two records agree on both. -/
theorem ordered_ties (w : Nat) (dec : Frame → Bool) (hist : List Arrival) (hm : Monotone hist)
    (hw : 0 < w) :
    (run w dec init hist).2.Pairwise
      (fun r r' => r.ts < r'.ts ∨ (r.ts = r'.ts ∧ frameLt r.frame r'.frame = true)) := by
  rw [records_of_groups]
  have := (runG_closed_ordered hist (Dedup.inv_init w) (mono_init w hm).1 (mono_init w hm).2).2.2 hw
  refine pairwise_records dec this (fun g h hb => ?_)
  simpa [before, recordOf] using hb

/-- `w = 0`: nothing is ever held back — every arrival is sent at once, alone (if it decodes). -/
theorem window_zero (dec : Frame → Bool) (hist : List Arrival) :
    run 0 dec init hist =
      (init, (hist.filter (fun a => dec a.frame)).map (fun a => ⟨a.frame, a.t, a.rx⟩)) := by
  rw [records_of_groups, runG_zero]
  simp only [records, List.filter_map, List.map_map]
  congr 1
  refine List.map_congr_left (fun a _ => ?_)
  simp [recordOf, firstT]

/-- Heap elimination: the model computes the grouping rule as implemented, stated without the
    heap — same open groups, same records, for every history.  (Spec/Dedup.lean: a group is opened
    by the first arrival of a frame without open group, joined by the later ones, closed by the
    first arrival — of any frame, itself included, and then AFTER it has joined — at or after
    first + w; groups closed together leave by (first arrival, frame bytes).)  This is not
    conformance to an independent reading of "window": see `strict_spec_agrees_iff`. -/
theorem refines_spec (w : Nat) (dec : Frame → Bool) (hist : List Arrival) :
    ((run w dec init hist).1.cache, (run w dec init hist).2) = Spec.Dedup.run w dec hist := by
  rw [records_of_groups]
  have := runG_refines (w := w) hist (Dedup.inv_init w)
  simp only [Spec.Dedup.run, init] at this ⊢
  rw [← this]

/-- The loop body's panic sites (`entries.remove(0)`, `cache[&frame]`) are unreachable, and
    `timestamp_ms + dedup_threshold` overflows u128 only for time stamps within `w` ms of 2^128
    (> 10^28 years): below that, the loop with Rust's checks is the loop without. -/
theorem never_panics (w : Nat) (dec : Frame → Bool) (hist : List Arrival)
    (h : ∀ a ∈ hist, a.t + w < 2 ^ 128) :
    runChecked w dec init hist = .ok (run w dec init hist) :=
  runChecked_eq dec hist (Dedup.inv_init w) h

/-- The fuel of the model's expiry loop is never what stops it. -/
theorem fuel_irrelevant (t n m : Nat) (s : State) (hn : s.heap.length < n) (hm : s.heap.length < m) :
    expire t n s = expire t m s := expire_fuel t n m s hn hm

/-! ### The two copies of the loop in the source, and the model

`Gen/Dedup.lean` is regenerated on every run from crates/jet1090/src/dedup.rs and from the inline copy in
crates/decode1090/src/main.rs (gen/extractors/dedup.py: whole-text template match; the holes are the
operators and constants below, the shape alternatives are the three structural facts).  The model uses the
generated functions; the theorems of this section state everything the proofs above and below need of them, so
that a changed operator, constant or structure of either copy breaks a theorem that names the copy. -/

/-- What every lemma on decode1090's copy assumes (`Proofs/DedupEof.lean: CopiesAgree`): its three operators
    are those of dedup.rs, it flushes at end of file and dedup.rs does not. -/
theorem copies_agree_ops : CopiesAgree := ⟨fun _ _ => rfl, fun _ _ => rfl, fun _ => rfl, rfl, rfl⟩

/-- **jet1090's loop is the loop modelled**: `(ts * 1e3) as u128`; the heap push happens when
    `cache[&frame].len() == 1`, with expiry `timestamp_ms + threshold`; the expiry loop stops at the first
    entry with `curtime > timestamp_ms`; the arrival is inserted BEFORE the expiry loop runs; nothing is sent
    when the input channel closes. -/
theorem jet_loop_as_modelled :
    Gen.Dedup.jet = { msOp := .mul, msFactor := 1000, firstOp := some .eq, firstLen := some 1,
                      windowOp := .add, expiryOp := .gt,
                      insertBeforeExpire := true, pushOnlyOnFirst := true, flushAtEof := false } ∧
    Gen.Dedup.Jet.msFactor = 1000 ∧
    (∀ len, Gen.Dedup.Jet.isFirst len = decide (len = 1)) ∧
    (∀ t w, Gen.Dedup.Jet.expiry t w = t + w) ∧
    (∀ curtime t, Gen.Dedup.Jet.notExpired curtime t = decide (t < curtime)) ∧
    Gen.Dedup.Jet.insertBeforeExpire = true ∧ Gen.Dedup.Jet.pushOnlyOnFirst = true ∧
    Gen.Dedup.Jet.flushAtEof = false ∧
    (∀ w dec hist, runClose w dec hist = (run w dec init hist).2) :=
  ⟨by decide, rfl, isFirst_eq, expiry_eq, notExpired_eq, rfl, rfl, rfl, runClose_eq copies_agree_ops⟩

/-- **decode1090's copy is the loop modelled**: the same operators and constants read from ITS text, the same
    order of insertion and expiry, and a flush at end of file; hence its iteration (`stepGD`, written with
    its own operators) is `stepG`, and a file gives the records of the loop followed by the flushed ones. -/
theorem decode1090_loop_as_modelled :
    Gen.Dedup.decode1090 = { msOp := .mul, msFactor := 1000, firstOp := some .eq, firstLen := some 1,
                             windowOp := .add, expiryOp := .gt,
                             insertBeforeExpire := true, pushOnlyOnFirst := true, flushAtEof := true } ∧
    Gen.Dedup.Decode1090.msFactor = 1000 ∧
    (∀ len, Gen.Dedup.Decode1090.isFirst len = decide (len = 1)) ∧
    (∀ t w, Gen.Dedup.Decode1090.expiry t w = t + w) ∧
    (∀ curtime t, Gen.Dedup.Decode1090.notExpired curtime t = decide (t < curtime)) ∧
    Gen.Dedup.Decode1090.insertBeforeExpire = true ∧ Gen.Dedup.Decode1090.pushOnlyOnFirst = true ∧
    Gen.Dedup.Decode1090.flushAtEof = true ∧
    (∀ w s a, stepGD w s a = stepG w s a) ∧
    (∀ w dec hist, runFlush w dec hist = (run w dec init hist).2 ++
      (flush (run w dec init hist).1.heap.length (run w dec init hist).1).flatMap (emit dec)) :=
  ⟨by decide, rfl, fun _ => rfl, fun _ _ => rfl, fun c t => by simp [Gen.Dedup.Decode1090.notExpired],
   rfl, rfl, rfl, stepGD_eq copies_agree_ops, runFlush_eq copies_agree_ops⟩

/-- **the two copies implement the same rule; decode1090 additionally flushes**: as data they differ in
    `flushAtEof` only, their operators are the same functions, and on every history, from every state, the
    copy writes while reading what `deduplicate_messages` sends. -/
theorem copies_agree :
    Gen.Dedup.decode1090 = { Gen.Dedup.jet with flushAtEof := true } ∧
    Gen.Dedup.jet.flushAtEof = false ∧
    Gen.Dedup.Decode1090.msFactor = Gen.Dedup.Jet.msFactor ∧
    Gen.Dedup.Decode1090.isFirst = Gen.Dedup.Jet.isFirst ∧
    Gen.Dedup.Decode1090.expiry = Gen.Dedup.Jet.expiry ∧
    Gen.Dedup.Decode1090.notExpired = Gen.Dedup.Jet.notExpired ∧
    (∀ w dec s hist, runD w dec s hist = run w dec s hist) :=
  ⟨by decide, by decide, rfl, rfl, rfl, rfl, fun w dec s hist => runD_eq copies_agree_ops w dec hist s⟩

/-- The harness writes a time stamp as the whole number of milliseconds it computes with its own copy of
    `(ts * 1e3) as u128`; under the factor found in either source text that is the value the loop computes. -/
theorem timestampMs_id (m : Nat) :
    timestampMs Gen.Dedup.Jet.msFactor m = m ∧ timestampMs Gen.Dedup.Decode1090.msFactor m = m := by
  simp [timestampMs, Gen.Dedup.Jet.msFactor, Gen.Dedup.Decode1090.msFactor]

/-- The records decode1090 writes for a file are those of the specification with a final flush:
    the groups still open at end of file leave too, ordered like the others. -/
theorem eof_flush_refines (w : Nat) (dec : Frame → Bool) (hist : List Arrival) :
    runFlush w dec hist = Spec.Dedup.runFlush w dec hist := by
  have href : ((runG w init hist).1.cache, (runG w init hist).2) = Spec.Dedup.runG w [] hist :=
    runG_refines (w := w) hist (Dedup.inv_init w)
  rw [runFlush_groups copies_agree_ops]
  simp only [Spec.Dedup.runFlush, fileGroups, ← href]

/-- … and with the flush nothing stays behind: the lines of the file are, as a multiset, the members
    of the groups written ⊎ the members of the undecodable groups. -/
theorem eof_flush_conservation (w : Nat) (dec : Frame → Bool) (hist : List Arrival) :
    ∃ groups : List Group, runFlush w dec hist = records dec groups ∧
      hist.Perm (members (groups.filter (fun g => dec g.1)) ++
                 members (groups.filter (fun g => !dec g.1))) := by
  refine ⟨fileGroups w hist, runFlush_groups copies_agree_ops w dec hist, ?_⟩
  rw [← members_append]
  exact (fileGroups_members w hist).trans (members_perm (List.filter_append_perm _ _)).symm

/-- **conservation at end of file, full strength** (no "pending" term): the records written for a file are
    the records of a list of groups — each with a decodable frame, non-empty, all members carrying that
    frame, members a subsequence of the file (arrival order) — and the lines of the file whose frame
    decodes are, as a multiset, exactly the members of these groups: every decodable line is a member of
    exactly one written record, no line is invented, lost or duplicated. -/
theorem eof_conservation (w : Nat) (dec : Frame → Bool) (hist : List Arrival) :
    ∃ groups : List Group, runFlush w dec hist = groups.map recordOf ∧
      (∀ g ∈ groups, dec g.1 = true ∧ WellFormed g ∧ g.2.Sublist hist) ∧
      (hist.filter (fun a => dec a.frame)).Perm (members groups) := by
  refine ⟨(fileGroups w hist).filter (fun g => dec g.1), ?_, ?_, ?_⟩
  · rw [runFlush_groups copies_agree_ops]; rfl
  · intro g hg
    have := List.mem_filter.mp hg
    exact ⟨this.2, fileGroups_wf w hist g this.1, fileGroups_sublist w hist g this.1⟩
  · rw [← members_filter dec _ (fileGroups_wf w hist)]
    exact (fileGroups_members w hist).filter _

/-- … the same on receptions (metadata entries): the receptions of the decodable lines are, as a multiset,
    the receptions carried by the records written. -/
theorem eof_conservation_rx (w : Nat) (dec : Frame → Bool) (hist : List Arrival) :
    ((hist.filter (fun a => dec a.frame)).flatMap (·.rx)).Perm ((runFlush w dec hist).flatMap (·.rx)) := by
  rw [runFlush_groups copies_agree_ops, records_rx, ← members_filter dec _ (fileGroups_wf w hist)]
  exact ((fileGroups_members w hist).filter _).flatMap_right _

/-- **exactly once at end of file**: if the receptions of the file are pairwise distinct, every reception of
    a line whose frame decodes occurs exactly once among the receptions of all records written (in one
    record, once in it), and no record carries anything else. -/
theorem eof_exactly_once (w : Nat) (dec : Frame → Bool) (hist : List Arrival)
    (h : (hist.flatMap (·.rx)).Nodup) :
    (∀ a ∈ hist, dec a.frame = true → ∀ id ∈ a.rx,
      ((runFlush w dec hist).flatMap (·.rx)).count id = 1) ∧
    (∀ id ∈ (runFlush w dec hist).flatMap (·.rx), ∃ a ∈ hist, dec a.frame = true ∧ id ∈ a.rx) := by
  have hp := eof_conservation_rx w dec hist
  have hsub : ((hist.filter (fun a => dec a.frame)).flatMap (·.rx)).Sublist (hist.flatMap (·.rx)) :=
    flatMap_filter_sublist _ _ _
  have hnd := hsub.nodup h
  constructor
  · intro a ha hd id hid
    rw [← hp.count_eq, hnd.count,
      if_pos (List.mem_flatMap.mpr ⟨a, List.mem_filter.mpr ⟨ha, hd⟩, hid⟩)]
  · intro id hid
    obtain ⟨a, ha, hid'⟩ := List.mem_flatMap.mp (hp.symm.subset hid)
    have := List.mem_filter.mp ha
    exact ⟨a, this.1, this.2, hid'⟩

/-- the hypothesis of `eof_exactly_once` is satisfiable, and the conclusion is about a non-trivial file: two
    receivers, a group closed by a later line, two groups written by the flush, an undecodable frame -/
example : ([⟨0, [1], [10]⟩, ⟨100, [1], [20]⟩, ⟨500, [2], [11]⟩, ⟨600, [9], [12]⟩, ⟨700, [3], [13, 14]⟩]
      : List Arrival).flatMap (·.rx) = [10, 20, 11, 12, 13, 14] ∧
    ([10, 20, 11, 12, 13, 14] : List Nat).Nodup ∧
    runFlush 400 (fun f => f != [9])
      [⟨0, [1], [10]⟩, ⟨100, [1], [20]⟩, ⟨500, [2], [11]⟩, ⟨600, [9], [12]⟩, ⟨700, [3], [13, 14]⟩]
    = [⟨[1], 0, [10, 20]⟩, ⟨[2], 500, [11]⟩, ⟨[3], 700, [13, 14]⟩] := by decide

/-- **prefix**: what decode1090 writes for a file is what jet1090 sends on the same history
    (`runClose`: its loop, and what it sends when the channel closes — nothing), followed by the records of
    the groups still open at the end, by (first arrival, frame bytes); the receptions of those are the
    pending receptions of decodable frames. -/
theorem jet_records_prefix (w : Nat) (dec : Frame → Bool) (hist : List Arrival) :
    runClose w dec hist = (run w dec init hist).2 ∧
    runFlush w dec hist = runClose w dec hist ++ records dec (sortBy (run w dec init hist).1.cache) ∧
    runClose w dec hist <+: runFlush w dec hist ∧
    ((records dec (sortBy (run w dec init hist).1.cache)).flatMap (·.rx)).Perm
      (((pending (run w dec init hist).1).filter (fun a => dec a.frame)).flatMap (·.rx)) := by
  have hrun := run_eq dec hist (Dedup.inv_init w)
  have h2 : runFlush w dec hist
      = runClose w dec hist ++ records dec (sortBy (run w dec init hist).1.cache) := by
    rw [runFlush_groups copies_agree_ops, runClose_eq copies_agree_ops, hrun, fileGroups, records_append]
  refine ⟨runClose_eq copies_agree_ops w dec hist, h2, ⟨_, h2.symm⟩, ?_⟩
  rw [hrun, records_rx, ← members_filter dec _ (flushed_wf w hist)]
  exact ((members_perm (sortBy_perm _)).filter _).flatMap_right _

/-! ### Non-vacuity, sharpness, and what the property does *not* say -/

/-- two receivers, one frame within the window, another frame, re-appearance after expiry -/
example : (run 400 (fun _ => true) init
      [⟨0, [1], [10]⟩, ⟨100, [1], [20]⟩, ⟨150, [2], [11]⟩, ⟨400, [3], [12]⟩, ⟨990, [1], [21]⟩,
       ⟨2000, [3], [13]⟩]).2
    = [⟨[1], 0, [10, 20]⟩, ⟨[2], 150, [11]⟩, ⟨[3], 400, [12]⟩, ⟨[1], 990, [21]⟩] := by decide

/-- `Monotone` and `0 < w` are satisfiable together with a non-trivial output (previous example) -/
example : Monotone [⟨0, [1], [10]⟩, ⟨100, [1], [20]⟩, ⟨150, [2], [11]⟩, ⟨400, [3], [12]⟩] := by
  simp [Monotone]

/-- an undecodable frame is grouped and dropped, its receptions are accounted for as dropped -/
example : (run 10 (fun f => f != [9]) init [⟨0, [9], [1]⟩, ⟨5, [9], [2]⟩, ⟨20, [1], [3]⟩]).2 = []
    ∧ members ((runG 10 init [⟨0, [9], [1]⟩, ⟨5, [9], [2]⟩, ⟨20, [1], [3]⟩]).2.filter
        (fun g => !(g.1 != [9]))) = [⟨0, [9], [1]⟩, ⟨5, [9], [2]⟩] := by decide

/-- `closed_groups_emitted` is sharp: expiry = t leaves (`curtime > timestamp_ms` is strict) … -/
example : (run 400 (fun _ => true) init [⟨0, [1], [1]⟩, ⟨400, [2], [2]⟩]).2 = [⟨[1], 0, [1]⟩] := by
  decide
/-- … and expiry = t + 1 stays. -/
example : (run 400 (fun _ => true) init [⟨0, [1], [1]⟩, ⟨399, [2], [2]⟩]).2 = [] := by decide

/-- `never_panics` is sharp: at 2^128 − 1 ms (what `+∞` saturates to) with `w = 1` the addition
    overflows. -/
example : runChecked 1 (fun _ => true) init [⟨2 ^ 128 - 1, [1], [1]⟩] = .panic .addOverflow := by
  decide

/-- Ties: "in order of first arrival" is an order of *time stamps*.  Two groups opened at the same
    millisecond leave in frame-byte order, not in the order their first members arrived: here frame
    `[2]` arrived before frame `[1]` and leaves after it.  (Outside the property: the two first
    arrivals are simultaneous.) -/
theorem tie_leaves_in_byte_order :
    (runG 5 init [⟨0, [2], [1]⟩, ⟨0, [1], [2]⟩, ⟨10, [3], [3]⟩]).2.map (·.1) = [[1], [2]] := by
  decide

/-- Without non-decreasing times neither `spacing` nor `ordered` holds (the property does not
    claim them): the clock steps back by 5 ms and two records of frame `[1]` are 5 ms apart and
    out of order. -/
theorem spacing_needs_monotone :
    (run 10 (fun _ => true) init
      [⟨100, [1], [1]⟩, ⟨200, [2], [2]⟩, ⟨95, [1], [3]⟩, ⟨300, [2], [4]⟩]).2.map (fun r => (r.frame, r.ts))
    = [([1], 100), ([1], 95), ([2], 200)] := by decide

/-- What the property does not promise: members of a group need not lie within `w` of its first
    arrival.  The arrival that closes a group joins it first when it carries the same frame — here
    a repetition of the frame a full second later (window 400 ms) is merged into the first record
    instead of opening a group of its own.  All clauses of C10 hold (one record, first time stamp,
    both receptions in order); see notes/C10.md.  An independent reading of "window" gives two
    groups here: `strict_spec_differs`. -/
theorem closing_arrival_joins_its_group :
    (run 400 (fun _ => true) init [⟨0, [1], [1]⟩, ⟨1000, [1], [2]⟩]).2 = [⟨[1], 0, [1, 2]⟩] := by
  decide

/-- … and this is the only way: every member of a group that stays open has a time stamp before
    first + w (one iteration; for any time stamps). -/
theorem members_within_window (w : Nat) (s : State) (a : Arrival) (h : Inv w s)
    (hb : ∀ g ∈ s.cache, ∀ m ∈ g.2, m.t < firstT g + w) :
    ∀ g ∈ (stepG w s a).1.cache, ∀ m ∈ g.2, m.t < firstT g + w :=
  (stepG_within a h hb).1

/-- `members_within_window` for histories — **open groups**, ANY history (any time stamps). -/
theorem members_within_window_hist (w : Nat) (dec : Frame → Bool) (hist : List Arrival) :
    ∀ g ∈ (run w dec init hist).1.cache, ∀ m ∈ g.2, m.t < firstT g + w := by
  rw [records_of_groups]
  exact runG_cache_within hist (Dedup.inv_init w) (within_nil w)

/-- … — **emitted groups**: in every group that has left (hence in every record sent,
    `record_shape`), every member except possibly the LAST one arrived inside the window
    `[first, first + w)`. -/
theorem emitted_members_within_window (w : Nat) (hist : List Arrival) :
    ∀ g ∈ (runG w init hist).2, ∀ m ∈ g.2.dropLast, m.t < firstT g + w :=
  runG_closed_within hist (Dedup.inv_init w) (within_nil w)

/-- … and the last member is late only in one way: it is the very arrival whose processing made the
    group leave (it joined the group of its frame, line 32 of dedup.rs, before the expiry loop ran). -/
theorem late_member_is_closing_arrival (w : Nat) (hist : List Arrival) (a : Arrival) :
    ∀ g ∈ (stepG w (runG w init hist).1 a).2, ∀ m ∈ g.2, m = a ∨ m.t < firstT g + w :=
  (stepG_within a (reach w hist) (runG_cache_within hist (Dedup.inv_init w) (within_nil w))).2.2

/-! ### The implemented grouping rule against an independent reading of "window"

`Spec/DedupStrict.lean` is an independent reading of the property text / of the doc comment of
dedup.rs: a reception belongs to a group only if it arrives inside the window, so the groups whose
window is over are closed BEFORE the arrival joins.  `LateJoin w opened a`: the arrival `a` finds
the open group of its own frame with `first + w ≤ a.t`. -/

/-- One arrival, in any reachable state (`Inv`): model and strict reading give the same open and
    closed groups **iff** the arrival is no late joiner. -/
theorem strict_step_agrees_iff (w : Nat) (s : State) (a : Arrival) (h : Inv w s) :
    ((stepG w s a).1.cache, (stepG w s a).2) = Spec.DedupStrict.stepG w s.cache a ↔
      ¬ LateJoin w s.cache a := by
  rw [stepG_refines a h, eq_comm]
  exact strict_step_iff h.nodup (fun g hg => (h.wf g hg).1)

/-- Histories without late joiner: the model computes the strict reading too — same open groups,
    same records. -/
theorem strict_spec_agrees (w : Nat) (dec : Frame → Bool) (hist : List Arrival)
    (h : NoLateJoin w hist) :
    ((run w dec init hist).1.cache, (run w dec init hist).2) = Spec.DedupStrict.run w dec hist := by
  rw [refines_spec]
  simp only [Spec.Dedup.run, Spec.DedupStrict.run,
    strict_runG_agrees hist (o := []) (fun _ hg => by cases hg) h]

/-- … and exactly those: the model's groups (open and closed) are those of the strict reading
    after EVERY prefix of the history **iff** no arrival of the history is a late joiner. -/
theorem strict_spec_agrees_iff (w : Nat) (hist : List Arrival) :
    (∀ pre suf, hist = pre ++ suf →
      ((runG w init pre).1.cache, (runG w init pre).2) = Spec.DedupStrict.runG w [] pre) ↔
    NoLateJoin w hist := by
  constructor
  · intro hag pre a post hp
    have h1 := hag pre (a :: post) hp
    have h2 := hag (pre ++ [a]) post (by rw [hp]; simp)
    exact (strict_snoc_iff (hist := pre) (a := a) h1).mp h2
  · intro hn pre suf hp
    have hn' : NoLateJoin w pre := noLateJoin_prefix (hp ▸ hn)
    rw [runG_refines (w := w) pre (Dedup.inv_init w)]
    exact (strict_runG_agrees pre (o := []) (fun _ hg => by cases hg) hn').symm

/-- The first late joiner is where they part: if model and strict reading agree after `hist` and
    the next arrival `a` is a late joiner, they differ after `hist ++ [a]` (the strict reading
    closes the old group as it is and opens a new one for `a`; the model closes it with `a` in it). -/
theorem strict_spec_first_divergence (w : Nat) (hist : List Arrival) (a : Arrival)
    (hag : ((runG w init hist).1.cache, (runG w init hist).2) = Spec.DedupStrict.runG w [] hist)
    (hl : LateJoin w (Spec.DedupStrict.runG w [] hist).1 a) :
    ((runG w init (hist ++ [a])).1.cache, (runG w init (hist ++ [a])).2)
      ≠ Spec.DedupStrict.runG w [] (hist ++ [a]) :=
  fun heq => (strict_snoc_iff (hist := hist) (a := a) hag).mp heq hl

/-- Witness (the history of `closing_arrival_joins_its_group`): the second arrival is a late
    joiner; the strict reading sends `[1]@0` with reception 1 alone and keeps the repetition in a
    group of its own, the model — and the code — send both receptions in one record. -/
theorem strict_spec_differs :
    LateJoin 400 (Spec.DedupStrict.runG 400 [] [⟨0, [1], [1]⟩]).1 ⟨1000, [1], [2]⟩ ∧
    Spec.DedupStrict.run 400 (fun _ => true) [⟨0, [1], [1]⟩, ⟨1000, [1], [2]⟩]
      = ([([1], [⟨1000, [1], [2]⟩])], [⟨[1], 0, [1]⟩]) ∧
    ((run 400 (fun _ => true) init [⟨0, [1], [1]⟩, ⟨1000, [1], [2]⟩]).1.cache,
     (run 400 (fun _ => true) init [⟨0, [1], [1]⟩, ⟨1000, [1], [2]⟩]).2)
      = ([], [⟨[1], 0, [1, 2]⟩]) := by
  refine ⟨⟨([1], [⟨0, [1], [1]⟩]), by decide, by decide, by decide⟩, by decide, by decide⟩

/-- `NoLateJoin` is satisfiable with a non-trivial output: the first example of the section
    "Non-vacuity" above (frame `[1]` re-appears after its group was closed by another frame's
    arrival, and the last arrival closes a group of another frame). -/
example : NoLateJoin 400
    [⟨0, [1], [10]⟩, ⟨100, [1], [20]⟩, ⟨150, [2], [11]⟩, ⟨400, [3], [12]⟩, ⟨990, [1], [21]⟩,
     ⟨2000, [3], [13]⟩] := (noLateJoin_iff _).mpr (by decide)

/-! ### composed with the decoder model

jet1090 emits a group only when `Message::from_bytes` succeeds on its frame.  Instantiating the
decodability predicate with the decoder model (`Message.fromBytes`, proved total in C01) gives the
statements for the real pipeline stage; the driver checks on every run that the harness's decodability
flags are exactly this predicate. -/

def decodable (f : Frame) : Bool := (Rs1090.Model.Message.fromBytes f).isOk

theorem pipeline_conservation (w : Nat) (hist : List Arrival) :
    hist.Perm
      (members ((runG w init hist).2.filter (fun g => decodable g.1)) ++
       members ((runG w init hist).2.filter (fun g => !decodable g.1)) ++
       pending (run w decodable init hist).1) :=
  conservation w decodable hist

end Rs1090.Props.C10
