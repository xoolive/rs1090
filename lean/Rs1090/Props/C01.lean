/-
C01 — Mode S decoding is total: any bytes give a message or an error, never a crash;
a message is accepted only at the length its downlink format prescribes; determinism.

Model: Rs1090/Model/Decode/*.lean (`Message.tryFrom`), tied to the Rust decoder by the
`dec` correspondence check over the whole shape space (DF × TC × subtype × version × lengths).
-/
import Rs1090.Proofs.Decode.GenBds
import Rs1090.Model.Decode.Message
import Rs1090.Proofs.Decode.AllGood
import Rs1090.Gen.Render
import Rs1090.Gen.HiddenState
namespace Rs1090.Props.C01
open Rs1090 Rs1090.Model Rs1090.Model.Message

def dfOf (bs : List Nat) : Nat := (bs.headD 0) >>> 3

theorem frameBits_bytes (b0 : Nat) :
    frameBits b0 / 8 = if (b0 >>> 3) &&& 0x10 = 0 then 7 else 14 := by
  unfold frameBits
  by_cases h : (b0 >>> 3) &&& 0x10 = 0 <;> simp [h]

theorem accept_len_core (b0 : Nat) (rest : List Nat) (d : Decoded)
    (h : tryFrom (b0 :: rest) = .ok d) : (b0 :: rest).length = frameBits b0 / 8 := by
  obtain ⟨_, _, _, e, hl, _⟩ := tryFrom_ok_iff.mp h
  cases e
  exact hl

/-- **Acceptance implies the prescribed length** — for every byte string of any length (not only
    ≤ 32): if decoding returns a message (serialisable or not), the input is exactly 7 bytes for
    a short format (DF bit 0x10 clear) or exactly 14 bytes for a long one. -/
theorem accept_len (bs : List Nat) (d : Decoded) (h : tryFrom bs = .ok d) :
    (bs.length = 7 ∧ dfOf bs &&& 0x10 = 0) ∨ (bs.length = 14 ∧ dfOf bs &&& 0x10 ≠ 0) := by
  cases bs with
  | nil => simp [tryFrom] at h
  | cons b0 rest =>
    have hl := accept_len_core b0 rest d h
    rw [frameBits_bytes] at hl
    simp only [dfOf, List.headD_cons]
    by_cases hz : (b0 >>> 3) &&& 0x10 = 0
    · left; rw [if_pos hz] at hl; exact ⟨hl, hz⟩
    · right; rw [if_neg hz] at hl; exact ⟨hl, hz⟩

/-- every input shorter than its format's length is an error (never a message, never a panic);
    with `accept_len` this covers all wrong lengths: too short ⇒ `Incomplete`, too long ⇒ not `ok`. -/
theorem short_input_err (b0 : Nat) (rest : List Nat)
    (h : (b0 :: rest).length < frameBits b0 / 8) : tryFrom (b0 :: rest) = .err .incomplete := by
  simp only [tryFrom]
  rw [if_pos h]

theorem empty_input_err : tryFrom [] = .err .incomplete := rfl

/-- the checksum gate and the `DF` parse on the buffered bytes never panic -/
theorem decodeBuf_ne_panic (b0 : Nat) (buf : List Nat) (h : ∀ b ∈ buf, b < 256) :
    (decodeBuf b0 buf).isPanic = false :=
  decodeBuf_noPanic b0 buf h

/-- `Message::from_bytes` (the entry point of jet1090's de-duplicator and of decode1090) is total -/
theorem from_bytes_ne_panic (bs : List Nat) (h : ∀ b ∈ bs, b < 256) : (fromBytes bs).isPanic = false := by
  unfold fromBytes
  cases bs with
  | nil => rfl
  | cons b0 rest =>
    simp only []
    split
    · rfl
    · have hb := decodeBuf_ne_panic b0 ((b0 :: rest).take (frameBits b0 / 8))
        (fun b hb => h b (List.mem_of_mem_take hb))
      split
      · rfl
      · rename_i hd; rw [hd] at hb; cases hb
      · rfl

/-- **Totality**: for every byte string of every length, `Message::try_from` returns a message or
    an error — never a panic value (no arithmetic overflow under `overflow-checks`, no index or
    slice out of bounds, no `unwrap` of `None`, no `unreachable!`): the checksum does not panic, and the
    symbolic execution of the frame decoder (`Message.df_spec`, which calls each reader's `read_good` of
    `Proofs/Decode/*.lean`) has panic-freedom in its post-condition. Termination is by construction: every
    model function is structurally recursive. -/
theorem decode_ne_panic (bs : List Nat) (h : ∀ b ∈ bs, b < 256) : (tryFrom bs).isPanic = false := by
  rw [tryFrom_eq]
  exact Outcome.bind_noPanic (from_bytes_ne_panic bs h) fun d => by split <;> rfl

/-- the two entry points differ only by the length test: `try_from` is `from_bytes` restricted to inputs
    of exactly the announced length, and on those they agree -/
theorem tryFrom_eq_fromBytes (bs : List Nat) (d : Decoded) (h : tryFrom bs = .ok d) : fromBytes bs = .ok d := by
  rw [tryFrom_eq] at h
  obtain ⟨d', hd, h⟩ := Outcome.bind_eq_ok h
  split at h <;> cases h
  exact hd

/-- conversely, whatever `from_bytes` accepts is at least as long as its format prescribes, and it is exactly
    what `try_from` accepts on the first 7 / 14 bytes: `from_bytes` is deku's container read, which hands
    the unread rest back to the caller — it CONSUMES exactly the prescribed length, it does not require the
    input to end there.  (So the property's length clause holds of `try_from` literally, `accept_len`, and of
    `from_bytes` in the sense "consumes exactly 7 or 14 bytes".) -/
theorem fromBytes_prefix (bs : List Nat) (d : Decoded) (h : fromBytes bs = .ok d) :
    frameBits (bs.headD 0) / 8 ≤ bs.length ∧ tryFrom (bs.take (frameBits (bs.headD 0) / 8)) = .ok d := by
  obtain ⟨b0, rest, v, rfl, hl, hv, rfl⟩ := fromBytes_ok_iff.mp h
  rw [List.headD_cons]
  refine ⟨hl, ?_⟩
  have hpos : 0 < frameBits b0 / 8 := by rw [frameBits_bytes]; split <;> decide
  obtain ⟨k, hk⟩ : ∃ k, frameBits b0 / 8 = k + 1 := ⟨frameBits b0 / 8 - 1, by omega⟩
  have htake : (b0 :: rest).take (frameBits b0 / 8) = b0 :: rest.take k := by rw [hk, List.take_succ_cons]
  rw [htake] at hv ⊢
  exact tryFrom_ok_iff.mpr ⟨b0, rest.take k, v, rfl, by rw [← htake, List.length_take]; omega, hv, rfl⟩

/-- **Rendering** (partial — a syntactic obligation, not a semantic model): none of the 39
    `impl fmt::Display` / hand-written `impl fmt::Debug` blocks of the decoder contains an indexing or
    slicing expression, `unwrap`/`expect`, integer arithmetic, a shift, a narrowing cast or a panicking
    macro (list regenerated from the source on every run by gen/extractors/render.py).  Code that only
    matches, compares and `write!`s cannot panic; that rendering an accepted message does not panic is in
    addition checked on every accepted frame by the harness oracle (`format!("{m}")`, `{m:?}`, `{m:#?}`). -/
theorem render_sites_empty : Gen.Render.riskySites = [] := by decide +kernel

theorem render_impls_scanned : 30 ≤ Gen.Render.renderImpls := by decide

/-- the reviewed callees of the rendering code: the formatting macros and `Display::fmt` (a `fmt::Error`
    can only come from the writer), `Option::map_or_else` / `ToString::to_string` / `format!` (allocation
    only), `hex::encode` (total on byte slices), `libm::round` (total on `f64`) -/
def renderAllowedCalls : List String :=
  [".map_or_else", ".to_string", "fmt", "format!", "hex::encode", "libm::round", "write!", "writeln!"]

/-- **White list of callees**: every function, method or macro called inside an `impl fmt::Display` /
    hand-written `impl fmt::Debug` of the decoder (list regenerated from the source on every run; enum
    constructors and patterns excluded) is one of the reviewed non-panicking callees.  Complements the black
    list `render_sites_empty`: a call that list does not know (`split_at`, `repeat`, `rem_euclid`,
    `borrow_mut`, a helper of the crate that indexes …) breaks this obligation. -/
theorem render_calls_allowed : ∀ c ∈ Gen.Render.calls, c ∈ renderAllowedCalls := by decide +kernel

/-- the source files C01 is anchored in (relative to `crates/rs1090/src`): the frame decoder, the ADS-B and
    Comm-B layers, the checksum and every register reader -/
def decoderFiles : List String :=
  ["decode/mod.rs", "decode/adsb.rs", "decode/commb.rs", "decode/crc.rs", "decode/bds/mod.rs",
   "decode/bds/bds05.rs", "decode/bds/bds06.rs", "decode/bds/bds08.rs", "decode/bds/bds09.rs",
   "decode/bds/bds10.rs", "decode/bds/bds17.rs", "decode/bds/bds18.rs", "decode/bds/bds19.rs",
   "decode/bds/bds20.rs", "decode/bds/bds21.rs", "decode/bds/bds30.rs", "decode/bds/bds40.rs",
   "decode/bds/bds44.rs", "decode/bds/bds45.rs", "decode/bds/bds50.rs", "decode/bds/bds60.rs",
   "decode/bds/bds61.rs", "decode/bds/bds62.rs", "decode/bds/bds65.rs"]

/-- **No hidden state besides the reviewed one** (the determinism clause, on the side of the code).  The model
    is a function by construction, which says nothing about a memo, cache or counter in the Rust code.  The
    translator therefore lists on every run EVERY construct through which a Rust function can carry state from
    one call to the next without it showing in its signature — `static` items, `thread_local!`, `lazy_static!`,
    `OnceCell`/`OnceLock`/`Lazy`, `Cell`/`RefCell`/`UnsafeCell`, `Mutex`/`RwLock`, atomics, `unsafe` — in every
    file under `decode/` and `data/` (whole files, not only the items the models were written from), and this
    obligation requires what it finds in the decoder's files to be exactly the one reviewed site: the
    serialisation switch `CONFIG` (a `OnceCell` read by `Serialize for TimedMessage` only; modelled as the three
    configurations of C07).  Code without such a construct is a function of its arguments (safe Rust has no
    other channel besides I/O), so decoding the same bytes twice gives equal results.  A new memo breaks this
    theorem by name; the harness oracles (double decode, history and sibling sequences, shuffled replay) then
    look for a pair of inputs that exposes it. -/
theorem hidden_state_reviewed :
    Gen.HiddenState.sitesIn decoderFiles =
      [("decode/mod.rs", "static CONFIG:OnceCell<SerializeConfig>=OnceCell::new();")] := by decide +kernel

theorem hidden_state_scanned : 25 ≤ Gen.HiddenState.filesScanned := by decide

/-- determinism: trivial of the model; for the implementation, `hidden_state_reviewed` and the harness (every
    input decoded twice, and the history-determinism oracle: f, a one-byte neighbour g, f again, each compared
    with its decoding right after unrelated traffic) -/
theorem deterministic (bs : List Nat) : tryFrom bs = tryFrom bs := rfl

/-! sanity anchors (tests): frames of the repository's own suite -/
example : (tryFrom [0x8d,0x40,0x6b,0x90,0x20,0x15,0xa6,0x78,0xd4,0xd2,0x20,0xaa,0x4b,0xda]).isOk = true := by
  obtain ⟨kvs, h⟩ := tryFrom_test_json
  rw [h]; rfl


/-! ### the BDS 4,0 / 4,4 / 5,0 / 6,0 field readers are TRANSLATED from the source on every run (gen/extractors/bdsfns.py →
`Gen/BdsFns.lean`) and proved equal, as `Outcome`s — value, `Err` and panic alike — to the model's conversion
functions on every value of the bits read (`Proofs/Decode/GenBds.lean`; spelled out in Props/C08.lean).
`rollOk s g v` is `decide (Gen.BdsFns.Bds50.read_roll s g v = scaled 45 256 (Model.Bds50.roll s g v))`, and so on.
A rewrite of the `fn` items that keeps the values passes; a behavioural edit fails here by name. -/

open Rs1090.Proofs.GenBds in
theorem bds50_readers_as_modelled :
    (∀ s g v, g < 2 ^ 1 → v < 2 ^ 9 → rollOk s g v = true) ∧
    (∀ s g v, g < 2 ^ 1 → v < 2 ^ 10 → trackOk s g v = true) ∧
    (∀ s v, v < 2 ^ 10 → gsOk s v = true) ∧
    (∀ (n : Option Int) s g v, g < 2 ^ 1 → v < 2 ^ 9 → rateOk n s g v = true) :=
  ⟨bds50_roll, bds50_track, bds50_groundspeed, bds50_rate⟩

open Rs1090.Proofs.GenBds in
theorem bds60_readers_as_modelled :
    (∀ s g v, g < 2 ^ 1 → v < 2 ^ 10 → headingOk s g v = true) ∧
    (∀ s v, v < 2 ^ 10 → iasOk s v = true) ∧
    (∀ (i : Option Nat) s v, v < 2 ^ 10 → machOk i s v = true) ∧
    (∀ s g v, g < 2 ^ 1 → v < 2 ^ 9 → verticalOk s g v = true) :=
  ⟨bds60_heading, bds60_ias, bds60_mach, bds60_vertical⟩

open Rs1090.Proofs.GenBds in
theorem bds40_readers_as_modelled :
    (∀ s v, v < 2 ^ 12 → selectedOk s v = true) ∧ (∀ s v, v < 2 ^ 12 → qnhOk s v = true) :=
  ⟨bds40_selected, bds40_qnh⟩

open Rs1090.Proofs.GenBds in
theorem bds44_readers_as_modelled :
    (∀ s v, v < 2 ^ 11 → pressure44Ok s v = true) ∧ (∀ s v, v < 2 ^ 6 → humidityOk s v = true) :=
  ⟨bds44_pressure, bds44_humidity⟩

/-- the predicates are not vacuous: a disagreeing pair is rejected -/
example : decide (Gen.BdsFns.Bds50.read_roll true 0 4 = Rs1090.Proofs.GenBds.scaled 45 128 (Model.Bds50.roll true 0 4)) = false := by
  decide +kernel

end Rs1090.Props.C01
