/-
C13 — altitude and identity codes decode per the standard for every code.

Every statement covers its finite domain completely.  The kernel sweeps (`decide +kernel` on the
divide-and-conquer `allBits`), one per function and code space, and the branch-by-branch description of the two
altitude readers are in Rs1090/Proofs/Altitude.lean; the theorems here are read off them.
Model: Rs1090/Model/Altitude.lean (tied to the Rust code by exhaustive correspondence on the same
domains).  Spec: Rs1090/Spec/Altitude.lean.
-/
import Rs1090.Proofs.Altitude
import Rs1090.Gen.HiddenState
namespace Rs1090.Props.C13
open Rs1090 Rs1090.Model Rs1090.Spec

theorem enum {P : Nat → Prop} [DecidablePred P] (d : Nat)
    (h : allBits (fun x => decide (P x)) d 0 = true) : ∀ x, x < 2 ^ d → P x :=
  forall_lt_of_sweep d h

/-- `decode_id13` yields exactly the four octal digits A B C D of the standard's pulse
    layout, for all 2^13 field values. -/
theorem id13_spec : ∀ f, f < 2 ^ 13 → decodeId13 f = squawkHex f :=
  fun f hf => (Proofs.Altitude.id13_table f hf).1

theorem id13_octal : ∀ f, f < 2 ^ 13 →
    (decodeId13 f >>> 12) % 16 ≤ 7 ∧ (decodeId13 f >>> 8) % 16 ≤ 7 ∧
    (decodeId13 f >>> 4) % 16 ≤ 7 ∧ decodeId13 f % 16 ≤ 7 ∧ decodeId13 f < 2 ^ 15 :=
  Proofs.Altitude.decodeId13_octal

/-- a pure bit permutation of the 12 data pulses: re-interleaving the digits gives back the field with the X bit
    cleared (a left inverse, hence injective on the 4096 codes) -/
theorem id13_permutation : ∀ f, f < 2 ^ 13 →
    ac13OfGillham (decodeId13 f) = f &&& 0x1fbf :=
  fun f hf => (Proofs.Altitude.id13_table f hf).2

/-- right inverse: every one of the 4096 squawks is the decoding of a field -/
theorem id13_onto : ∀ q, q < 2 ^ 12 →
    decodeId13 (fieldOfDigits ((q >>> 9) % 8) ((q >>> 6) % 8) ((q >>> 3) % 8) (q % 8))
      = 0x1000 * ((q >>> 9) % 8) + 0x100 * ((q >>> 6) % 8) + 0x10 * ((q >>> 3) % 8) + q % 8 :=
  fun _ _ => Proofs.Altitude.decodeId13_fieldOfDigits _ _ _ _ (Proofs.Altitude.octal _) (Proofs.Altitude.octal _)
    (Proofs.Altitude.octal _) (Proofs.Altitude.octal _)

/-- Decoding the standard's encoding of step `s` gives altitude `-1200 + 100 s` ft
    (reported in hundreds of feet) when that is ≥ 0, and `none` below 0 ft. -/
theorem gillham_decode_encode : ∀ s, s < 2 ^ 11 → s < GILLHAM_STEPS →
    gray2alt (gillhamEncode s) = if 12 ≤ s then some (s - 12) else none :=
  fun s hs h => (Proofs.Altitude.gillham_table s hs h).1

/-- Over **all 2^16 arguments**: whatever `gray2alt` accepts is the standard's code of
    the step it reports.  With the previous theorem: the accepted codes are in
    one-to-one correspondence with the consecutive 100 ft steps 0 ft … 126 700 ft. -/
theorem gillham_accepts_only_valid : ∀ g, g < 2 ^ 16 →
    ∀ a, gray2alt g = some a → a + 12 < GILLHAM_STEPS ∧ gillhamEncode (a + 12) = g :=
  Proofs.Altitude.gray2alt_accepts

theorem gillham_injective (g₁ g₂ : Nat) (h₁ : g₁ < 2 ^ 16) (h₂ : g₂ < 2 ^ 16) (a : Nat)
    (e₁ : gray2alt g₁ = some a) (e₂ : gray2alt g₂ = some a) : g₁ = g₂ := by
  rw [← (gillham_accepts_only_valid g₁ h₁ a e₁).2, ← (gillham_accepts_only_valid g₂ h₂ a e₂).2]

/-- Gray property: neighbouring 100 ft steps differ in exactly one pulse. -/
theorem gillham_gray : ∀ s, s < 2 ^ 11 → s + 1 < GILLHAM_STEPS →
    popcount16 (gillhamEncode s ^^^ gillhamEncode (s + 1)) = 1 :=
  fun s hs h => (Proofs.Altitude.gillham_table s hs (by omega)).2.1 h

/-- the 13-bit AC field of DF 0/4/16/20: u16 arithmetic is in range on all 2^13 codes -/
theorem ac13_ne_panic : ∀ f, f < 2 ^ 13 → (ac13 f).isPanic = false := by
  intro f _
  obtain ⟨v, hv⟩ := Proofs.Altitude.ac13_ok f
  rw [hv]; rfl

/-- Q = 1: `25·n − 1000` ft for every 11-bit `n`; codes at or below 0 ft are reported
    unavailable (0). -/
theorem ac13_linear : ∀ n, n < 2 ^ 11 →
    ac13 (ac13OfN25 n) = .ok (if n > 40 then 25 * n - 1000 else 0) :=
  Proofs.Altitude.ac13_linear

/-- every code with M = 0, Q = 1 is of the form `ac13OfN25 n` -/
theorem ac13_linear_covers : ∀ f, f < 2 ^ 13 → f &&& 0x40 = 0 → f &&& 0x10 ≠ 0 →
    ac13OfN25 (((f &&& 0x1f80) >>> 2) ||| ((f &&& 0x20) >>> 1) ||| (f &&& 0xf)) = f :=
  fun f hf hm hq => (Proofs.Altitude.m0_table f hf hm).2.1 hq

/-- Q = 0: the standard's Gillham value `-1200 + 100 s` ft when it is representable in
    the unsigned 16-bit result (0 … 65 500 ft), otherwise unavailable (0). -/
theorem ac13_gillham : ∀ s, s < 2 ^ 11 → s < GILLHAM_STEPS →
    ac13 (ac13OfGillham (gillhamEncode s))
      = .ok (if 12 ≤ s ∧ 100 * (s - 12) < 65536 then 100 * (s - 12) else 0) :=
  fun s _ hs => Proofs.Altitude.ac13_gillham s hs

/-- Q = 0, M = 0: a code that is not a valid Gillham code is reported unavailable. -/
theorem ac13_illegal : ∀ f, f < 2 ^ 13 → f &&& 0x40 = 0 → f &&& 0x10 = 0 →
    gray2alt (decodeId13 f) = none → ac13 f = .ok 0 := by
  intro f _ hm hq hg
  rw [Proofs.Altitude.ac13_q0 f hm hq, hg]

/-- the reported altitude never exceeds the encodable span, and is a multiple of 25 ft
    whenever M = 0 -/
theorem ac13_span : ∀ f, f < 2 ^ 13 → f &&& 0x40 = 0 →
    ∃ v, ac13 f = .ok v ∧ v ≤ 65500 ∧ v % 25 = 0 := by
  intro f _ hm
  by_cases hq : f &&& 0x10 = 0
  · refine ⟨_, Proofs.Altitude.ac13_q0 f hm hq, ?_⟩
    cases gray2alt (decodeId13 f) with
    | none => decide
    | some a =>
      show (if 100 * a < 65536 then 100 * a else 0) ≤ 65500 ∧ (if 100 * a < 65536 then 100 * a else 0) % 25 = 0
      split <;> omega
  · have hn := Proofs.Altitude.n13_lt f
    refine ⟨_, Proofs.Altitude.ac13_q1 f hm hq, ?_⟩
    split <;> omega

/-- with M = 0 the field is its own 12 data pulses (X bit already clear) -/
theorem q0_field : ∀ f, f < 2 ^ 13 → f &&& 0x40 = 0 → f &&& 0x1fbf = f :=
  fun f hf hm => (Proofs.Altitude.m0_table f hf hm).1

/-- the identity-code permutation reads a Gillham field back as the code it carries -/
theorem gillham_field : ∀ s, s < 2 ^ 11 → s < GILLHAM_STEPS →
    decodeId13 (ac13OfGillham (gillhamEncode s)) = gillhamEncode s := by
  intro s hs h
  obtain ⟨_, _, hmask, hlt⟩ := Proofs.Altitude.gillham_table s hs h
  exact Proofs.Altitude.decodeId13_ac13OfGillham _ hlt hmask

/-- **Q = 0, composed.**  For EVERY 13-bit field with M = 0 and Q = 0 the decoder
    returns the standard's value of *that field*: `ac13SpecQ0` (Spec/Altitude.lean) searches the
    1280 steps of the standard's encoder for the one whose code is the field and reports
    `-1200 + 100·s` ft (0 when negative, above the `u16` range, or when there is no such step).
    Nothing is evaluated in this proof. -/
theorem ac13_q0_spec (f : Nat) (hf : f < 2 ^ 13) (hm : f &&& 0x40 = 0) (hq : f &&& 0x10 = 0) :
    ac13 f = .ok (ac13SpecQ0 f) := by
  have hF : ac13OfGillham (decodeId13 f) = f := by
    rw [id13_permutation f hf, q0_field f hf hm]
  have h16 : decodeId13 f < 2 ^ 16 := by have := (id13_octal f hf).2.2.2.2; omega
  -- the Spec's search through its encoder finds exactly the step that `gray2alt` decodes
  have hsearch : gray2alt (decodeId13 f) =
      (gillhamStepOf f).bind fun s => if 12 ≤ s then some (s - 12) else none := by
    cases hs : gillhamStepOf f with
    | some s =>
      have hmem := List.mem_of_find?_eq_some hs
      have hlt : s < GILLHAM_STEPS := List.mem_range.mp hmem
      have heq : ac13OfGillham (gillhamEncode s) = f := by simpa using List.find?_some hs
      have hcode := gillham_field s (Proofs.Altitude.steps_lt hlt) hlt
      rw [heq] at hcode
      rw [hcode]
      exact gillham_decode_encode s (Proofs.Altitude.steps_lt hlt) hlt
    | none =>
      cases hg : gray2alt (decodeId13 f) with
      | none => rfl
      | some a =>
        obtain ⟨ha, hea⟩ := gillham_accepts_only_valid _ h16 a hg
        have := List.find?_eq_none.mp hs (a + 12) (List.mem_range.mpr ha)
        rw [hea, hF] at this
        simp at this
  rw [Proofs.Altitude.ac13_q0 f hm hq, hsearch]
  unfold ac13SpecQ0
  cases gillhamStepOf f with
  | none => rfl
  | some s =>
    by_cases h12 : 12 ≤ s
    · simp only [Option.bind, h12, if_true, true_and]
    · simp only [Option.bind, h12, if_false, false_and]

/-- Non-vacuity of the specification: step 400 is 38 800 ft, a field with no step is 0. -/
example : ac13SpecQ0 (ac13OfGillham (gillhamEncode 400)) = 38800 := by decide +kernel
example : gillhamStepOf 0 = none := by decide +kernel

def agree : Outcome (Option Nat) → Outcome Nat → Bool
  | .ok (some a), .ok v => a == v
  | .ok none, .ok v => v == 0
  | _, _ => false

/-- For all 2^12 airborne-position altitude codes, `decode_ac12` and the 13-bit reader
    applied to the same code (M bit re-inserted as 0) agree: same value, or both
    unavailable. -/
theorem ac12_ac13_agree : ∀ c, c < 2 ^ 12 → agree (ac12 c) (ac13 (ac13OfAc12 c)) = true := by
  intro c hc
  -- with M re-inserted the 13-bit reader sees the same Q, the same `N` and the same Gillham field
  obtain ⟨hw, hm, hq, hn⟩ := Proofs.Altitude.withM_table c hc
  by_cases h : c &&& 0x10 = 0
  · rw [Proofs.Altitude.ac12_q0 c h, Proofs.Altitude.ac13_q0 _ hm (hq.trans h), hw]
    cases gray2alt (decodeId13 (ac13OfAc12 c)) with
    | none => rfl
    | some a =>
      show agree (.ok (if a * 100 < 65536 then some (a * 100) else none))
        (.ok (if 100 * a < 65536 then 100 * a else 0)) = true
      rw [Nat.mul_comm a 100]
      split <;> simp [agree]
  · rw [Proofs.Altitude.ac12_q1 c h, Proofs.Altitude.ac13_q1 _ hm (hq ▸ h), hn]
    split <;> simp [agree]

theorem ac12_ne_panic : ∀ c, c < 2 ^ 12 → (ac12 c).isPanic = false := by
  intro c _
  obtain ⟨v, hv⟩ := Proofs.Altitude.ac12_ok c
  rw [hv]; rfl

example : gray2alt (gillhamEncode 12) = some 0 := by decide
example : ac13 0x1910 = .ok 39000 := by decide        -- frame a0001910… of the suite
example : (gillhamAltFt 1279) = 126700 := by decide
example : ac13 (ac13OfGillham (gillhamEncode 1279)) = .ok 0 := by decide +kernel  -- 126 700 ft: not representable

/-- **The regenerated metre-to-foot factor is the f32 nearest to 3.28084** (used by the M = 1 branch of
    `AC13Field`, which the property's quantifier excludes but C01/C07/C08 decode): 1720105 / 2^19, which lies
    within 2^-20 of 3.28084. -/
theorem ft_per_m_literal :
    Gen.Altitude.FT_PER_M_NUM = 1720105 ∧ Gen.Altitude.FT_PER_M_EXP = 19 ∧
      3280839 * 2 ^ 19 < 1720105 * 1000000 ∧ 1720105 * 1000000 < 3280841 * 2 ^ 19 := by
  decide

/-- **No hidden state besides the reviewed one** in the files this property is anchored in.  `decode_id13`, `gray2alt`, `AC13Field::read`, `decode_ac12` are enumerated as functions of the code; the only site in their files is the serialisation switch `CONFIG` (read by `Serialize for TimedMessage` only).
    The translator lists on every run every construct through which a Rust function can carry state from one
    call to the next without it showing in its signature (`static`, `thread_local!`, `lazy_static!`,
    `OnceCell`/`OnceLock`/`Lazy`, `Cell`/`RefCell`/`UnsafeCell`, `Mutex`/`RwLock`, atomics, `unsafe`; whole
    files, gen/extractors/hidden_state.py); a memo, cache or counter added there breaks this obligation by
    name, whatever inputs the harness happens to generate. -/
theorem hidden_state_reviewed :
    Gen.HiddenState.sitesIn ["decode/mod.rs", "decode/bds/bds05.rs"] =
      [("decode/mod.rs", "static CONFIG:OnceCell<SerializeConfig>=OnceCell::new();")] := by decide +kernel

end Rs1090.Props.C13
