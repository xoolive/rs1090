/-
C15 — FLARM decoding is total and inverts an independent encoder.

  "For every byte string, timestamp and reference position (including non-finite ones) FLARM
   decoding returns a record or an error without panicking, every number in a record is finite
   and the track lies in [0, 360).  For every field tuple, device address, timestamp and true
   position within the decodable window of the reference, a packet built and XXTEA-encrypted by
   an independent implementation decodes to the same address, type, flags, altitude and to the
   true position within one quantisation step."

Model: Rs1090/Model/Flarm.lean (`fromRecord`; constants regenerated from flarm.rs into
Rs1090/Gen/Flarm.lean on every run).  Spec: Rs1090/Spec/Flarm.lean (reference key schedule,
reference XXTEA *encryption*, packet builder).  Lemmas: Rs1090/Proofs/Flarm*.lean.

Conventions of the statements
* `ts < 2^32` is the `u32` time stamp; `msg : List Nat` the byte string.
* `roundLat roundLon : Int` are the results of `(ref_lat * 1e7) as i32`, `(ref_lon * 1e7) as i32`;
  the theorems hold for **every** `i32` value (`I32 x`), hence whatever the float step produced
  (0 for NaN, ±2^31 saturation for ±∞ / ±1e300).  `fin = false` (a non-finite reference) is
  rejected by the repaired code before anything else happens.
* `F : FloatOps` (`sqrt`, `atan2`) is arbitrary: nothing below depends on what these return.
* What "every number in a record is finite and the track lies in [0, 360)" becomes here:
  - the INTEGER fields are bounded (`record_bounds`): `latitude = latE7·10⁻⁷`, `vertical_speed = vs10/10`,
    … are exact integers times a decimal scale, so their `f64` values are finite;
  - the TRACK range is proved in EXACT arithmetic (ℚ), for arbitrary results of `sqrt`/`atan2`
    (`track_range`); there the corner arm `if track >= 360. { 0. }` is dead code
    (`wrap_arm_dead_exact`), and `wrap_rounded_range` / `wrap_rounded_needs_arm` show on a
    `rem_euclid` with its one rounding made explicit why the arm is needed in `f64`;
  - `groundspeed` and `track` are `Rat`s in the model.  GROUND SPEED: in `[0, 136]` in the model (`groundspeed_range`)
    and with every operation rounded (`groundspeed_f64_range`), under the explicit hypothesis `SqrtSound` on `sqrt`.
    TRACK: the final `rem_euclid(360.)` + corner arm with the IEEE-754 addition is in `[0, 360)` for every finite
    input (`track_wrap_ieee`).  NOT proved:
    that the value entering the final wrap is finite (libm `atan2` finite on finite arguments; the divisions are by
    non-zero numbers: `trackDivisor_pos`, the literals `4.`, `0.01745`) — checked by the harness on the real code.
* One quantisation step is 128 units of 1e-7 degree.  The decodable window, read off the code
  (19 / 20 transmitted bits, references shifted right by 7), is
  `-2^18 ≤ ⌊q/128⌋ − ⌊r/128⌋ < 2^18` for latitude and `± 2^19` for longitude, `q` the true and `r`
  the reference coordinate in 1e-7 degree.
-/
import Rs1090.Proofs.FlarmRoundtrip
import Rs1090.Proofs.FlarmTrack
import Rs1090.Proofs.FlarmF64
import Rs1090.Gen.HiddenState
namespace Rs1090.Props.C15
open Rs1090 Rs1090.Model.Flarm Rs1090.Gen.Flarm Rs1090.Proofs.Flarm

@[reducible] def I32 (x : Int) : Prop := -2147483648 ≤ x ∧ x < 2147483648

/-- the key tables, DELTA and the round count of flarm.rs are those of the protocol -/
theorem key_tables_ok :
    KEY1.map (BitVec.ofNat 32) = Spec.Flarm.table0 ∧ KEY1B.map (BitVec.ofNat 32) = Spec.Flarm.table1 ∧
    BitVec.ofNat 32 DELTA = Spec.Flarm.delta ∧ ROUNDS = Spec.Flarm.nRounds := by
  decide

/-- every literal shift amount is a legal `u32`/`i32` shift, and the `match` of `decode_actype`
    lists the variants in the order of the enum's discriminants -/
theorem shift_consts_ok :
    MX_Z_SHR < 32 ∧ MX_Y_SHL < 32 ∧ MX_Y_SHR < 32 ∧ MX_Z_SHL < 32 ∧ E_SHR < 32 ∧ ADDR_SHL < 32 ∧
    MULT_SHR < 32 ∧ LAT_REF_SHR < 32 ∧ LAT_SHL < 32 ∧ LON_REF_SHR < 32 ∧ LON_SHL < 32 ∧ ALT_SHR < 32 ∧
    NOTRACK_SHR < 32 ∧ STEALTH_SHR < 32 ∧ GPS_SHR < 32 ∧ ACTYPE_SHR < 32 ∧ ACTYPE_NAMES = ACTYPE_ENUM := by
  decide

/-- **`btea` as implemented (6 rounds, decryption) inverts the reference XXTEA encryption**. -/
theorem btea_inv (v k : List (BitVec 32)) (hv : v.length = 5) (hk : k.length = 4) :
    btea (Spec.Flarm.bteaEnc v k) k = .ok v :=
  btea_bteaEnc v k hv hk

/-- **`make_key` (i64/u64/u32 mixing) is the `uint32_t` reference key schedule**. -/
theorem make_key_spec (ts addr : Nat) (hts : ts < 2 ^ 32) (ha : addr < 2 ^ 32) :
    makeKey ts addr = Spec.Flarm.makeKey (BitVec.ofNat 32 ts) (BitVec.ofNat 32 addr) :=
  makeKey_spec ts addr hts ha

/-- **`Flarm::from_record` never panics**: for every byte string, time stamp, and every `i32`
    value of the two float conversions (vector indices 0..4 in range, `length - 1`, every
    checked `i32` `+ - *`, every run-time shift amount, `rem_euclid`, `unreachable!()`). -/
theorem flarm_ne_panic (F : FloatOps) (ts : Nat) (fin : Bool) (roundLat roundLon : Int)
    (hlat : I32 roundLat) (hlon : I32 roundLon) (msg : List Nat) (s : Site) :
    fromRecord F ts fin roundLat roundLon msg ≠ .panic s := by
  rcases fromRecord_cases F ts fin roundLat roundLon hlat hlon msg with ⟨e, h⟩ | ⟨r, h, -⟩
  · rw [h]; nofun
  · rw [h]; nofun

/-- a non-finite reference position is an error (C15 repair) -/
theorem non_finite_reference_err (F : FloatOps) (ts : Nat) (roundLat roundLon : Int) (msg : List Nat) :
    fromRecord F ts false roundLat roundLon msg = .err .assertion :=
  rfl

theorem record_shape (F : FloatOps) (ts : Nat) (fin : Bool) (roundLat roundLon : Int)
    (hlat : I32 roundLat) (hlon : I32 roundLon) (msg : List Nat) (r : Record)
    (h : fromRecord F ts fin roundLat roundLon msg = .ok r) :
    26 ≤ msg.length ∧ fin = true ∧
    ∃ icao24 isIcao w0 w1 w2 w3 w4 m, 0 ≤ m ∧ m ≤ 3 ∧
      r = recordOf F icao24 isIcao roundLat roundLon w0 w1 w2 w3 w4 m := by
  rcases fromRecord_cases F ts fin roundLat roundLon hlat hlon msg with ⟨e, he⟩ | ⟨r', hr', hshape⟩
  · rw [he] at h; cases h
  · rw [hr'] at h; cases h
    exact hshape

/-- **short input is an error**: fewer than 26 bytes (4 header + 20 encrypted + 13 bits) never
    gives a record. -/
theorem short_input_err (F : FloatOps) (ts : Nat) (fin : Bool) (roundLat roundLon : Int)
    (hlat : I32 roundLat) (hlon : I32 roundLon) (msg : List Nat) (hlen : msg.length < 26) :
    ∃ e, fromRecord F ts fin roundLat roundLon msg = .err e := by
  rcases fromRecord_cases F ts fin roundLat roundLon hlat hlon msg with h | ⟨r, -, h26, -⟩
  · exact h
  · omega

/-- **track ∈ [0, 360)** for every record, on exact rationals (repaired code; `unrepaired_track_leaves_range` in
    Proofs/FlarmTrack.lean shows that `track4 − turning_rate` alone does not have this range). -/
theorem track_range (F : FloatOps) (ts : Nat) (fin : Bool) (roundLat roundLon : Int)
    (hlat : I32 roundLat) (hlon : I32 roundLon) (msg : List Nat) (r : Record)
    (h : fromRecord F ts fin roundLat roundLon msg = .ok r) :
    0 ≤ r.track ∧ r.track < 360 := by
  obtain ⟨_, _, icao24, isIcao, w0, w1, w2, w3, w4, m, _, _, rfl⟩ :=
    record_shape F ts fin roundLat roundLon hlat hlon msg r h
  exact wrapTrack_range _ _

/-- In exact arithmetic the corner arm `if track >= 360. { 0. }` is never taken — the last
    `rem_euclid` is already `< 360` — so `track_range` does not rely on it, for ANY two angles
    `track4`, `track8` — in particular whatever angle `atan2(..)/0.01745` (about (−180.04, 180.04]) and
    the first `rem_euclid` produce. -/
theorem wrap_arm_dead_exact (t4 t8 : Rat) :
    wrapTrack t4 t8 =
        remEuclid (t4 - (EXTRAP_MUL : Rat) * turningRate t4 t8 / (EXTRAP_DIV : Rat)) 360 ∧
      0 ≤ remEuclid (t4 - (EXTRAP_MUL : Rat) * turningRate t4 t8 / (EXTRAP_DIV : Rat)) 360 ∧
      remEuclid (t4 - (EXTRAP_MUL : Rat) * turningRate t4 t8 / (EXTRAP_DIV : Rat)) 360 < 360 :=
  ⟨wrapTrack_arm_dead t4 t8, remEuclid_range _ 360 (by decide)⟩

/-- Why the arm exists: `f64::rem_euclid` is `let r = self % rhs; if r < 0.0 { r + rhs } else { r }`
    with a ROUNDED addition.  For every monotone rounding `rnd` that fixes 0 and 360 the rounded
    `rem_euclid` lands in the closed `[0, 360]`, and with the arm the result is in `[0, 360)`. -/
theorem wrap_rounded_range (rnd : Rat → Rat) (hmono : ∀ a b, a ≤ b → rnd a ≤ rnd b)
    (h0 : rnd 0 = 0) (h360 : rnd 360 = 360) (t : Rat) :
    (0 ≤ remEuclidR rnd t 360 ∧ remEuclidR rnd t 360 ≤ 360) ∧ (0 ≤ wrapR rnd t ∧ wrapR rnd t < 360) :=
  ⟨remEuclidR_range rnd hmono t 360 (by decide) h0 h360, wrapR_range rnd hmono h0 h360 t⟩

/-- … and the arm is needed there: a monotone rounding fixing 0 and 360 under which the rounded
    `rem_euclid` of a small negative angle is exactly 360 (what `f64` does for `-1e-14`). -/
theorem wrap_rounded_needs_arm :
    ∃ rnd : Rat → Rat, (∀ a b, a ≤ b → rnd a ≤ rnd b) ∧ rnd 0 = 0 ∧ rnd 360 = 360 ∧
      ∃ t, remEuclidR rnd t 360 = 360 ∧ wrapR rnd t = 0 :=
  ⟨coarse, coarse_mono, remEuclidR_reaches_corner.1, remEuclidR_reaches_corner.2.1,
    -1 / 2, remEuclidR_reaches_corner.2.2⟩

/-- the integers behind a record's numbers are bounded (so the `f64` values computed from them
    are finite): positions are `i32`, the vertical speed is a signed byte times 0..3, … -/
theorem record_bounds (F : FloatOps) (ts : Nat) (fin : Bool) (roundLat roundLon : Int)
    (hlat : I32 roundLat) (hlon : I32 roundLon) (msg : List Nat) (r : Record)
    (h : fromRecord F ts fin roundLat roundLon msg = .ok r) :
    I32 r.latE7 ∧ I32 r.lonE7 ∧ r.geoaltitude < 8192 ∧ r.gps < 4096 ∧ r.actype < 16 ∧
    0 ≤ r.mult ∧ r.mult ≤ 3 ∧ -384 ≤ r.vs10 ∧ r.vs10 ≤ 381 ∧
    r.ns.length = 4 ∧ r.ew.length = 4 ∧ (∀ x ∈ r.ns ++ r.ew, -384 ≤ x ∧ x ≤ 381) := by
  obtain ⟨_, _, icao24, isIcao, w0, w1, w2, w3, w4, m, h0, h3, hr⟩ :=
    record_shape F ts fin roundLat roundLon hlat hlon msg r h
  exact recordOf_bounds F icao24 isIcao roundLat roundLon w0 w1 w2 w3 w4 m h0 h3 r hr

/-- the divisor used by the track estimate is never zero (`if v < 1e-6 { 1. }`) -/
theorem trackDivisor_pos (v : Rat) : 0 < trackDivisor v :=
  Proofs.Flarm.trackDivisor_pos v

/-! ### ground speed bounded, and the track wrap with the IEEE-754 addition (lemmas: `Proofs/FlarmF64.lean`)

`F.sqrt` is a parameter; the hypothesis on it is explicit: `SqrtSound sqrt := ∀ x ∈ [0, 18432], 0 ≤ sqrt x ∧
sqrt x · sqrt x ≤ x + 1` (true of the real and of the correctly rounded binary64 square root; asked only on the range
the decoder uses).  No hypothesis on `atan2` is needed for the range of the track: the final wrap is total. -/

/-- **ground speed ∈ [0, 136]** for every record (exact arithmetic, `sqrt` any function satisfying `SqrtSound`):
    four samples `√((n/4)² + (e/4)²)` with `n, e ∈ [−384, 381]` (`record_bounds`), mean. -/
theorem groundspeed_range (F : FloatOps) (hs : SqrtSound F.sqrt) (ts : Nat) (fin : Bool) (roundLat roundLon : Int)
    (hlat : I32 roundLat) (hlon : I32 roundLon) (msg : List Nat) (r : Record)
    (h : fromRecord F ts fin roundLat roundLon msg = .ok r) :
    0 ≤ r.groundspeed ∧ r.groundspeed ≤ 136 := by
  obtain ⟨_, _, _, _, _, _, _, _, _, hl, _, hb⟩ := record_bounds F ts fin roundLat roundLon hlat hlon msg r h
  obtain ⟨_, _, icao24, isIcao, w0, w1, w2, w3, w4, m, _, _, rfl⟩ :=
    record_shape F ts fin roundLat roundLon hlat hlon msg r h
  exact groundspeed_bounds F hs _ _ hl hb

open Rs1090.Proofs.CprFloat Rs1090.Proofs.IeeeRound in
/-- **ground speed finite in f64**: `decode_groundspeed` with EVERY operation rounded (`fGroundspeed fl sqrt`:
    `n as f64 / 4.`, the products, the sums, the mean; `sqrt` returning a binary64 value) on the velocity lists of any
    record returns a value in `[0, 136]`, every intermediate being in `[0, 18432]` (`fGsStep_bound`) — far below
    `2^1023`, so nothing overflows and no NaN arises; for every rounding with `Rounding fl`, and for IEEE-754. -/
theorem groundspeed_f64_range (F : FloatOps) (ts : Nat) (fin : Bool) (roundLat roundLon : Int)
    (hlat : I32 roundLat) (hlon : I32 roundLon) (msg : List Nat) (r : Record)
    (h : fromRecord F ts fin roundLat roundLon msg = .ok r) (sqrt : Rat → Rat) (hs : SqrtSound sqrt) :
    (∀ fl, Rounding fl → 0 ≤ fGroundspeed fl sqrt r.ns r.ew ∧ fGroundspeed fl sqrt r.ns r.ew ≤ 136) ∧
    (0 ≤ fGroundspeed fl64 sqrt r.ns r.ew ∧ fGroundspeed fl64 sqrt r.ns r.ew ≤ 136) := by
  obtain ⟨_, _, _, _, _, _, _, _, _, hl, _, hb⟩ := record_bounds F ts fin roundLat roundLon hlat hlon msg r h
  exact ⟨fun fl R => fGroundspeed_bounds R hs _ _ hl hb, fGroundspeed_bounds rounding_fl64 hs _ _ hl hb⟩

open Rs1090.Proofs.IeeeRound in
/-- **track ∈ [0, 360) in binary64**: the last two statements of `decode_track` — std's `rem_euclid(360.)`
    (`let r = t % 360.; if r < 0. { r + 360. } else { r }`, `%` exact, the addition rounded to nearest-even) and the
    corner arm `if track >= 360. { 0. }` — return a value in `[0, 360)` for EVERY finite `t`; hence whatever `atan2`,
    the divisions and the first `rem_euclid`s produced.  Completes `wrap_rounded_range` (abstract monotone rounding)
    with the IEEE-754 instance. -/
theorem track_wrap_ieee (t : Rat) : 0 ≤ wrapR fl64 t ∧ wrapR fl64 t < 360 := wrapR_ieee t

open Rs1090.Proofs.IeeeRound in
/-- **the `360.0` corner of `rem_euclid`, sharp**: the IEEE `rem_euclid` returns exactly 360.0 iff the truncated
    remainder lies in `[−2⁻⁴⁵, 0)`; it does for `t = −2⁻⁴⁶` (so the arm is needed under IEEE rounding itself, not
    only under the artificial rounding of `wrap_rounded_needs_arm`), and the arm then returns 0. -/
theorem track_wrap_ieee_corner :
    (∀ t : Rat, remEuclidR fl64 t 360 = 360 ↔ (-(1 / 2 ^ 45) ≤ fmodPos t 360 ∧ fmodPos t 360 < 0)) ∧
    remEuclidR fl64 (-(1 / 2 ^ 46)) 360 = 360 ∧ wrapR fl64 (-(1 / 2 ^ 46)) = 0 :=
  ⟨remEuclidR_ieee_eq_360_iff, remEuclidR_ieee_corner⟩

-- `SqrtSound` is satisfiable: by the integer square root of the integer part, and trivially by a constant
example : SqrtSound isqrt := isqrt_sound
example : SqrtSound (fun _ => 0) := fun x h0 _ => ⟨le_refl _, by simpa using by linarith⟩
example : isqrt 18432 = 135 := by decide +kernel

/-- **Address, address type, aircraft type, flags, altitude and GPS status of a Spec-built,
    Spec-encrypted packet are decoded exactly**. -/
theorem flarm_roundtrip (F : FloatOps) (ts : Nat) (hts : ts < 2 ^ 32)
    (f : Spec.Flarm.Fields) (hf : f.WF) (roundLat roundLon : Int) (hlat : I32 roundLat) (hlon : I32 roundLon)
    (t0 t1 : Nat) (extra : List Nat) :
    ∃ r, fromRecord F ts true roundLat roundLon (Spec.Flarm.buildPacket ts f (t0 :: t1 :: extra)) = .ok r ∧
      r.icao24 = f.addr ∧ r.isIcao = f.addrIsIcao ∧ r.actype = f.actype ∧
      r.stealth = f.stealth ∧ r.noTrack = f.noTrack ∧ r.geoaltitude = f.alt ∧ r.gps = f.gps := by
  obtain ⟨m, h⟩ := fromRecord_buildPacket F ts hts f hf.addr roundLat roundLon hlat hlon t0 t1 extra
  obtain ⟨ha, hn, hs, hg, _⟩ := word0_extract f hf
  obtain ⟨halt, _⟩ := word1_extract f hf
  exact ⟨_, h, rfl, rfl, ha, hs, hn, halt, hg⟩

/-- **Latitude window.**  For every `i32` reference `roundLat` and true latitude `f.latE7`
    (`i32`, 1e-7 degree) with `-2^18 ≤ ⌊q/128⌋ − ⌊r/128⌋ < 2^18`, the decoded latitude is the centre
    of the true 128-unit cell: at most 64 units (half a quantisation step) from the truth. -/
theorem window_lat (F : FloatOps) (ts : Nat) (hts : ts < 2 ^ 32)
    (f : Spec.Flarm.Fields) (hf : f.WF) (roundLat roundLon : Int) (hlat : I32 roundLat) (hlon : I32 roundLon)
    (t0 t1 : Nat) (extra : List Nat)
    (hq : I32 f.latE7)
    (hwin : -262144 ≤ f.latE7 / 128 - roundLat / 128 ∧ f.latE7 / 128 - roundLat / 128 < 262144) :
    ∃ r, fromRecord F ts true roundLat roundLon (Spec.Flarm.buildPacket ts f (t0 :: t1 :: extra)) = .ok r ∧
      r.latE7 = f.latE7 / 128 * 128 + 64 ∧ -64 ≤ r.latE7 - f.latE7 ∧ r.latE7 - f.latE7 ≤ 64 := by
  obtain ⟨m, h⟩ := fromRecord_buildPacket F ts hts f hf.addr roundLat roundLon hlat hlon t0 t1 extra
  exact ⟨_, h, cell_centre (lat_window _ f.latE7 roundLat (word1_extract f hf).2 hq hwin)⟩

/-- **Longitude window**: the same with 20 transmitted bits, `± 2^19` cells. -/
theorem window_lon (F : FloatOps) (ts : Nat) (hts : ts < 2 ^ 32)
    (f : Spec.Flarm.Fields) (hf : f.WF) (roundLat roundLon : Int) (hlat : I32 roundLat) (hlon : I32 roundLon)
    (t0 t1 : Nat) (extra : List Nat)
    (hq : I32 f.lonE7)
    (hwin : -524288 ≤ f.lonE7 / 128 - roundLon / 128 ∧ f.lonE7 / 128 - roundLon / 128 < 524288) :
    ∃ r, fromRecord F ts true roundLat roundLon (Spec.Flarm.buildPacket ts f (t0 :: t1 :: extra)) = .ok r ∧
      r.lonE7 = f.lonE7 / 128 * 128 + 64 ∧ -64 ≤ r.lonE7 - f.lonE7 ∧ r.lonE7 - f.lonE7 ≤ 64 := by
  obtain ⟨m, h⟩ := fromRecord_buildPacket F ts hts f hf.addr roundLat roundLon hlat hlon t0 t1 extra
  exact ⟨_, h, cell_centre (lon_window _ f.lonE7 roundLon (word2_extract f hf) hq hwin)⟩

/-- A sufficient window in plain coordinates: a reference within 2^25 − 128 units of 1e-7 degree
    (≈ 3.355°) of the true latitude, resp. 2^26 − 128 (≈ 6.71°) of the true longitude, is inside. -/
theorem window_sufficient (q r : Int) :
    (-33554304 ≤ q - r ∧ q - r ≤ 33554304 → -262144 ≤ q / 128 - r / 128 ∧ q / 128 - r / 128 < 262144) ∧
    (-67108736 ≤ q - r ∧ q - r ≤ 67108736 → -524288 ≤ q / 128 - r / 128 ∧ q / 128 - r / 128 < 524288) := by
  constructor <;> intro h <;> omega

/-- The window is sharp: one cell further and the decoder reconstructs the alias 2^19 cells away
    (`fold19 … + ⌊r/128⌋` is the cell whose centre `decode_latitude` returns). -/
theorem window_lat_sharp (w1 : Nat) (q r : Int) (hw : w1 % 524288 = Spec.Flarm.coordBits q 19)
    (hout : q / 128 - r / 128 = 262144) :
    fold19 (((w1 % 524288 : Nat) : Int) - r / 128) + r / 128 = q / 128 - 524288 := by
  rw [hw]
  unfold Spec.Flarm.coordBits fold19
  simp only [Int.reducePow]
  split <;> omega

/-! ### non-vacuity: the two packets of the repository's own test (`test_flarm`) -/

/-- a concrete `FloatOps` (the integer fields do not depend on it) -/
def F0 : FloatOps := ⟨fun x => x, fun y _ => y⟩

def testMsg1 : List Nat :=
  [0x7b, 0xf2, 0x38, 0x10, 0x86, 0x0b, 0x7e, 0xab, 0xb2, 0x39, 0x52, 0x25, 0x2f, 0xd4, 0x92, 0x70,
   0x24, 0xb2, 0x1f, 0xd9, 0x4e, 0x9e, 0x1e, 0xf4, 0x16, 0xf0]
def testMsg2 : List Nat :=
  [0x7b, 0xf2, 0x38, 0x10, 0x40, 0xcc, 0xc7, 0xe2, 0x39, 0x5e, 0xca, 0xa2, 0x8e, 0x03, 0x3a, 0x65,
   0x5d, 0x47, 0xe1, 0xd9, 0x1d, 0x0b, 0xf9, 0x86, 0xe1, 0xb0]

def check (o : Outcome Record) (p : Record → Bool) : Bool :=
  match o with
  | .ok r => p r
  | _ => false

/-- reference (43.61924, 5.11755): `(43.61924 * 1e7) as i32 = 436192400`,
    `(5.11755 * 1e7) as i32 = 51175499`; the record is the one `test_flarm` expects
    (address 38f27b, ICAO, glider, 43.6182208°, 5.1172416°, 160 m, −1.1 m/s, gps 3926). -/
example : check (fromRecord F0 1655274034 true 436192400 51175499 testMsg1) (fun r =>
    r.icao24 == 0x38f27b && r.isIcao && r.actype == 1 && r.latE7 == 436182208 && r.lonE7 == 51172416 &&
    r.geoaltitude == 160 && r.vs10 == -11 && r.ns == [-3, -3, -3, -3] && r.ew == [-1, -1, -1, -1] &&
    !r.noTrack && !r.stealth && r.gps == 3926 && r.mult == 1) = true := by
  decide +kernel

example : check (fromRecord F0 1655279476 true 436192400 51175499 testMsg2) (fun r =>
    r.latE7 == 436812864 && r.lonE7 == 51505856 && r.geoaltitude == 970) = true := by
  decide +kernel

/-- a well-formed field tuple inside both windows exists, and its packet decodes -/
def f0 : Spec.Flarm.Fields :=
  { addr := 0x38f27b, addrIsIcao := true, vs := 1013, spareA := 0, stealth := false, noTrack := true,
    spareB := 0, gps := 3926, actype := 1, latE7 := 436182250, alt := 160, lonE7 := -51172400,
    spareC := 0, factor := 0, ns0 := 253, ns1 := 253, ns2 := 253, ns3 := 253,
    ew0 := 255, ew1 := 255, ew2 := 255, ew3 := 255 }

example : f0.WF := by constructor <;> decide
example : I32 f0.latE7 ∧ -262144 ≤ f0.latE7 / 128 - 436192400 / 128 ∧ f0.latE7 / 128 - 436192400 / 128 < 262144 := by
  decide
example : check (fromRecord F0 1655274034 true 436192400 (-51175499) (Spec.Flarm.buildPacket 1655274034 f0 [0, 0]))
    (fun r => r.icao24 == 0x38f27b && r.noTrack && r.geoaltitude == 160 &&
      r.latE7 == 436182208 && r.lonE7 == -51172416) = true := by
  decide +kernel

/-- short and long inputs: 25 bytes are an error, trailing bytes are ignored -/
example : (fromRecord F0 1655274034 true 436192400 51175499 (testMsg1.take 25)).isOk = false := by
  decide +kernel
example : (fromRecord F0 1655274034 true 436192400 51175499 (testMsg1 ++ [1, 2, 3])).isOk = true := by
  decide +kernel

/-- The code side of "is a function of its input": `Flarm::from_record` is modelled as a function of (bytes,
    time stamp, reference); flarm.rs holds no state at all (the key tables are `const`).  `sitesIn` lists
    every construct through which a Rust function can carry state from one call to the next without it
    showing in its signature (whole files, gen/extractors/hidden_state.py); a memo, cache or counter added
    there breaks this theorem. -/
theorem hidden_state_reviewed :
    Gen.HiddenState.sitesIn ["decode/flarm.rs"] =
      [] := by decide

end Rs1090.Props.C15
