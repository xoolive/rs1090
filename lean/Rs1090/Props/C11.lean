/-
C11 — the output filters keep exactly the records whose displayed df and icao24 match.

  "For every decoded record of a downlink format that carries an aircraft address (0, 4, 5, 11,
   16, 17, 18, 20, 21) and every filter configuration, the record is kept exactly when the
   downlink-format filter is absent or empty or contains the record's displayed downlink format,
   and the aircraft filter is absent or empty or contains the record's displayed 24-bit address.
   Records that failed to decode are never kept."

Model: Model/Filters.lean (`isIn`, arm by arm as filters.rs; `display` from the serde attributes of
`enum DF`; `viewOf` from the frame bits and the checksum remainder).  Spec: Spec/Filters.lean
(`dfOk`, `acOk`, from the property text).  "Displayed" is tied to the decoder model's JSON by
`display_matches_json` (from `Proofs.Filters.tryFrom_view`: independent of all payload readers).
-/
import Rs1090.Proofs.Filters
import Rs1090.Spec.Filters
namespace Rs1090.Props.C11
open Rs1090 Rs1090.Model Rs1090.Model.Filters Rs1090.Spec.Filters Rs1090.Proofs.Filters

/-- the Boolean clauses of the specification say what the property text says -/
theorem dfOk_iff (f : Option (List String)) (d : String) : dfOk f d = true ↔ DfOk f d := by
  unfold dfOk DfOk
  cases f with
  | none => simp
  | some l => cases l <;> simp

theorem acOk_iff (f : Option (List Nat)) (a : Option Nat) : acOk f a = true ↔ AcOk f a := by
  unfold acOk AcOk
  cases f with
  | none => simp
  | some l => cases l <;> cases a <;> simp

/-- `Filters::aircraft_in` is the aircraft clause -/
theorem aircraftIn_eq (cfg : Cfg) (a : Nat) : aircraftIn cfg a = acOk cfg.acFilter (some a) := by
  unfold aircraftIn acOk
  cases cfg.acFilter with
  | none => rfl
  | some l => simp [Bool.or_comm]

/-- `Filters::df_in` is the downlink-format clause -/
theorem dfIn_eq (cfg : Cfg) (d : String) : dfIn cfg d = dfOk cfg.dfFilter d := by
  unfold dfIn dfOk
  cases cfg.dfFilter with
  | none => rfl
  | some l => simp [Bool.or_comm]

/-- **The filter keeps a decoded record of an address-carrying format exactly when both clauses of
    the property hold for what the record displays** — all filter lists, all views. -/
theorem filter_spec (cfg : Cfg) (v : MsgView) (hv : addressCarrying v = true) :
    isIn cfg (some v) = (dfOk cfg.dfFilter (display v).1 && acOk cfg.acFilter (display v).2) := by
  cases v <;> first | (cases hv; done) | skip
  all_goals
    simp only [isIn, display, aircraftIn_eq, dfIn_eq]
    cases acOk cfg.acFilter _ <;> simp

/-- the same statement with the clauses as propositions (the property text, word for word) -/
theorem filter_spec_iff (cfg : Cfg) (v : MsgView) (hv : addressCarrying v = true) :
    isIn cfg (some v) = true ↔ DfOk cfg.dfFilter (display v).1 ∧ AcOk cfg.acFilter (display v).2 := by
  rw [filter_spec cfg v hv, Bool.and_eq_true, dfOk_iff, acOk_iff]

/-- **Records that failed to decode are never kept.** -/
theorem undecoded_dropped (cfg : Cfg) : isIn cfg none = false := rfl


/-! ### "displayed" is what the decoder model's JSON shows

`Message.tryFrom bs` is C01/C07's model of `Message::try_from` + `serde_json::to_string`; its `df` and
`icao24` members are produced by the top-level `DF` reader, so the statements below hold whatever the
payload readers (`ME`, Comm-B registers, altitude/identity fields) do — they are opaque in the proof. -/

/-- every decoded record (serialisable or not) has a view: `isIn cfg (viewOf bs)` is the filter's
    answer on it -/
theorem decoded_has_view (bs : List Nat) (d : Message.Decoded) (h : Message.tryFrom bs = .ok d) :
    ∃ v, viewOf bs = some v := by
  obtain ⟨v, hv, _⟩ := tryFrom_view bs d h
  exact ⟨v, hv⟩

/-- **The displayed values are the JSON's.** If the decoder accepts `bs` and the message serialises to
    the object `kvs`, then the object starts with the member `"df": "<(display v).1>"` and, when `v`
    displays an address `a`, has the member `"icao24": "<a as six hex digits>"` — all nine
    address-carrying formats (and DF19, DF24–31, which display no address). -/
theorem display_matches_json (bs : List Nat) (kvs : List (Key × Json))
    (h : Message.tryFrom bs = .ok (.json (.obj kvs))) :
    ∃ v, viewOf bs = some v ∧
      (∃ k, kvs.head? = some (key! "df", Json.lit k) ∧ k.name = (display v).1) ∧
      ∀ a, (display v).2 = some a → (key! "icao24", jhex6 a) ∈ kvs := by
  obtain ⟨v, hv, hs⟩ := tryFrom_view bs _ h
  exact ⟨v, hv, hs kvs rfl⟩

/-- the same by key lookup, for an object without duplicate keys (C07 `keys_nodup`) -/
theorem display_matches_json_lookup (bs : List Nat) (kvs : List (Key × Json))
    (h : Message.tryFrom bs = .ok (.json (.obj kvs))) (hnd : (kvs.map (·.1.id)).Nodup) :
    ∃ v, viewOf bs = some v ∧
      (∃ k, objGet kvs (key! "df") = some (Json.lit k) ∧ k.name = (display v).1) ∧
      ∀ a, (display v).2 = some a → objGet kvs (key! "icao24") = some (jhex6 a) := by
  obtain ⟨v, hv, ⟨k, hk, hn⟩, ha⟩ := display_matches_json bs kvs h
  exact ⟨v, hv, ⟨k, objGet_head hk, hn⟩, fun a hda => objGet_of_mem hnd (ha a hda)⟩

theorem displayed_address_24bit (bs : List Nat) (v : MsgView) (a : Nat) (hb : ∀ b ∈ bs, b < 256)
    (hv : viewOf bs = some v) (ha : (display v).2 = some a) : a < 2 ^ 24 :=
  viewOf_display_lt hb hv ha

/-- **End to end.** For a frame of one of the nine formats that decodes and serialises to an object
    (without duplicate keys), the filter's answer on the record is the property's two clauses applied
    to the `df` and `icao24` members read back from the JSON. -/
theorem record_filter_spec (cfg : Cfg) (bs : List Nat) (kvs : List (Key × Json))
    (h : Message.tryFrom bs = .ok (.json (.obj kvs))) (hnd : (kvs.map (·.1.id)).Nodup)
    (hdf : [0, 4, 5, 11, 16, 17, 18, 20, 21].contains (bitsBE bs 0 5) = true) :
    ∃ k a, objGet kvs (key! "df") = some (Json.lit k) ∧ objGet kvs (key! "icao24") = some (jhex6 a) ∧
      isIn cfg (viewOf bs) = (dfOk cfg.dfFilter k.name && acOk cfg.acFilter (some a)) := by
  obtain ⟨v, hv, ⟨k, hk, hn⟩, ha⟩ := display_matches_json_lookup bs kvs h hnd
  have hac : addressCarrying v = true := by rw [viewOf_addressCarrying hv]; exact hdf
  have hsome : ∃ a, (display v).2 = some a := by
    cases v <;> first | (cases hac; done) | exact ⟨_, rfl⟩
  obtain ⟨a, hda⟩ := hsome
  refine ⟨k, a, hk, ha a hda, ?_⟩
  rw [hv, filter_spec cfg v hac, hn, hda]

/-! ### non-vacuity: the repository's own `test_filter` cases, through `viewOf` -/

/-- `8c4841753a9a153237aef0f275be` (DF17, icao24 484175) -/
def frame17 : List Nat := [0x8c, 0x48, 0x41, 0x75, 0x3a, 0x9a, 0x15, 0x32, 0x37, 0xae, 0xf0, 0xf2, 0x75, 0xbe]
/-- `02c18c3b323e4f` (DF0) -/
def frame0 : List Nat := [0x02, 0xc1, 0x8c, 0x3b, 0x32, 0x3e, 0x4f]

example : viewOf frame17 = some (.adsb 0x484175) := viewOf_test17
example : isIn ⟨some [], some []⟩ (viewOf frame17) = true := by rw [frame17, viewOf_test17]; rfl
example : isIn ⟨some ["17", "20", "21"], some []⟩ (viewOf frame17) = true := by rw [frame17, viewOf_test17]; decide
example : isIn ⟨some ["17", "20", "21"], some [0x484175]⟩ (viewOf frame17) = true := by rw [frame17, viewOf_test17]; decide
example : isIn ⟨some ["11"], some [0x484175]⟩ (viewOf frame17) = false := by rw [frame17, viewOf_test17]; decide
example : isIn ⟨some ["17", "20", "21"], some [0x333333]⟩ (viewOf frame17) = false := by rw [frame17, viewOf_test17]; decide
example : isIn ⟨some ["17", "20", "21"], none⟩ (viewOf frame0) = false := by rw [frame0, viewOf_test0]; decide
example : isIn ⟨some ["0"], none⟩ (viewOf frame0) = true := by rw [frame0, viewOf_test0]; decide
/-- the DF18 record of the finding (`92aabbcc…`, AA = aabbcc, PI = f3d9e5): a filter on the displayed
    address keeps it, a filter on the parity value drops it (the unrepaired code did the opposite) -/
def frame18 : List Nat := [0x92, 0xaa, 0xbb, 0xcc, 0x20, 0x15, 0xa6, 0x78, 0xd4, 0xd2, 0x20, 0xf3, 0xd9, 0xe5]
example : viewOf frame18 = some (.tisb 0xaabbcc) := viewOf_test18
example : isIn ⟨none, some [0xaabbcc]⟩ (viewOf frame18) = true := by rw [frame18, viewOf_test18]; decide
example : isIn ⟨none, some [0xf3d9e5]⟩ (viewOf frame18) = false := by rw [frame18, viewOf_test18]; decide
/-- the hypotheses of `display_matches_json` are satisfiable: the decoder model accepts these frames
    (DF17 identification; the DF18 frame of the finding; the DF0 frame) and serialises them to objects -/
def acceptsObj (bs : List Nat) : Bool :=
  match Message.tryFrom bs with
  | .ok (.json (.obj _)) => true
  | _ => false
example : acceptsObj [0x8d,0x40,0x6b,0x90,0x20,0x15,0xa6,0x78,0xd4,0xd2,0x20,0xaa,0x4b,0xda] = true := by
  obtain ⟨kvs, h⟩ := Message.tryFrom_test_json
  unfold acceptsObj
  rw [h]
example : acceptsObj frame18 = true := by decide +kernel
example : acceptsObj frame0 = true := by decide +kernel

end Rs1090.Props.C11
