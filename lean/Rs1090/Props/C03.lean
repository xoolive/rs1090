/-
C03 — field decoding inverts the standard's encoding, for every encodable value.

Model: the decoder model `Rs1090/Model/Decode/*` (tied to the Rust code by differential execution).
Spec : `Rs1090/Spec/Encode.lean` (+ `Spec/Altitude.lean`, `Spec/Crc.lean`): encoders written from
       Annex 10 Vol IV / Doc 9871 / DO-260B.

Layer 1 (this file, first part) — *field codecs*: `decode (encode x) = x` (the RIGHT-hand side is the value
given to the Spec encoder, never "whatever the decoder does").  The conversions are checked integer
arithmetic: their closed forms on every code are in `Proofs/Decode/Conversions.lean` (altitude:
`Proofs/Altitude.lean`), and the round trips here are `omega` on those and on the Spec encoder.  What is a
table by nature (characters, movement buckets, the single-precision pressure value) is evaluated completely by
the kernel (`decide +kernel` on the divide-and-conquer `allBits`).

Layer 2 (second part) — *frames*: the decoder model applied to the Spec frame yields a JSON object
carrying the encoded values, for ALL values of all the other fields of the frame.

Naming:
* plain name — the statement holds over the entire encodable code space of the field (sentinel "no
  information" codes excluded, as in the property).  Exception, visible in each statement: the field theorems
  of BDS 4,0 / 5,0 / 6,0 (`selalt40_rt`, `roll50_rt`, `gs50_rt`, `tas50_rt`, `ias60_rt`, `mach60_rt`) carry the
  plausibility limit of the decoder's Comm-B inference as an explicit hypothesis (45 000 ft, |roll| ≤ 50°,
  GS ≤ 600 kt, …): beyond it the whole register is not recognised;
* `…_partial` — the full-strength statement is FALSE for the code as it is (or, for BDS 4,0/5,0/6,0, holds only
  inside the plausibility rules of the decoder's Comm-B inference); the full statement is kept in a comment, the
  exact hypothesis of what is proved is in the theorem, and `…_full_false` / `…_witness` prove the negation
  of the full statement from a concrete input (`decide +kernel`);
* `finding_…` — characterises a recorded defect (known_findings): what the decoder returns where it does
  NOT return the encoded value.  These are not evidence for the property.
* `…_of` — composition lemmas (frame ↔ field codec) used by both kinds.
-/
import Rs1090.Proofs.Decode.GenBds
import Rs1090.Model.Decode.Message
import Rs1090.Spec.Encode
import Rs1090.Props.C13
import Rs1090.Proofs.Decode.Conversions
import Rs1090.Proofs.C03Commb
import Rs1090.Proofs.C03Air
import Rs1090.Proofs.C03Track
import Rs1090.Gen.HiddenState
namespace Rs1090.Props.C03
open Rs1090 Rs1090.Model Rs1090.Model.Message Rs1090.Spec Rs1090.Spec.Encode Rs1090.Props.C13 Rs1090.Proofs.C03

theorem enum2 {P : Nat → Nat → Prop} [∀ a b, Decidable (P a b)] (da db : Nat)
    (h : allBits (fun x => decide (P (x / 2 ^ db) (x % 2 ^ db))) (da + db) 0 = true) :
    ∀ a, a < 2 ^ da → ∀ b, b < 2 ^ db → P a b := by
  intro a ha b hb
  have hx : a * 2 ^ db + b < 2 ^ (da + db) := by
    rw [Nat.pow_add]
    calc a * 2 ^ db + b < a * 2 ^ db + 2 ^ db := by omega
      _ = (a + 1) * 2 ^ db := by rw [Nat.add_mul]; omega
      _ ≤ 2 ^ da * 2 ^ db := Nat.mul_le_mul_right _ (by omega)
  have := forall_lt_of_sweep (da + db) h _ hx
  have hp : 0 < 2 ^ db := Nat.two_pow_pos db
  rwa [Nat.mul_comm a, Nat.mul_add_div hp, Nat.div_eq_of_lt hb, Nat.mul_add_mod, Nat.mod_eq_of_lt hb,
    Nat.add_zero] at this

/-- the direction bit of the sign-and-magnitude fields of BDS 0,9 -/
def signed (sign : Nat) (v : Nat) : Int := if sign = 0 then (v : Int) else -(v : Int)

/-! Altitude.  The property at FULL strength — every altitude the 25 ft encoding (N = 0 … 2047, −1000 … 50 175 ft) and the
Gillham encoding (steps 0 … 1279, −1200 … 126 700 ft) can carry decodes to that altitude — reads

    theorem alt25_rt      : ∀ n, n < 2 ^ 11 → ∃ v : Nat, ac12 (ac12Q n) = .ok (some v) ∧ (v : Int) = 25 * n - 1000
    theorem alt25_ac13_rt : ∀ n, n < 2 ^ 11 → ∃ v : Nat, ac13 (ac13Q n) = .ok v ∧ (v : Int) = 25 * n - 1000
    theorem gillham_rt    : ∀ s, s < GILLHAM_STEPS → ∃ v : Nat, ac12 (ac12G s) = .ok (some v) ∧ (v : Int) = 100 * s - 1200
    theorem gillham_ac13_rt : ∀ s, s < GILLHAM_STEPS → ∃ v : Nat, ac13 (ac13G s) = .ok v ∧ (v : Int) = 100 * s - 1200

and is FALSE for the code as it is: the decoder's result types are unsigned (`Option<u16>` in BDS 0,5, `u16` in
the AC field, where 0 doubles as "unavailable"), so the 41 codes N ≤ 40 (−1000 … 0 ft), the 12 Gillham steps below
0 ft and the 612 Gillham steps above 65 500 ft are reported as unavailable / 0.  These are encodable values, not
the "not available" sentinel (which is the all-zero field).  Known findings `C03-altitude-nonpositive-unavailable`
and `C03-gillham-altitude-above-65500-unavailable`. -/

theorem alt25_nonpositive_witness :
    n25 (-25) = 39 ∧ ac12 (ac12Q (n25 (-25))) = .ok none ∧ ac13 (ac13Q (n25 (-25))) = .ok 0 := by
  decide +kernel

theorem alt25_full_false :
    ¬ (∀ n, n < 2 ^ 11 → ∃ v : Nat, ac12 (ac12Q n) = .ok (some v) ∧ (v : Int) = 25 * (n : Int) - 1000) := by
  intro h
  obtain ⟨v, hv, _⟩ := h 39 (by decide)
  cases hv.symm.trans alt25_nonpositive_witness.2.1

theorem alt25_ac13_full_false :
    ¬ (∀ n, n < 2 ^ 11 → ∃ v : Nat, ac13 (ac13Q n) = .ok v ∧ (v : Int) = 25 * (n : Int) - 1000) := by
  intro h
  obtain ⟨v, hv, he⟩ := h 39 (by decide)
  cases hv.symm.trans alt25_nonpositive_witness.2.2
  omega

/-- **25 ft encoding, ME field (BDS 0,5), the 2007 codes N > 40 (25 … 50 175 ft)** -/
theorem alt25_rt_partial : ∀ n, n < 2 ^ 11 → n > 40 → ac12 (ac12Q n) = .ok (some (25 * n - 1000)) := by
  intro n hn h40
  rw [Proofs.Altitude.ac12_linear n hn, if_pos h40]

/-- the same through the 13-bit AC field of DF 0/4/16/20 (C13) -/
theorem alt25_ac13_rt_partial : ∀ n, n < 2 ^ 11 → n > 40 → ac13 (ac13Q n) = .ok (25 * n - 1000) := by
  intro n hn h40
  rw [ac13Q, ac13_linear n hn, if_pos h40]

theorem finding_alt25_nonpositive_unavailable : ∀ n, n < 2 ^ 11 → n ≤ 40 →
    ac12 (ac12Q n) = .ok none ∧ ac13 (ac13Q n) = .ok 0 := by
  intro n hn h40
  have h : ¬ n > 40 := by omega
  exact ⟨by rw [Proofs.Altitude.ac12_linear n hn, if_neg h], by rw [ac13Q, ac13_linear n hn, if_neg h]⟩

theorem n25_exact (a : Int) (h1 : -1000 ≤ a) (h2 : a ≤ 50175) (hg : (a + 1000) % 25 = 0) :
    n25 a < 2 ^ 11 ∧ (25 * (n25 a : Int) - 1000 = a) := by
  unfold n25; omega

theorem gillham_out_of_u16_witness :
    gillhamStep (-100) = 11 ∧ ac12 (ac12G 11) = .ok none ∧ ac13 (ac13G 11) = .ok 0 ∧
    gillhamStep 65600 = 668 ∧ ac12 (ac12G 668) = .ok none ∧ ac13 (ac13G 668) = .ok 0 := by
  decide +kernel

theorem gillham_full_false :
    ¬ (∀ s, s < GILLHAM_STEPS → ∃ v : Nat, ac12 (ac12G s) = .ok (some v) ∧ (v : Int) = 100 * (s : Int) - 1200) := by
  intro h
  obtain ⟨v, hv, _⟩ := h 11 (by decide)
  cases hv.symm.trans gillham_out_of_u16_witness.2.1

/-- **Gillham encoding, ME field, the 656 steps 12 … 667 (0 … 65 500 ft)** -/
theorem gillham_rt_partial : ∀ s, s < 2 ^ 11 → 12 ≤ s → s ≤ 667 →
    ac12 (ac12G s) = .ok (some (100 * s - 1200)) := by
  intro s _ h12 h667
  rw [Proofs.Altitude.ac12G_feet s (by unfold GILLHAM_STEPS; omega), if_pos ⟨h12, h667⟩]

/-- the same steps through the 13-bit AC field of DF 0/4/16/20 -/
theorem gillham_ac13_rt_partial : ∀ s, s < 2 ^ 11 → 12 ≤ s → s ≤ 667 →
    ac13 (ac13G s) = .ok (100 * s - 1200) := by
  intro s _ h12 h667
  rw [Proofs.Altitude.ac13G_feet s (by unfold GILLHAM_STEPS; omega), if_pos ⟨h12, h667⟩]

theorem finding_gillham_out_of_u16_unavailable : ∀ s, s < 2 ^ 11 → s < GILLHAM_STEPS → s < 12 ∨ 667 < s →
    ac12 (ac12G s) = .ok none ∧ ac13 (ac13G s) = .ok 0 := by
  intro s _ hst hout
  have h : ¬ (12 ≤ s ∧ s ≤ 667) := by omega
  exact ⟨by rw [Proofs.Altitude.ac12G_feet s hst, if_neg h], by rw [Proofs.Altitude.ac13G_feet s hst, if_neg h]⟩

theorem gillhamStep_exact (a : Int) (h1 : -1200 ≤ a) (h2 : a ≤ 126700) (hg : (a + 1200) % 100 = 0) :
    gillhamStep a < GILLHAM_STEPS ∧ (100 * (gillhamStep a : Int) - 1200 = a) := by
  unfold gillhamStep GILLHAM_STEPS; omega

/-- **all 4096 squawks**: the decoder reports the four octal digits A B C D (as hex nibbles) -/
theorem squawk_rt : ∀ q, q < 2 ^ 12 →
    decodeId13 (id13OfOctal q)
      = 0x1000 * ((q >>> 9) % 8) + 0x100 * ((q >>> 6) % 8) + 0x10 * ((q >>> 3) % 8) + q % 8 :=
  id13_onto

/-- per position: the decoder's table inverts the IA-5 subset on all 36 letters and digits -/
theorem char_rt : ∀ n, n < 2 ^ 7 → (65 ≤ n ∧ n ≤ 90) ∨ (48 ≤ n ∧ n ≤ 57) →
    idx Gen.Chars.charLookup08 (codeOfIA5 n) = .ok n ∧ codeOfIA5 n ≠ 32 ∧ codeOfIA5 n < 64 :=
  enum 7 (by decide +kernel)

theorem validChar_toNat (c : Char) (h : isLetter c = true ∨ isDigit c = true) :
    (65 ≤ c.toNat ∧ c.toNat ≤ 90) ∨ (48 ≤ c.toNat ∧ c.toNat ≤ 57) := by
  simp only [isLetter, isDigit, Bool.and_eq_true, decide_eq_true_eq] at h
  exact h

theorem charCode_spec (c : Char) (h : isLetter c = true ∨ isDigit c = true) :
    idx Gen.Chars.charLookup08 (charCode c) = .ok c.toNat ∧ charCode c ≠ 32 ∧ charCode c < 64 := by
  have hv := validChar_toNat c h
  exact char_rt c.toNat (by omega) hv

/-- `callsign_read` after the 6-bit reads -/
def decodeCodes (codes : List Nat) : Outcome (List Char) :=
  Bds08.callsign.go (codes.filter (· != 32))

theorem go_map_charCode : ∀ cs : List Char, (∀ c ∈ cs, isLetter c = true ∨ isDigit c = true) →
    Bds08.callsign.go (cs.map charCode) = .ok cs
  | [], _ => rfl
  | c :: rest, h => by
    have hc := charCode_spec c (h c (by simp))
    have ih := go_map_charCode rest (fun x hx => h x (by simp [hx]))
    simp only [List.map_cons, Bds08.callsign.go]
    show Outcome.bind _ _ = _
    rw [hc.1, Outcome.bind_ok]
    show Outcome.bind _ _ = _
    rw [ih, Outcome.bind_ok]
    show Outcome.ok _ = _
    rw [Char.ofNat_toNat]

theorem filter_codes (cs : List Char) (h : ∀ c ∈ cs, isLetter c = true ∨ isDigit c = true) (k : Nat) :
    (cs.map charCode ++ List.replicate k SPACE).filter (· != 32) = cs.map charCode := by
  rw [List.filter_append]
  have h1 : (cs.map charCode).filter (· != 32) = cs.map charCode := by
    apply List.filter_eq_self.2
    intro x hx
    obtain ⟨c, hc, rfl⟩ := List.mem_map.1 hx
    have := (charCode_spec c (h c hc)).2.1
    simpa using this
  have h2 : (List.replicate k SPACE).filter (· != 32) = [] := by
    apply List.filter_eq_nil_iff.2
    intro x hx
    have := List.eq_of_mem_replicate hx
    simp [this, SPACE]
  rw [h1, h2, List.append_nil]

/-- **call signs**: every call sign a transponder may send (≤ 8 letters / digits, padded with trailing
    spaces) decodes to exactly itself -/
theorem callsign_rt (cs : List Char) (h : validCallsign cs) :
    decodeCodes (callsignCodes cs) = .ok cs := by
  unfold decodeCodes callsignCodes
  rw [filter_codes cs h.2, go_map_charCode cs h.2]

theorem callsignCodes_eight (cs : List Char) (h : validCallsign cs) :
    ∃ c0 c1 c2 c3 c4 c5 c6 c7, callsignCodes cs = [c0, c1, c2, c3, c4, c5, c6, c7] ∧
      (c0 < 2 ^ 6 ∧ c1 < 2 ^ 6 ∧ c2 < 2 ^ 6 ∧ c3 < 2 ^ 6 ∧ c4 < 2 ^ 6 ∧ c5 < 2 ^ 6 ∧ c6 < 2 ^ 6 ∧ c7 < 2 ^ 6) := by
  have hb := callsignCodes_lt cs
  match hcs : callsignCodes cs, callsignCodes_length h.1 with
  | [c0, c1, c2, c3, c4, c5, c6, c7], _ =>
    rw [hcs] at hb
    simp only [List.forall_mem_cons] at hb
    obtain ⟨h0, h1, h2, h3, h4, h5, h6, h7, _⟩ := hb
    exact ⟨c0, c1, c2, c3, c4, c5, c6, c7, rfl, h0, h1, h2, h3, h4, h5, h6, h7⟩

/-- **BDS 0,9 velocity components, subtype 1 (LSB 1 kt), all 2 × 1023 codes of each component**: code `v + 1` with
    direction bit `sign` decodes to exactly `±v` kt (frame-level `es_velocity_ground`) -/
theorem vel_gs_rt : ∀ sign, sign < 2 ^ 1 → ∀ v, v < 2 ^ 10 → v < 1023 →
    Bds09.velComponent 1 sign (speedCode v) = .ok (signed sign v) := by
  intro sign hs v _ hv
  have h := Bds09.velComponent_code 1 sign v 1 rfl hs hv
  rw [Nat.one_mul] at h
  exact h

/-- **subtype 2 (supersonic, LSB 4 kt)**: code `v + 1` stands for `±4·v` kt (0 … 4088 kt; frame-level
    `es_velocity_ground_supersonic`; before the fix of finding `C03-supersonic-groundspeed-not-scaled` the
    decoder reported `±v`) -/
theorem vel_gs_rt_supersonic : ∀ sign, sign < 2 ^ 1 → ∀ v, v < 2 ^ 10 → v < 1023 →
    Bds09.velComponent 2 sign (speedCode v) = .ok (signed sign (4 * v)) :=
  fun sign hs v _ hv => Bds09.velComponent_code 2 sign v 4 rfl hs hv

/-! Ground speed and track are transcendental functions of the two components, so the model keeps them as the symbolic
nodes `Json.hypot |ew| |ns|` and `Json.atan2deg ew ns` (compared numerically with libm's results by the correspondence).
`Proofs.C03.Track.exact` gives the real number each node denotes — `sqrt(ew² + ns²)`, resp. `atan2(ew, ns)` (= the argument
of `ns + ew·i`) in degrees, wrapped as the code wraps it (`if h < 0 { h + 360 } else { h }`) — and the three theorems below
say what CAN be said exactly about them. -/

theorem groundspeed_exact (ew ns : Int) :
    ∃ g : ℝ, Track.exact (Bds09.groundspeedJ ew ns) = some g ∧ 0 ≤ g ∧ g ^ 2 = (ew : ℝ) ^ 2 + (ns : ℝ) ^ 2 := by
  refine ⟨_, rfl, Track.hypotR_nonneg _ _, ?_⟩
  rw [Track.hypotR_sq]
  simp only [Int.ofNat_eq_natCast, Int.natCast_natAbs, Int.cast_abs, sq_abs]

/-- **a negative angle is negative by a margin**: with integer components and `|ns| ≤ 4·1022` kt (the largest
    magnitude subtype 2 can carry), `h = atan2(ew, ns)·360/(2π) < 0` implies
    `h ≤ −(180/π)·arctan(1/4088)`, and that bound is below `−0.013°` — about 2·10^11 ulps of 360.0, so the f64 sum
    `h + 360.` cannot round to 360.0 (libm's atan2 and the multiplication are accurate to a few ulps of `h`).
    The f64 statement built on this margin is `Props.C08.track09_f64_below_360`. -/
theorem track_negative_margin (ew ns : Int) (hns : |ns| ≤ 4 * 1022) (h : Track.headingDeg ew ns < 0) :
    Track.headingDeg ew ns ≤ -(Real.arctan (1 / 4088) * (360 / (2 * Real.pi))) ∧
    (0.013 : ℝ) < Real.arctan (1 / 4088) * (360 / (2 * Real.pi)) :=
  ⟨Track.headingDeg_neg_margin ew ns hns h, Track.margin_deg⟩

/-- **track**: `|ns| ≤ 4·1022` covers every pair subtypes 1 and 2 can carry, "no information" codes (`∓lsb`) and
    `(0, 0)` (`atan2(0, 0) = 0`) included -/
theorem track_exact_in_range (ew ns : Int) (hns : |ns| ≤ 4 * 1022) :
    ∃ t : ℝ, Track.exact (Bds09.trackJ ew ns) = some t ∧ t = Track.trackDeg ew ns ∧ 0 ≤ t ∧ t ≤ 359.987 ∧ t < 360 := by
  obtain ⟨h0, h1, h2⟩ := Track.trackDeg_range ew ns hns
  exact ⟨_, rfl, rfl, h0, h1, h2⟩

/-- every component the two subtypes can carry satisfies the hypothesis of the two track theorems -/
theorem vel_component_bound (sign lsb v : Nat) (hl : lsb = 1 ∨ lsb = 4) (hv : v < 1023) :
    |signed sign (lsb * v)| ≤ 4 * 1022 := by
  have habs : |signed sign (lsb * v)| = ((lsb * v : Nat) : Int) := by
    unfold signed
    split
    · exact abs_of_nonneg (Int.natCast_nonneg _)
    · rw [abs_neg]; exact abs_of_nonneg (Int.natCast_nonneg _)
  rw [habs]
  rcases hl with rfl | rfl <;> omega

-- the hypotheses are satisfiable; a negative angle exists (west-bound: ew = −1, ns = 4088 is the extremal one)
example : |(4088 : Int)| ≤ 4 * 1022 := by decide
example : Track.headingDeg (-1) 4088 < 0 := by
  unfold Track.headingDeg Track.atan2
  have : Complex.arg ⟨((4088 : Int) : ℝ), ((-1 : Int) : ℝ)⟩ < 0 := Complex.arg_neg_iff.mpr (by norm_num)
  have hk : (0 : ℝ) < 360 / (2 * Real.pi) := by positivity
  exact mul_neg_of_neg_of_pos this hk

/-- heading (subtypes 3, 4): the fraction `headingNum h / headingDen` the readers `Bds09.readAirspeedSub/Super` put
    into the message for the 10-bit code `h` is `h·360/1024` degrees (frame statement: `es_airspeed`) -/
theorem heading_rt (h : Nat) :
    (Bds09.headingNum h : Int) * 1024 = (h : Int) * 360 * Bds09.headingDen := by
  simp [Bds09.headingNum, Bds09.headingDen]

/-- **airspeed, all 1023 codes**: subsonic LSB 1 kt, supersonic LSB 4 kt -/
theorem airspeed_rt : ∀ v, v < 2 ^ 10 → v < 1023 →
    Bds09.airspeedSub (speedCode v) = .ok (some v) ∧ Bds09.airspeedSuper (speedCode v) = .ok (some (4 * v)) := by
  intro v _ hv
  rw [Bds09.airspeedSub_eq, Bds09.airspeedSuper_eq _ (by unfold speedCode; omega), speedCode,
    if_neg (Nat.succ_ne_zero v)]
  exact ⟨rfl, rfl⟩

/-- **vertical rate, all 2 × 511 codes**: `±64·n` ft/min -/
theorem vrate_rt : ∀ sign, sign < 2 ^ 1 → ∀ n, n < 2 ^ 9 → n < 511 →
    Bds09.vrate sign (vrateCode n) = .ok (some (signed sign (64 * n))) :=
  fun sign hs n _ hn => Bds09.vrate_code sign n hs hn

/-- **GNSS height minus barometric altitude, all 2 × 127 codes** (including 0 ft): `±25·n` ft -/
theorem geobaro_rt : ∀ sign, sign < 2 ^ 1 → ∀ n, n < 2 ^ 7 → n < 127 →
    Bds09.geoBaro sign (geoBaroCode n) = .ok (some (signed sign (25 * n))) :=
  fun sign hs n _ hn => Bds09.geoBaro_code sign n hs hn

def isEighths (j : Option Json) (k : Nat) : Bool :=
  match j with
  | some (.num n d) => n * 8 == (k : Int) * d && d != 0
  | _ => false

/-- **BDS 0,6 movement, all 124 codes**: the decoder reports the lower edge of the standard's speed bucket -/
theorem movement_codes : ∀ m, m < 2 ^ 7 → 1 ≤ m → m ≤ 124 →
    isEighths (Bds06.groundspeed m) (movLow8 m) = true :=
  enum 7 (by decide +kernel)

/-- **movement, every ground speed** (in eighths of a knot, 0 … 256 kt): the encoder picks the bucket
    containing the speed, and the decoded value is that bucket's lower edge: within one
    quantisation step below the true speed.  From 175 kt on the code saturates at 124. -/
theorem movement_rt : ∀ e, e < 2 ^ 11 →
    1 ≤ movementCode e ∧ movementCode e ≤ 124 ∧
    isEighths (Bds06.groundspeed (movementCode e)) (movLow8 (movementCode e)) = true ∧
    movLow8 (movementCode e) ≤ e ∧ (e < 1400 → e < movLow8 (movementCode e + 1)) := by
  -- the bucket arithmetic is evaluated on every speed; the decoder's value only on the 124 codes (`movement_codes`)
  have hcode : ∀ e, e < 2 ^ 11 → 1 ≤ movementCode e ∧ movementCode e ≤ 124 ∧ movLow8 (movementCode e) ≤ e ∧
      (e < 1400 → e < movLow8 (movementCode e + 1)) :=
    enum 11 (by decide +kernel)
  intro e he
  obtain ⟨h1, h124, hlo, hhi⟩ := hcode e he
  exact ⟨h1, h124, movement_codes _ (by omega) h1 h124, hlo, hhi⟩

/- ground track: the 7-bit code `t` is reported as the fraction `t·360 / 128` degrees; that is part of the
   statement of the frame theorem `es_surface` below (`out06 … = … fldOpt "track" (if sts == 1 then some
   (jrat (trk * 360) 128) else none) …`, spelled out in `Proofs/C03Adsb.lean`) — no separate codec theorem. -/

/-- **BDS 6,2 selected altitude, the whole 100 ft grid 0 … 65 400 ft**: exact -/
theorem selalt62_rt : ∀ k, k < 2 ^ 10 → k ≤ 654 →
    selAlt62Code (100 * k) < 2 ^ 11 ∧
    Bds62.selectedAltitude (selAlt62Code (100 * k)) = .ok (some (100 * k)) := by
  intro k _ hk
  have hc : selAlt62Code (100 * k) < 2 ^ 11 := by unfold selAlt62Code; omega
  refine ⟨hc, ?_⟩
  rw [Bds62.selectedAltitude_eq _ hc]
  unfold selAlt62Code
  rw [if_neg (by omega)]
  congr 2; omega

/-- |a/2^24 − t/10| < 1/10000 -/
def qnhClose (num tenths : Nat) : Bool :=
  decide (((num : Int) * 10 - (tenths : Int) * 2 ^ 24).natAbs * 10000 < 10 * 2 ^ 24)

/-- **barometric pressure setting, all 511 codes**: the code reports the single-precision value of
    `800 + 0.8·(n − 1)`; it differs from the ideal value by less than 0.0001 mb (the quantisation
    step is 0.8 mb) -/
theorem qnh62_rt : ∀ n, n < 2 ^ 9 → 1 ≤ n →
    Bds62.barometricSetting n = .ok (some (Bds62.qnhF32Num n, Bds62.qnhDen)) ∧
    qnhClose (Bds62.qnhF32Num n) (8000 + 8 * (n - 1)) = true ∧
    qnh62Code (8000 + 8 * (n - 1)) = n := by
  -- the single-precision value is a matter of evaluation; the code arithmetic is not
  have hclose : ∀ n, n < 2 ^ 9 → 1 ≤ n → qnhClose (Bds62.qnhF32Num n) (8000 + 8 * (n - 1)) = true :=
    enum 9 (by decide +kernel)
  intro n hn h1
  refine ⟨?_, hclose n hn h1, by unfold qnh62Code; omega⟩
  rw [Bds62.barometricSetting_eq, if_neg (by omega)]

/-- selected heading: the fraction `headingNum h / headingDen` the reader `Bds62.read` puts into the message
    for the 9-bit code (sign + 8 bits) `h` is `h·180/256` = `h·360/512` degrees (frame statement: `es_target_state`) -/
theorem selhdg62_rt (h : Nat) : (Bds62.headingNum h : Int) * 512 = (h : Int) * 360 * Bds62.headingDen := by
  simp [Bds62.headingNum, Bds62.headingDen]; omega

/-- **BDS 4,0 MCP/FCU and FMS selected altitude, the whole 100 ft grid 0 … 45 000 ft** (the register's own
    plausibility limit): exact -/
theorem selalt40_rt : ∀ k, k < 2 ^ 9 → k ≤ 450 →
    selAlt40Code (100 * k) < 2 ^ 12 ∧
    Bds40.selectedAlt true (selAlt40Code (100 * k)) = .ok (some (100 * k)) := by
  intro k _ hk
  have hc : selAlt40Code (100 * k) < 2 ^ 12 := by unfold selAlt40Code; omega
  refine ⟨hc, ?_⟩
  rw [Bds40.selectedAlt_true _ hc]
  unfold selAlt40Code
  have e : ((100 * k + 8) / 16 * 16 + 8) / 100 * 100 = 100 * k := by omega
  rw [e, if_neg (by omega)]

/-- **barometric pressure setting, all 4096 codes**: `800 + 0.1·v` mb, reported in tenths (`(v + 8000)/10`) -/
theorem qnh40_rt : ∀ v, v < 2 ^ 12 →
    Bds40.qnhNum true v = .ok (some (v + 8000)) ∧ qnh40Code (8000 + v) = v := by
  intro v _
  exact ⟨rfl, by unfold qnh40Code; omega⟩

theorem enumInt {P : Int → Prop} [DecidablePred P] (d half : Nat) (hd : 2 ^ d = 2 * half)
    (h : allBits (fun i => decide (P ((i : Int) - half))) d 0 = true) :
    ∀ k : Int, -(half : Int) ≤ k → k < half → P k := by
  intro k h1 h2
  have hi : (k + half).toNat < 2 ^ d := by omega
  have := forall_lt_of_sweep d h _ hi
  have e : (((k + half).toNat : Nat) : Int) - half = k := by omega
  rwa [e] at this

/-- **BDS 5,0 roll angle, every code with |roll| ≤ 50°** (|k| ≤ 284 LSBs of 45/256°): exact (`k·45/256`) -/
theorem roll50_rt : ∀ k : Int, -512 ≤ k → k < 512 → k.natAbs ≤ 284 →
    Bds50.roll true (signBit k) (twosMag 9 k) = .ok (some k) := by
  intro k h1 h2 h284
  rw [Bds50.roll_true, Bds50.rollNum_of_bit _ _ (signBit_lt k), twos_decode 9 512 k rfl h1 h2, if_neg (by omega)]

/-- **true track angle, all 2048 codes**: `k·90/512` degrees brought into [0, 360) -/
theorem track50_rt : ∀ k : Int, -1024 ≤ k → k < 1024 →
    Bds50.track true (signBit k) (twosMag 10 k) = .ok (some ((k * 90) % (360 * 512))) := by
  intro k h1 h2
  have hv := twosMag_lt 10 k
  rw [Bds50.track_true _ _ (by omega), twos_decode 10 1024 k rfl h1 h2]
  unfold Bds50.angleNum
  congr 2
  split <;> omega

/-- **ground speed, every code up to 600 kt**: `2·v` kt -/
theorem gs50_rt : ∀ v, v < 2 ^ 9 → v ≤ 300 → Bds50.groundspeed true v = .ok (some (2 * v)) := by
  intro v _ h300
  rw [Bds50.groundspeed_true v (by omega), if_neg (by omega), Nat.mul_comm]

theorem signed512 : ∀ k : Int, -512 ≤ k → k < 512 →
    twosMag 9 k < 2 ^ 9 ∧ signBit k < 2 ∧ Bds50.signed 512 (signBit k) (twosMag 9 k) = .ok k ∧
    (twosMag 9 k = 511 ↔ (k = -1 ∨ k = 511)) := by
  intro k h1 h2
  have hv := twosMag_lt 9 k
  have hm := twosMag_cast 9 512 k rfl h1 h2
  refine ⟨hv, signBit_lt k, ?_, ?_⟩
  · rw [Bds50.signed_eq 512 _ _ (by omega) (by omega), twos_decode 9 512 k rfl h1 h2]
  · split at hm <;> omega

theorem signed1024 : ∀ k : Int, -1024 ≤ k → k < 1024 → twosMag 10 k < 2 ^ 10 ∧ signBit k < 2 ^ 1 := by
  intro k _ _
  exact ⟨twosMag_lt 10 k, signBit_lt k⟩

/-! Track angle rate (Doc 9871 table A-2-80, bits 35–45: status, sign, nine magnitude bits, two's complement, LSB
8/256 °/s; "not available" = status 0 and all bits ZERO — the table has no all-ones sentinel).  Full strength:

    theorem rate50_rt : ∀ k, -512 ≤ k → k < 512 → Bds50.rate none true (signBit k) (twosMag 9 k) = .ok (some (k * 8))

is FALSE for the code as it is: whenever the nine magnitude bits are all ones (`k = −1`: −1/32 °/s, and `k = 511`:
+15.97 °/s, the positive saturation value) the decoder reports `null` (a plausibility heuristic, as in pyModeS).
Known finding `C03-bds50-track-rate-all-ones-null`. -/

theorem rate50_all_ones_witness :
    Bds50.rate none true (signBit (-1)) (twosMag 9 (-1)) = .ok none ∧
    Bds50.rate none true (signBit 511) (twosMag 9 511) = .ok none := by
  decide +kernel

theorem rate50_full_false :
    ¬ (∀ k : Int, -512 ≤ k → k < 512 → Bds50.rate none true (signBit k) (twosMag 9 k) = .ok (some (k * 8))) := by
  intro h
  cases (h (-1) (by decide) (by decide)).symm.trans rate50_all_ones_witness.1

/-- **track angle rate, the 1022 codes other than `k = −1` and `k = 511`**, with a roll angle of the same sign
    (or none — the register rejects a roll and a turn of opposite signs): exact, `k·8/256` °/s -/
theorem rate50_rt_partial (rollN : Option Int) (k : Int) (h1 : -512 ≤ k) (h2 : k < 511) (h3 : k ≠ -1)
    (hc : ∀ n, rollN = some n → (0 ≤ n ∧ 0 ≤ k) ∨ (n ≤ 0 ∧ k ≤ 0)) :
    Bds50.rate rollN true (signBit k) (twosMag 9 k) = .ok (some (k * 8)) := by
  obtain ⟨_, _, hs, h511⟩ := signed512 k h1 (by omega)
  have hne : (twosMag 9 k == 511) = false := by
    have : twosMag 9 k ≠ 511 := fun h => by rcases h511.1 h with h | h <;> omega
    simpa using this
  unfold Bds50.rate
  simp only [Bool.not_true, Bool.false_eq_true, if_false, hne]
  show Outcome.bind _ _ = _
  rw [hs, Outcome.bind_ok]
  cases rollN with
  | none => rfl
  | some n =>
    have hnn : ¬ (n * 45 * (k * 8) < 0) := by
      have : 0 ≤ n * 45 * (k * 8) := by
        rcases hc n rfl with ⟨a, b⟩ | ⟨a, b⟩
        · exact Int.mul_nonneg (by omega) (by omega)
        · exact Int.mul_nonneg_of_nonpos_of_nonpos (by omega) (by omega)
      omega
    simp only [hnn, if_false]

/-- **true airspeed**: without a ground speed every code is reported (`2·t` kt); with a ground speed
    `g` (kt) the register requires 80 ≤ TAS ≤ 500 kt and |GS − TAS| ≤ 200 kt, and then reports `2·t` -/
theorem tas50_rt (gs : Option Nat) (t : Nat) (ht : t < 2 ^ 10)
    (hc : ∀ g, gs = some g → g ≤ 600 ∧ 80 ≤ 2 * t ∧ 2 * t ≤ 500 ∧ g ≤ 2 * t + 200 ∧ 2 * t ≤ g + 200) :
    Bds50.tas gs true t = .ok (some (2 * t)) := by
  unfold Bds50.tas
  simp only [Bool.not_true, Bool.false_eq_true, if_false]
  show Outcome.bind _ _ = _
  rw [mulU_ok (by omega), Outcome.bind_ok]
  cases gs with
  | none => simp only [Nat.mul_comm]
  | some g =>
    obtain ⟨a, b, c, d, e⟩ := hc g rfl
    show (subS 16 (g : Int) ((t * 2 : Nat) : Int) >>= fun d => Bds50.absS16 d >>= fun a =>
      if !(80 ≤ t * 2 && t * 2 ≤ 500) || a > 200 then .err .assertion else .ok (some (t * 2))) = _
    rw [subS16_ok (by omega) (by omega), Outcome.bind_ok']
    unfold Bds50.absS16
    rw [if_neg (by simp only [beq_iff_eq]; omega), Outcome.bind_ok', if_neg, Nat.mul_comm]
    simp only [Bool.or_eq_true, Bool.not_eq_true', Bool.and_eq_false_iff, decide_eq_false_iff_not, decide_eq_true_eq,
      Int.ofNat_eq_natCast]
    omega

/-- **BDS 6,0 magnetic heading, all 2048 codes**: `k·90/512` degrees brought into [0, 360) -/
theorem heading60_rt : ∀ k : Int, -1024 ≤ k → k < 1024 →
    Bds60.heading true (signBit k) (twosMag 10 k) = .ok (some ((k * 90) % (360 * 512))) :=
  track50_rt

/-- **indicated airspeed, every code 1 … 500 kt**: exact -/
theorem ias60_rt : ∀ v, v < 2 ^ 10 → 1 ≤ v → v ≤ 500 → Bds60.ias true v = .ok (some v) := by
  intro v _ h1 h500
  rw [Bds60.ias_true, if_neg]
  simp only [Bool.or_eq_true, beq_iff_eq, decide_eq_true_eq]
  omega

/-- **Mach, every code 1 … 250 (Mach ≤ 1)**, with an indicated airspeed that passes the register's
    cross-check (or none): the code itself is accepted; it is reported as `v·2.048/512 = v/250` -/
theorem mach60_rt (iasV : Option Nat) (v : Nat) (h1 : 1 ≤ v) (h2 : v ≤ 250)
    (hc : ∀ i, iasV = some i → ¬ (i > 250 ∧ v < 100) ∧ ¬ (i < 150 ∧ v > 125)) :
    Bds60.mach iasV true v = .ok (some v) := by
  unfold Bds60.mach Bds60.machEq0 Bds60.machGt1
  have e1 : ((v == 0) || decide (v > 250)) = false := by
    simp only [Bool.or_eq_false_iff, beq_eq_false_iff_ne, decide_eq_false_iff_not]; omega
  simp only [Bool.not_true, Bool.false_eq_true, if_false, e1]
  cases iasV with
  | none => rfl
  | some i =>
    obtain ⟨a, b⟩ := hc i rfl
    have c1 : (decide (i > 250) && Bds60.machLt04 v) = false := by
      simp only [Bds60.machLt04, Bool.and_eq_false_iff, decide_eq_false_iff_not]; omega
    have c2 : (decide (i < 150) && Bds60.machGt05 v) = false := by
      simp only [Bds60.machGt05, Bool.and_eq_false_iff, decide_eq_false_iff_not]; omega
    simp only [c1, c2, Bool.false_eq_true, if_false]

/- the accepted Mach code `v` is reported as the fraction `v·2048 / 512000` = `v·2.048/512`: that is part of the
   statement of the frame theorem `commb_bds60_partial` below — no separate codec theorem. -/

/-! Barometric altitude rate / inertial vertical velocity (Doc 9871 table A-2-96: status, sign, nine magnitude bits,
two's complement, LSB 32 ft/min; "not available" = status 0 and all bits ZERO).  Full strength inside the
register's ±6000 ft/min limit:

    theorem vrate60_rt : ∀ k, k.natAbs ≤ 187 → Bds60.vertical true (signBit k) (twosMag 9 k) = .ok (some (32 * k))

is FALSE for the code as it is: `k = −1` (−32 ft/min, magnitude bits all ones) is reported as 0.  Known finding
`C03-bds60-vertical-rate-minus-one-lsb-zero`. -/

theorem vrate60_minus_one_witness : Bds60.vertical true (signBit (-1)) (twosMag 9 (-1)) = .ok (some 0) := by
  decide +kernel

theorem vrate60_full_false :
    ¬ (∀ k : Int, k.natAbs ≤ 187 → Bds60.vertical true (signBit k) (twosMag 9 k) = .ok (some (32 * k))) := by
  intro h
  exact absurd ((h (-1) (by decide)).symm.trans vrate60_minus_one_witness) (by decide)

/-- **barometric altitude rate / inertial vertical velocity, every code with |rate| ≤ 6000 ft/min other than
    `k = −1`**: exactly `32·k` ft/min -/
theorem vrate60_rt_partial : ∀ k : Int, -512 ≤ k → k < 512 → k.natAbs ≤ 187 → k ≠ -1 →
    Bds60.vertical true (signBit k) (twosMag 9 k) = .ok (some (32 * k)) := by
  intro k h1 h2 h187 hne
  have hm := twosMag_cast 9 512 k rfl h1 h2
  have hk : Bds60.vertNum (signBit k) (twosMag 9 k) = 32 * k := by
    rw [Bds60.vertNum, twos_decode 9 512 k rfl h1 h2, Int.mul_comm]
  rw [Bds60.vertical_true _ _ (twosMag_lt 9 k), hk]
  by_cases h0 : k = 0
  · subst h0; rfl
  · -- the magnitude bits are neither all zero nor all ones
    rw [if_neg, if_neg (by omega)]
    simp only [Bool.or_eq_true, beq_iff_eq]
    split at hm <;> omega

def hexValue : List Char → Option Nat
  | [] => some 0
  | cs => cs.foldl (fun acc c => acc.bind fun a => (hexVal c).map fun d => a * 16 + d) (some 0)

theorem hexDigit_rt : ∀ d, d < 2 ^ 4 → hexVal (hexDigit d) = some d := enum 4 (by decide +kernel)

/-- **every 24-bit address**: the six hex digits the decoder prints denote the address that was sent -/
theorem address_rt (a : Nat) (h : a < 2 ^ 24) : hexValue (hexChars 6 a) = some a := by
  -- reading `n` printed digits after a prefix worth `acc` gives `acc·16^n + (a mod 16^n)`
  have key : ∀ n acc, (hexChars n a).foldl (fun acc c => acc.bind fun x => (hexVal c).map fun d => x * 16 + d)
      (some acc) = some (acc * 16 ^ n + a % 16 ^ n) := by
    intro n
    induction n with
    | zero => intro acc; simp [hexChars, Nat.mod_one]
    | succ n ih =>
      intro acc
      have e : hexChars (n + 1) a = hexDigit (a / 16 ^ n % 16) :: hexChars n a := by
        simp [hexChars, List.range_succ]
      rw [e, List.foldl_cons, Option.bind, hexDigit_rt (a / 16 ^ n % 16) (Nat.mod_lt _ (by decide)), Option.map, ih,
        Nat.mod_pow_succ, Nat.pow_succ]
      congr 1
      ring
  have hv : hexValue (hexChars 6 a) = (hexChars 6 a).foldl
      (fun acc c => acc.bind fun x => (hexVal c).map fun d => x * 16 + d) (some 0) := by
    cases hexChars 6 a <;> rfl
  rw [hv, key 6 0, Nat.zero_mul, Nat.zero_add, Nat.mod_eq_of_lt (by omega)]

/-! # Layer 2 — frames

`buildES df ca aa me` (DF 17/18), `buildShort df fs dr um code addr` (DF 4/5), `buildCommB …` (DF 20/21),
`buildAir0 …` / `buildAir16 …` (DF 0/16) and `buildAllCall ca aa ic` (DF 11) are the Spec's frames: fields at the standard's bit offsets, then PI parity (syndrome zero) or the
AP overlay (parity ⊕ address).  The parity hypothesis of the decoder (`modes_checksum = 0`, resp.
`= address`) is *discharged by construction* (`Proofs.C03.tryFrom_encodeAP`, from C02's algebra).

Each theorem gives the complete serialised message (`toDecoded (… fields …)`: the JSON object with
exactly these keys in this order, `skipNone` fields dropped when absent), for ALL values of every
field of the frame.  `esHead df c aa` is `df`, (`tisb`,) `icao24`; the payload shapes `out05 … out62`
are spelled out in `Proofs/C03Adsb.lean`. -/

/-- the two BDS 0,9 tail conversions return a value on every code (the frame theorems quantify over *all* codes of
    the fields that are not under test) -/
theorem vrate_total : ∀ sign, sign < 2 ^ 1 → ∀ v, v < 2 ^ 9 → (Bds09.vrate sign v).isOk = true :=
  fun sign _ v hv => Outcome.isOk_of_eq (Bds09.vrate_eq sign v hv)
theorem geobaro_total : ∀ sign, sign < 2 ^ 1 → ∀ v, v < 2 ^ 7 → (Bds09.geoBaro sign v).isOk = true :=
  fun sign _ v hv => Outcome.isOk_of_eq (Bds09.geoBaro_eq sign v hv)

theorem isOk_elim {α} {o : Outcome α} (h : o.isOk = true) : ∃ a, o = .ok a :=
  Outcome.eq_ok_of_isOk h

theorem ac12Q_lt : ∀ n, n < 2 ^ 11 → ac12Q n < 2 ^ 12 := fun n hn => (Proofs.Altitude.ac12Q_table n hn).2.2
theorem ac12G_lt : ∀ s, s < 2 ^ 11 → ac12G s < 2 ^ 12 := fun s _ => Proofs.Altitude.ac12G_lt s
theorem ac13Q_lt : ∀ n, n < 2 ^ 11 → ac13Q n < 2 ^ 13 := fun n hn => (Proofs.Altitude.n25_table n hn).2.2.2
theorem ac13G_lt : ∀ s, s < 2 ^ 11 → ac13G s < 2 ^ 13 := fun s _ => Proofs.Altitude.ac13G_lt s
theorem id13OfOctal_lt : ∀ q, q < 2 ^ 12 → id13OfOctal q < 2 ^ 13 := fun _ _ => Proofs.Altitude.fieldOfDigits_lt _ _ _ _

theorem es_position_of (df c aa tc ss saf alt t f lat lon : Nat) (altv : Option Nat)
    (hdf : df = 17 ∨ df = 18) (hc : c < 2 ^ 3) (haa : aa < 2 ^ 24) (htc : tcAirborne tc)
    (hss : ss < 2 ^ 2) (hsaf : saf < 2 ^ 1) (halt : alt < 2 ^ 12) (ht : t < 2 ^ 1) (hf : f < 2 ^ 1)
    (hlat : lat < 2 ^ 17) (hlon : lon < 2 ^ 17) (hcodec : ac12 alt = .ok altv) :
    tryFrom (buildES df c aa (me05 tc ss saf alt t f lat lon)) =
      .ok (toDecoded (withFields (esHead df c aa) (out05 tc saf altv t f lat lon))) :=
  tryFrom_es df c aa _ _ hdf hc haa (me_bds05 htc hss hsaf halt ht hf hlat hlon hcodec)

/-- **DF 17/18, BDS 0,5 airborne position, 25 ft altitude** (`_partial`: the 2007 codes N > 40, i.e. 25 … 50 175 ft;
    the full statement — all 2^11 codes — is false, `alt25_full_false`): every type code 9…18 / 20…22, every value
    of SS, SAF, T, F and of the two CPR fields, every address; the message carries `altitude = 25·N − 1000` -/
theorem es_position_partial (df c aa tc ss saf n t f lat lon : Nat)
    (hdf : df = 17 ∨ df = 18) (hc : c < 2 ^ 3) (haa : aa < 2 ^ 24) (htc : tcAirborne tc)
    (hss : ss < 2 ^ 2) (hsaf : saf < 2 ^ 1) (hn : n < 2 ^ 11) (h40 : n > 40) (ht : t < 2 ^ 1) (hf : f < 2 ^ 1)
    (hlat : lat < 2 ^ 17) (hlon : lon < 2 ^ 17) :
    tryFrom (buildES df c aa (me05 tc ss saf (ac12Q n) t f lat lon)) =
      .ok (toDecoded (withFields (esHead df c aa) (out05 tc saf (some (25 * n - 1000)) t f lat lon))) :=
  es_position_of df c aa tc ss saf _ t f lat lon _ hdf hc haa htc hss hsaf (ac12Q_lt n hn) ht hf hlat hlon
    (alt25_rt_partial n hn h40)

/-- **finding, frame level** (`C03-altitude-nonpositive-unavailable`): for each of the 41 codes N ≤ 40
    (−1000 … 0 ft) the message carries `altitude: null` instead of `25·N − 1000` -/
theorem finding_es_position_nonpositive (df c aa tc ss saf n t f lat lon : Nat)
    (hdf : df = 17 ∨ df = 18) (hc : c < 2 ^ 3) (haa : aa < 2 ^ 24) (htc : tcAirborne tc)
    (hss : ss < 2 ^ 2) (hsaf : saf < 2 ^ 1) (hn : n < 2 ^ 11) (h40 : n ≤ 40) (ht : t < 2 ^ 1) (hf : f < 2 ^ 1)
    (hlat : lat < 2 ^ 17) (hlon : lon < 2 ^ 17) :
    tryFrom (buildES df c aa (me05 tc ss saf (ac12Q n) t f lat lon)) =
      .ok (toDecoded (withFields (esHead df c aa) (out05 tc saf none t f lat lon))) :=
  es_position_of df c aa tc ss saf _ t f lat lon _ hdf hc haa htc hss hsaf (ac12Q_lt n hn) ht hf hlat hlon
    (finding_alt25_nonpositive_unavailable n hn h40).1

/-- … with a Gillham-coded altitude (`_partial`: the 656 steps 12 … 667, i.e. 0 … 65 500 ft in 100 ft steps; the
    full statement — all 1280 steps — is false, `gillham_full_false`) -/
theorem es_position_gillham_partial (df c aa tc ss saf s t f lat lon : Nat)
    (hdf : df = 17 ∨ df = 18) (hc : c < 2 ^ 3) (haa : aa < 2 ^ 24) (htc : tcAirborne tc)
    (hss : ss < 2 ^ 2) (hsaf : saf < 2 ^ 1) (hs1 : 12 ≤ s) (hs2 : s ≤ 667) (ht : t < 2 ^ 1) (hf : f < 2 ^ 1)
    (hlat : lat < 2 ^ 17) (hlon : lon < 2 ^ 17) :
    tryFrom (buildES df c aa (me05 tc ss saf (ac12G s) t f lat lon)) =
      .ok (toDecoded (withFields (esHead df c aa) (out05 tc saf (some (100 * s - 1200)) t f lat lon))) :=
  es_position_of df c aa tc ss saf _ t f lat lon _ hdf hc haa htc hss hsaf (Proofs.Altitude.ac12G_lt s) ht hf hlat hlon
    (gillham_rt_partial s (by omega) hs1 hs2)

/-- **finding, frame level**: Gillham steps below 0 ft and above 65 500 ft yield `altitude: null` -/
theorem finding_es_position_gillham_out_of_u16 (df c aa tc ss saf s t f lat lon : Nat)
    (hdf : df = 17 ∨ df = 18) (hc : c < 2 ^ 3) (haa : aa < 2 ^ 24) (htc : tcAirborne tc)
    (hss : ss < 2 ^ 2) (hsaf : saf < 2 ^ 1) (hs : s < GILLHAM_STEPS) (hout : s < 12 ∨ 667 < s)
    (ht : t < 2 ^ 1) (hf : f < 2 ^ 1) (hlat : lat < 2 ^ 17) (hlon : lon < 2 ^ 17) :
    tryFrom (buildES df c aa (me05 tc ss saf (ac12G s) t f lat lon)) =
      .ok (toDecoded (withFields (esHead df c aa) (out05 tc saf none t f lat lon))) :=
  es_position_of df c aa tc ss saf _ t f lat lon _ hdf hc haa htc hss hsaf (Proofs.Altitude.ac12G_lt s) ht hf hlat hlon
    (finding_gillham_out_of_u16_unavailable s (Proofs.Altitude.steps_lt hs) hs hout).1

/-- **DF 17/18, BDS 0,6 surface position**: every ground speed `e` (eighths of a knot; the movement
    code is the standard's), every track code and status, every other field.  The reported speed
    `gs` is the lower edge of the standard's bucket of `e` (`movement_rt`), the track `trk·360/128`. -/
theorem es_surface (df c aa tc e sts trk t f lat lon : Nat)
    (hdf : df = 17 ∨ df = 18) (hc : c < 2 ^ 3) (haa : aa < 2 ^ 24) (htc : 5 ≤ tc ∧ tc ≤ 8) (he : e < 2 ^ 11)
    (hsts : sts < 2 ^ 1) (htrk : trk < 2 ^ 7) (ht : t < 2 ^ 1) (hf : f < 2 ^ 1)
    (hlat : lat < 2 ^ 17) (hlon : lon < 2 ^ 17) :
    ∃ gs, isEighths gs (movLow8 (movementCode e)) = true ∧
      movLow8 (movementCode e) ≤ e ∧ (e < 1400 → e < movLow8 (movementCode e + 1)) ∧
      tryFrom (buildES df c aa (me06 tc (movementCode e) sts trk t f lat lon)) =
        .ok (toDecoded (withFields (esHead df c aa) (out06 tc gs sts trk f lat lon))) := by
  obtain ⟨m1, m2, m3, m4, m5⟩ := movement_rt e he
  refine ⟨Bds06.groundspeed (movementCode e), m3, m4, m5, ?_⟩
  exact tryFrom_es df c aa _ _ hdf hc haa (me_bds06 htc (by omega) hsts htrk ht hf hlat hlon)

/-- **DF 17/18, BDS 0,8 identification**: every valid call sign, every category -/
theorem es_identification (df c aa tc ca : Nat) (cs : List Char)
    (hdf : df = 17 ∨ df = 18) (hc : c < 2 ^ 3) (haa : aa < 2 ^ 24) (htc : 1 ≤ tc ∧ tc ≤ 4) (hca : ca < 2 ^ 3)
    (hcs : validCallsign cs) :
    tryFrom (buildES df c aa (me08 tc ca cs)) =
      .ok (toDecoded (withFields (esHead df c aa) (out08 tc ca cs))) := by
  exact tryFrom_es df c aa _ _ hdf hc haa
    (me_bds08 htc hca (callsignCodes_length hcs.1) (fits_callsignFields cs) (callsign_rt cs hcs))

/-- for both velocity-over-ground subtypes the reader reports ground speed /
    track as `hypot(|ew|, |ns|)` / `atan2(ew, ns)` of the components `ew = ±lsb·vew` kt, `ns = ±lsb·vns` kt, where
    `lsb` is the subtype's resolution (1 kt for `sub = 1`, 4 kt for `sub = 2`) -/
theorem es_velocity_ground_of (df c aa sub lsb ic ifr nacv dew vew dns vns vsrc vsign vr gsign g : Nat)
    (hdf : df = 17 ∨ df = 18) (hc : c < 2 ^ 3) (haa : aa < 2 ^ 24) (hsub : (sub = 1 ∧ lsb = 1) ∨ (sub = 2 ∧ lsb = 4))
    (hic : ic < 2 ^ 1) (hifr : ifr < 2 ^ 1) (hnacv : nacv < 2 ^ 3)
    (hdew : dew < 2 ^ 1) (hvew : vew < 1023) (hdns : dns < 2 ^ 1) (hvns : vns < 1023)
    (hvsrc : vsrc < 2 ^ 1) (hvsign : vsign < 2 ^ 1) (hvr : vr < 2 ^ 9) (hgsign : gsign < 2 ^ 1) (hg : g < 2 ^ 7) :
    ∃ vrv gbv,
      (∀ n, n < 511 → vr = vrateCode n → vrv = some (signed vsign (64 * n))) ∧
      (∀ n, n < 127 → g = geoBaroCode n → gbv = some (signed gsign (25 * n))) ∧
      tryFrom (buildES df c aa (me09 sub ic ifr nacv (velGround dew (speedCode vew) dns (speedCode vns))
          vsrc vsign vr gsign g)) =
        .ok (toDecoded (withFields (esHead df c aa) (out09 nacv
          [ fld (key! "groundspeed") (Bds09.groundspeedJ (signed dew (lsb * vew)) (signed dns (lsb * vns))),
            fld (key! "track") (Bds09.trackJ (signed dew (lsb * vew)) (signed dns (lsb * vns))) ]
          vsrc vrv gbv))) := by
  have hvrv := Bds09.vrate_eq vsign vr hvr
  have hgbv := Bds09.geoBaro_eq gsign g hg
  have hlsb : Bds09.velLsb sub = lsb := by rcases hsub with ⟨rfl, rfl⟩ | ⟨rfl, rfl⟩ <;> rfl
  have hcomp : ∀ d, d < 2 ^ 1 → ∀ v, v < 1023 →
      Bds09.velComponent sub d (speedCode v) = .ok (signed d (lsb * v)) :=
    fun d hd v hv => Bds09.velComponent_code sub d v lsb hlsb hd hv
  exact ⟨_, _,
    fun n hn e => Outcome.ok.inj (hvrv.symm.trans (e ▸ vrate_rt vsign hvsign n (by omega) hn)),
    fun n hn e => Outcome.ok.inj (hgbv.symm.trans (e ▸ geobaro_rt gsign hgsign n (by omega) hn)),
    tryFrom_es df c aa _ _ hdf hc haa (me_bds09 (by omega) hic hifr hnacv (by simp [width, velGround])
      (fits_vel hdew (by unfold speedCode; omega) hdns (by unfold speedCode; omega)) hvsrc hvsign hvr hgsign hg
      (fun F => readVelocity_ground F sub dew _ dns _ _ _ (by omega) (hcomp dew hdew vew hvew) (hcomp dns hdns vns hvns))
      hvrv hgbv)⟩

/-- **DF 17/18, BDS 0,9 velocity over ground, subtype 1 (LSB 1 kt)**: all 2 × 1023 × 2 × 1023 combinations of the
    two components (direction bit, `v` kt sent as code `v + 1`), every value of every other field — including *all*
    codes of the vertical-rate and GNSS/baro fields, whose decoded values `vrv`, `gbv` are the standard's whenever
    the code is not the "no information" code.  The reported ground speed / track are `hypot(|ew|, |ns|)` /
    `atan2(ew, ns)` of the exactly decoded components `ew = ±vew` kt, `ns = ±vns` kt. -/
theorem es_velocity_ground (df c aa ic ifr nacv dew vew dns vns vsrc vsign vr gsign g : Nat)
    (hdf : df = 17 ∨ df = 18) (hc : c < 2 ^ 3) (haa : aa < 2 ^ 24)
    (hic : ic < 2 ^ 1) (hifr : ifr < 2 ^ 1) (hnacv : nacv < 2 ^ 3)
    (hdew : dew < 2 ^ 1) (hvew : vew < 1023) (hdns : dns < 2 ^ 1) (hvns : vns < 1023)
    (hvsrc : vsrc < 2 ^ 1) (hvsign : vsign < 2 ^ 1) (hvr : vr < 2 ^ 9) (hgsign : gsign < 2 ^ 1) (hg : g < 2 ^ 7) :
    ∃ vrv gbv,
      (∀ n, n < 511 → vr = vrateCode n → vrv = some (signed vsign (64 * n))) ∧
      (∀ n, n < 127 → g = geoBaroCode n → gbv = some (signed gsign (25 * n))) ∧
      tryFrom (buildES df c aa (me09 1 ic ifr nacv (velGround dew (speedCode vew) dns (speedCode vns))
          vsrc vsign vr gsign g)) =
        .ok (toDecoded (withFields (esHead df c aa) (out09 nacv
          [ fld (key! "groundspeed") (Bds09.groundspeedJ (signed dew vew) (signed dns vns)),
            fld (key! "track") (Bds09.trackJ (signed dew vew) (signed dns vns)) ]
          vsrc vrv gbv))) := by
  have h := es_velocity_ground_of df c aa 1 1 ic ifr nacv dew vew dns vns vsrc vsign vr gsign g hdf hc haa
    (Or.inl ⟨rfl, rfl⟩) hic hifr hnacv hdew hvew hdns hvns hvsrc hvsign hvr hgsign hg
  simpa only [Nat.one_mul] using h

/-- **DF 17/18, BDS 0,9 velocity over ground, subtype 2 (supersonic, LSB 4 kt)**: the same statement with the
    standard's components `ew = ±4·vew` kt, `ns = ±4·vns` kt (code `v + 1` stands for `4·v` kt): ground speed
    `hypot(4·vew, 4·vns)`, track `atan2(±4·vew, ±4·vns)`, for all 2 × 1023 × 2 × 1023 code pairs and every value of
    every other field.  (Repaired finding `C03-supersonic-groundspeed-not-scaled`: the decoder used to report the
    components in LSB counts, a quarter of the ground speed.) -/
theorem es_velocity_ground_supersonic (df c aa ic ifr nacv dew vew dns vns vsrc vsign vr gsign g : Nat)
    (hdf : df = 17 ∨ df = 18) (hc : c < 2 ^ 3) (haa : aa < 2 ^ 24)
    (hic : ic < 2 ^ 1) (hifr : ifr < 2 ^ 1) (hnacv : nacv < 2 ^ 3)
    (hdew : dew < 2 ^ 1) (hvew : vew < 1023) (hdns : dns < 2 ^ 1) (hvns : vns < 1023)
    (hvsrc : vsrc < 2 ^ 1) (hvsign : vsign < 2 ^ 1) (hvr : vr < 2 ^ 9) (hgsign : gsign < 2 ^ 1) (hg : g < 2 ^ 7) :
    ∃ vrv gbv,
      (∀ n, n < 511 → vr = vrateCode n → vrv = some (signed vsign (64 * n))) ∧
      (∀ n, n < 127 → g = geoBaroCode n → gbv = some (signed gsign (25 * n))) ∧
      tryFrom (buildES df c aa (me09 2 ic ifr nacv (velGround dew (speedCode vew) dns (speedCode vns))
          vsrc vsign vr gsign g)) =
        .ok (toDecoded (withFields (esHead df c aa) (out09 nacv
          [ fld (key! "groundspeed") (Bds09.groundspeedJ (signed dew (4 * vew)) (signed dns (4 * vns))),
            fld (key! "track") (Bds09.trackJ (signed dew (4 * vew)) (signed dns (4 * vns))) ]
          vsrc vrv gbv))) :=
  es_velocity_ground_of df c aa 2 4 ic ifr nacv dew vew dns vns vsrc vsign vr gsign g hdf hc haa
    (Or.inr ⟨rfl, rfl⟩) hic hifr hnacv hdew hvew hdns hvns hvsrc hvsign hvr hgsign hg

/-- **DF 17/18, BDS 0,9 airspeed and heading (subtypes 3 and 4)**: every heading code and status,
    every airspeed code `v + 1` and type, every value of the other fields.  Heading `hdg·360/1024`
    when the status bit is set; airspeed `v` kt (subtype 3) or `4·v` kt (subtype 4) under `IAS`/`TAS`. -/
theorem es_airspeed (df c aa sub ic ifr nacv hst hdg ast v vsrc vsign vr gsign g : Nat)
    (hdf : df = 17 ∨ df = 18) (hc : c < 2 ^ 3) (haa : aa < 2 ^ 24) (hsub : sub = 3 ∨ sub = 4)
    (hic : ic < 2 ^ 1) (hifr : ifr < 2 ^ 1) (hnacv : nacv < 2 ^ 3)
    (hhst : hst < 2 ^ 1) (hhdg : hdg < 2 ^ 10) (hast : ast < 2 ^ 1) (hv : v < 1023)
    (hvsrc : vsrc < 2 ^ 1) (hvsign : vsign < 2 ^ 1) (hvr : vr < 2 ^ 9) (hgsign : gsign < 2 ^ 1) (hg : g < 2 ^ 7) :
    ∃ vrv gbv,
      (∀ n, n < 511 → vr = vrateCode n → vrv = some (signed vsign (64 * n))) ∧
      (∀ n, n < 127 → g = geoBaroCode n → gbv = some (signed gsign (25 * n))) ∧
      tryFrom (buildES df c aa (me09 sub ic ifr nacv (velAir hst hdg ast (speedCode v)) vsrc vsign vr gsign g)) =
        .ok (toDecoded (withFields (esHead df c aa) (out09 nacv
          (Bds09.airspeedFields (if hst == 1 then some (jrat (hdg * 360) 1024) else none) ast
            (some (if sub = 3 then v else 4 * v)))
          vsrc vrv gbv))) := by
  have hvrv := Bds09.vrate_eq vsign vr hvr
  have hgbv := Bds09.geoBaro_eq gsign g hg
  have hsp : (if sub = 3 then Bds09.airspeedSub (speedCode v) else Bds09.airspeedSuper (speedCode v))
      = .ok (some (if sub = 3 then v else 4 * v)) := by
    rcases hsub with rfl | rfl
    · exact (airspeed_rt v (by omega) hv).1
    · exact (airspeed_rt v (by omega) hv).2
  exact ⟨_, _,
    fun n hn e => Outcome.ok.inj (hvrv.symm.trans (e ▸ vrate_rt vsign hvsign n (by omega) hn)),
    fun n hn e => Outcome.ok.inj (hgbv.symm.trans (e ▸ geobaro_rt gsign hgsign n (by omega) hn)),
    tryFrom_es df c aa _ _ hdf hc haa (me_bds09 (by omega) hic hifr hnacv (by simp [width, velAir])
      (fits_vel hhst hhdg hast (by unfold speedCode; omega)) hvsrc hvsign hvr hgsign hg
      (fun F => readVelocity_air F sub hst hdg ast _ _ hsub hsp)
      hvrv hgbv)⟩

/-- **DF 17/18, BDS 6,1 aircraft status**: all 4096 squawks, every emergency state and subtype -/
theorem es_status (df c aa sub es q : Nat)
    (hdf : df = 17 ∨ df = 18) (hc : c < 2 ^ 3) (haa : aa < 2 ^ 24) (hsub : sub < 2 ^ 3) (hes : es < 2 ^ 3)
    (hq : q < 2 ^ 12) :
    tryFrom (buildES df c aa (me61 sub es (id13OfOctal q))) =
      .ok (toDecoded (withFields (esHead df c aa) (tagged (key! "bds") (key! "61") (.ok [
        fld (key! "subtype") (.lit (Bds61.subtypeName sub)),
        fld (key! "emergency_state") (.lit (Bds61.emergencyName es)),
        fld (key! "squawk") (jhex4
          (0x1000 * ((q >>> 9) % 8) + 0x100 * ((q >>> 6) % 8) + 0x10 * ((q >>> 3) % 8) + q % 8)) ])))) := by
  rw [← squawk_rt q hq]
  exact tryFrom_es df c aa _ _ hdf hc haa (me_bds61 hsub hes (id13OfOctal_lt q hq))

theorem selalt62_total : ∀ a, a < 2 ^ 11 → (Bds62.selectedAltitude a).isOk = true := fun a ha => Outcome.isOk_of_eq (Bds62.selectedAltitude_eq a ha)
theorem qnh62_total : ∀ n, n < 2 ^ 9 → (Bds62.barometricSetting n).isOk = true := fun n _ => Outcome.isOk_of_eq (Bds62.barometricSetting_eq n)

/-- **DF 17/18, BDS 6,2 target state and status**: every code of every field; the selected altitude is
    the encoded one on the whole 100 ft grid, the pressure setting the single-precision value of
    `800 + 0.8 (n − 1)` (within 0.0001 mb of it, `qnh62_rt`), the heading `hdg·180/256`. -/
theorem es_target_state (df c aa silSup altType sa qc hst hdg nacp nicb sil ms ap vnav ah adsr app tcas lnav : Nat)
    (hdf : df = 17 ∨ df = 18) (hc : c < 2 ^ 3) (haa : aa < 2 ^ 24)
    (h1 : silSup < 2 ^ 1) (h2 : altType < 2 ^ 1) (hsa : sa < 2 ^ 11) (hqc : qc < 2 ^ 9) (h3 : hst < 2 ^ 1)
    (h4 : hdg < 2 ^ 9) (h5 : nacp < 2 ^ 4) (h6 : nicb < 2 ^ 1) (h7 : sil < 2 ^ 2) (h8 : ms < 2 ^ 1)
    (h9 : ap < 2 ^ 1) (h10 : vnav < 2 ^ 1) (h11 : ah < 2 ^ 1) (h12 : adsr < 2 ^ 1) (h13 : app < 2 ^ 1)
    (h14 : tcas < 2 ^ 1) (h15 : lnav < 2 ^ 1) :
    ∃ altv qv,
      (∀ k, k ≤ 654 → sa = selAlt62Code (100 * k) → altv = some (100 * k)) ∧
      (1 ≤ qc → qv = some (Bds62.qnhF32Num qc, Bds62.qnhDen) ∧
        qnhClose (Bds62.qnhF32Num qc) (8000 + 8 * (qc - 1)) = true) ∧
      tryFrom (buildES df c aa
          (me62 silSup altType sa qc hst hdg nacp nicb sil ms ap vnav ah adsr app tcas lnav)) =
        .ok (toDecoded (withFields (esHead df c aa)
          (out62 altType altv qv hst hdg nacp ms ap vnav ah app tcas lnav))) := by
  have halt := Bds62.selectedAltitude_eq sa hsa
  have hqv := Bds62.barometricSetting_eq qc
  exact ⟨_, _,
    fun k hk e => Outcome.ok.inj (halt.symm.trans (e ▸ (selalt62_rt k (by omega) hk).2)),
    fun h1q => ⟨if_neg (by omega), (qnh62_rt qc hqc h1q).2.1⟩,
    tryFrom_es df c aa _ _ hdf hc haa
      (me_bds62 h1 h2 hsa hqc h3 h4 h5 h6 h7 h8 h9 h10 h11 h12 h13 h14 h15 halt hqv)⟩

/-- **DF 4** (`_partial`: the 2007 codes N > 40 of the 25 ft encoding; the full statement is false,
    `alt25_ac13_full_false`): the altitude `25·N − 1000` ft in the AC field, every 24-bit address through the AP
    overlay, every value of FS, DR, UM -/
theorem df4_altitude_partial (fs dr um n addr : Nat)
    (hfs : fs < 2 ^ 3) (hdr : dr < 2 ^ 5) (hum : um < 2 ^ 6) (hn : n < 2 ^ 11) (h40 : n > 40)
    (haddr : addr < 2 ^ 24) :
    tryFrom (buildShort 4 fs dr um (ac13Q n) addr) = .ok (toDecoded (.ok
      [dfTag (key! "4"), fld (key! "altitude") (jnat (25 * n - 1000)), fld (key! "icao24") (jhex6 addr)])) :=
  tryFrom_df4 fs dr um _ addr _ hfs hdr hum (ac13Q_lt n hn) haddr (alt25_ac13_rt_partial n hn h40)

/-- **finding, frame level** (`C03-altitude-nonpositive-unavailable`): for each of the 41 codes N ≤ 40
    (−1000 … 0 ft) DF 4 reports `altitude: 0` (right for N = 40 only, where it cannot be told from "unavailable") -/
theorem finding_df4_altitude_nonpositive (fs dr um n addr : Nat)
    (hfs : fs < 2 ^ 3) (hdr : dr < 2 ^ 5) (hum : um < 2 ^ 6) (hn : n < 2 ^ 11) (h40 : n ≤ 40)
    (haddr : addr < 2 ^ 24) :
    tryFrom (buildShort 4 fs dr um (ac13Q n) addr) = .ok (toDecoded (.ok
      [dfTag (key! "4"), fld (key! "altitude") (jnat 0), fld (key! "icao24") (jhex6 addr)])) :=
  tryFrom_df4 fs dr um _ addr _ hfs hdr hum (ac13Q_lt n hn) haddr (finding_alt25_nonpositive_unavailable n hn h40).2

/-- … with a Gillham-coded altitude (`_partial`: steps 12 … 667, i.e. 0 … 65 500 ft) -/
theorem df4_altitude_gillham_partial (fs dr um s addr : Nat)
    (hfs : fs < 2 ^ 3) (hdr : dr < 2 ^ 5) (hum : um < 2 ^ 6) (hs1 : 12 ≤ s) (hs2 : s ≤ 667) (haddr : addr < 2 ^ 24) :
    tryFrom (buildShort 4 fs dr um (ac13G s) addr) = .ok (toDecoded (.ok
      [dfTag (key! "4"), fld (key! "altitude") (jnat (100 * s - 1200)), fld (key! "icao24") (jhex6 addr)])) :=
  tryFrom_df4 fs dr um _ addr _ hfs hdr hum (Proofs.Altitude.ac13G_lt s) haddr (gillham_ac13_rt_partial s (by omega) hs1 hs2)

/-- **finding, frame level**: Gillham steps below 0 ft and above 65 500 ft are reported as `altitude: 0` -/
theorem finding_df4_altitude_gillham_out_of_u16 (fs dr um s addr : Nat)
    (hfs : fs < 2 ^ 3) (hdr : dr < 2 ^ 5) (hum : um < 2 ^ 6) (hs : s < GILLHAM_STEPS) (hout : s < 12 ∨ 667 < s)
    (haddr : addr < 2 ^ 24) :
    tryFrom (buildShort 4 fs dr um (ac13G s) addr) = .ok (toDecoded (.ok
      [dfTag (key! "4"), fld (key! "altitude") (jnat 0), fld (key! "icao24") (jhex6 addr)])) :=
  tryFrom_df4 fs dr um _ addr _ hfs hdr hum (Proofs.Altitude.ac13G_lt s) haddr
    (finding_gillham_out_of_u16_unavailable s (Proofs.Altitude.steps_lt hs) hs hout).2

/-- **DF 5**: all 4096 squawks in the ID field, every address -/
theorem df5_squawk (fs dr um q addr : Nat)
    (hfs : fs < 2 ^ 3) (hdr : dr < 2 ^ 5) (hum : um < 2 ^ 6) (hq : q < 2 ^ 12) (haddr : addr < 2 ^ 24) :
    tryFrom (buildShort 5 fs dr um (id13OfOctal q) addr) = .ok (toDecoded (.ok
      [dfTag (key! "5"),
       fld (key! "squawk") (jhex4
          (0x1000 * ((q >>> 9) % 8) + 0x100 * ((q >>> 6) % 8) + 0x10 * ((q >>> 3) % 8) + q % 8)),
       fld (key! "icao24") (jhex6 addr)])) := by
  rw [← squawk_rt q hq]
  exact tryFrom_df5 fs dr um _ addr hfs hdr hum (id13OfOctal_lt q hq) haddr

/-! ## Air-air surveillance replies (DF 0 / DF 16) and the all-call reply (DF 11)

`buildAir0 vs cc sl ri code addr` / `buildAir16 vs sl ri code addr mv` are the Spec's ACAS replies (Annex 10
§3.1.2.8.2 / §3.1.2.8.3): the AC field at bits 20–32 behind VS, (CC,) SL, RI and the spare bits, then (DF 16) the
56-bit MV field, then the AP overlay.  The altitude statements are the ones of DF 4 — same field codec `ac13`, same
two recorded findings — for every value of VS, CC, SL, RI, every MV content and every address. -/

/-- **DF 0** (`_partial`: the 2007 codes N > 40 of the 25 ft encoding; the full statement is false,
    `alt25_ac13_full_false`): the altitude `25·N − 1000` ft in the AC field, every 24-bit address through the AP
    overlay, every value of VS, CC, SL, RI -/
theorem df0_altitude_partial (vs cc sl ri n addr : Nat)
    (hvs : vs < 2 ^ 1) (hcc : cc < 2 ^ 1) (hsl : sl < 2 ^ 3) (hri : ri < 2 ^ 4) (hn : n < 2 ^ 11) (h40 : n > 40)
    (haddr : addr < 2 ^ 24) :
    tryFrom (buildAir0 vs cc sl ri (ac13Q n) addr) = .ok (toDecoded (.ok
      [dfTag (key! "0"), fld (key! "altitude") (jnat (25 * n - 1000)), fld (key! "icao24") (jhex6 addr)])) :=
  tryFrom_df0 vs cc sl ri _ addr _ hvs hcc hsl hri (ac13Q_lt n hn) haddr (alt25_ac13_rt_partial n hn h40)

/-- **finding, frame level** (`C03-altitude-nonpositive-unavailable`): the 41 codes N ≤ 40 in DF 0: `altitude: 0` -/
theorem finding_df0_altitude_nonpositive (vs cc sl ri n addr : Nat)
    (hvs : vs < 2 ^ 1) (hcc : cc < 2 ^ 1) (hsl : sl < 2 ^ 3) (hri : ri < 2 ^ 4) (hn : n < 2 ^ 11) (h40 : n ≤ 40)
    (haddr : addr < 2 ^ 24) :
    tryFrom (buildAir0 vs cc sl ri (ac13Q n) addr) = .ok (toDecoded (.ok
      [dfTag (key! "0"), fld (key! "altitude") (jnat 0), fld (key! "icao24") (jhex6 addr)])) :=
  tryFrom_df0 vs cc sl ri _ addr _ hvs hcc hsl hri (ac13Q_lt n hn) haddr
    (finding_alt25_nonpositive_unavailable n hn h40).2

/-- … with a Gillham-coded altitude (`_partial`: steps 12 … 667, i.e. 0 … 65 500 ft) -/
theorem df0_altitude_gillham_partial (vs cc sl ri s addr : Nat)
    (hvs : vs < 2 ^ 1) (hcc : cc < 2 ^ 1) (hsl : sl < 2 ^ 3) (hri : ri < 2 ^ 4) (hs1 : 12 ≤ s) (hs2 : s ≤ 667)
    (haddr : addr < 2 ^ 24) :
    tryFrom (buildAir0 vs cc sl ri (ac13G s) addr) = .ok (toDecoded (.ok
      [dfTag (key! "0"), fld (key! "altitude") (jnat (100 * s - 1200)), fld (key! "icao24") (jhex6 addr)])) :=
  tryFrom_df0 vs cc sl ri _ addr _ hvs hcc hsl hri (Proofs.Altitude.ac13G_lt s) haddr
    (gillham_ac13_rt_partial s (by omega) hs1 hs2)

/-- **finding, frame level**: Gillham steps below 0 ft and above 65 500 ft in DF 0: `altitude: 0` -/
theorem finding_df0_altitude_gillham_out_of_u16 (vs cc sl ri s addr : Nat)
    (hvs : vs < 2 ^ 1) (hcc : cc < 2 ^ 1) (hsl : sl < 2 ^ 3) (hri : ri < 2 ^ 4) (hs : s < GILLHAM_STEPS)
    (hout : s < 12 ∨ 667 < s) (haddr : addr < 2 ^ 24) :
    tryFrom (buildAir0 vs cc sl ri (ac13G s) addr) = .ok (toDecoded (.ok
      [dfTag (key! "0"), fld (key! "altitude") (jnat 0), fld (key! "icao24") (jhex6 addr)])) :=
  tryFrom_df0 vs cc sl ri _ addr _ hvs hcc hsl hri (Proofs.Altitude.ac13G_lt s) haddr
    (finding_gillham_out_of_u16_unavailable s (Proofs.Altitude.steps_lt hs) hs hout).2

def out16 (vs sl ri alt addr : Nat) : SerFields := .ok
  [dfTag (key! "16"), fld (key! "vs") (jnat vs), fld (key! "sl") (jnat sl), fld (key! "ri") (jnat ri),
   fld (key! "altitude") (jnat alt), fld (key! "icao24") (jhex6 addr)]

/-- **DF 16** (`_partial`: N > 40): the altitude `25·N − 1000` ft, VS / SL / RI as sent, every address through the
    AP overlay — for EVERY content of the 56-bit MV field -/
theorem df16_altitude_partial (vs sl ri n addr : Nat) (mv : List Field)
    (hvs : vs < 2 ^ 1) (hsl : sl < 2 ^ 3) (hri : ri < 2 ^ 4) (hn : n < 2 ^ 11) (h40 : n > 40)
    (haddr : addr < 2 ^ 24) (hw : width mv = 56) (hfit : fits mv = true) :
    tryFrom (buildAir16 vs sl ri (ac13Q n) addr mv) = .ok (toDecoded (out16 vs sl ri (25 * n - 1000) addr)) :=
  tryFrom_df16 vs sl ri _ addr _ mv hvs hsl hri (ac13Q_lt n hn) haddr hw hfit (alt25_ac13_rt_partial n hn h40)

/-- **finding, frame level** (`C03-altitude-nonpositive-unavailable`): the 41 codes N ≤ 40 in DF 16: `altitude: 0` -/
theorem finding_df16_altitude_nonpositive (vs sl ri n addr : Nat) (mv : List Field)
    (hvs : vs < 2 ^ 1) (hsl : sl < 2 ^ 3) (hri : ri < 2 ^ 4) (hn : n < 2 ^ 11) (h40 : n ≤ 40)
    (haddr : addr < 2 ^ 24) (hw : width mv = 56) (hfit : fits mv = true) :
    tryFrom (buildAir16 vs sl ri (ac13Q n) addr mv) = .ok (toDecoded (out16 vs sl ri 0 addr)) :=
  tryFrom_df16 vs sl ri _ addr _ mv hvs hsl hri (ac13Q_lt n hn) haddr hw hfit
    (finding_alt25_nonpositive_unavailable n hn h40).2

/-- … with a Gillham-coded altitude (`_partial`: steps 12 … 667, i.e. 0 … 65 500 ft) -/
theorem df16_altitude_gillham_partial (vs sl ri s addr : Nat) (mv : List Field)
    (hvs : vs < 2 ^ 1) (hsl : sl < 2 ^ 3) (hri : ri < 2 ^ 4) (hs1 : 12 ≤ s) (hs2 : s ≤ 667)
    (haddr : addr < 2 ^ 24) (hw : width mv = 56) (hfit : fits mv = true) :
    tryFrom (buildAir16 vs sl ri (ac13G s) addr mv) = .ok (toDecoded (out16 vs sl ri (100 * s - 1200) addr)) :=
  tryFrom_df16 vs sl ri _ addr _ mv hvs hsl hri (Proofs.Altitude.ac13G_lt s) haddr hw hfit
    (gillham_ac13_rt_partial s (by omega) hs1 hs2)

/-- **finding, frame level**: Gillham steps below 0 ft and above 65 500 ft in DF 16: `altitude: 0` -/
theorem finding_df16_altitude_gillham_out_of_u16 (vs sl ri s addr : Nat) (mv : List Field)
    (hvs : vs < 2 ^ 1) (hsl : sl < 2 ^ 3) (hri : ri < 2 ^ 4) (hs : s < GILLHAM_STEPS) (hout : s < 12 ∨ 667 < s)
    (haddr : addr < 2 ^ 24) (hw : width mv = 56) (hfit : fits mv = true) :
    tryFrom (buildAir16 vs sl ri (ac13G s) addr mv) = .ok (toDecoded (out16 vs sl ri 0 addr)) :=
  tryFrom_df16 vs sl ri _ addr _ mv hvs hsl hri (Proofs.Altitude.ac13G_lt s) haddr hw hfit
    (finding_gillham_out_of_u16_unavailable s (Proofs.Altitude.steps_lt hs) hs hout).2

/-- **DF 11**: every 24-bit ANNOUNCED address (AA, bits 9–32) is reported as `icao24`, with the capability, for every
    interrogator code `ic` overlaid on the parity (`ic = 0`: acquisition squitter / reply to an II = 0 all-call) — the
    checksum remainder of a DF 11 reply is the interrogator code, not an address, and is not reported -/
theorem df11_address (ca aa ic : Nat) (hca : ca < 2 ^ 3) (haa : aa < 2 ^ 24) (hic : ic < 2 ^ 24) :
    tryFrom (buildAllCall ca aa ic) = .ok (toDecoded (.ok
      [dfTag (key! "11"), fld (key! "capability") (.lit (capabilityName ca)), fld (key! "icao24") (jhex6 aa)])) :=
  tryFrom_df11 ca aa ic hca haa hic

/-! ## Comm-B replies (DF 20 / DF 21)

The MB field is decoded by hypothesis testing: every register reader is tried on the 56 bits and the
ones that accept are reported under `bdsNN`.  A frame theorem therefore says: the reply decodes (never
an error, a panic or a serialisation failure — `Commb.common_eq` is used
here), its head is `df`, the altitude / squawk of the AC / ID field, its tail the address recovered from
the AP overlay, and the register list `regs` in between holds the expected object under the
register's key.  Other registers may *also* accept the same bits (that is the nature of the
hypothesis test); nothing is claimed about them. -/

theorem ac13_total : ∀ f, f < 2 ^ 13 → (ac13 f).isOk = true := fun f _ => (Proofs.Altitude.ac13_ok f).elim fun _ h => Outcome.isOk_of_eq h

/-- "a DF 20 and a DF 21 reply built by the Spec around the MB field `mb` carry the object `val` under
    `key`" — for every FS, DR, UM, every 13-bit AC / ID code and every 24-bit address -/
def CommbCarries (mb : List Field) (key : Key) (val : Fields) : Prop :=
  ∀ fs dr um code addr, fs < 2 ^ 3 → dr < 2 ^ 5 → um < 2 ^ 6 → code < 2 ^ 13 → addr < 2 ^ 24 →
    (∃ alt regs, ac13 code = .ok alt ∧
      tryFrom (buildCommB 20 fs dr um code addr mb) = .ok (toDecoded (.ok
        ([dfTag (key! "20"), fld (key! "altitude") (jnat alt)] ++ regs ++ [fld (key! "icao24") (jhex6 addr)]))) ∧
      Fields.get? regs key = some (.obj val.toObj)) ∧
    (∃ regs,
      tryFrom (buildCommB 21 fs dr um code addr mb) = .ok (toDecoded (.ok
        ([dfTag (key! "21"), fld (key! "squawk") (jhex4 (decodeId13 code))] ++ regs ++
          [fld (key! "icao24") (jhex6 addr)]))) ∧
      Fields.get? regs key = some (.obj val.toObj))

theorem commbCarries_of (mb : List Field) (key : Key) (val : Fields)
    (hw : width mb = 56) (hfit : fits mb = true) (hnz : NonZero mb)
    (hget : ∀ b05 regs, Regs (Spec.Crc.pack (layout mb)) b05 regs → Fields.get? regs key = some (.obj val.toObj)) :
    CommbCarries mb key val := by
  intro fs dr um code addr hfs hdr hum hcode haddr
  obtain ⟨alt, halt⟩ := Proofs.Altitude.ac13_ok code
  constructor
  · obtain ⟨b05, regs, hregs, _, htf⟩ := tryFrom_df20 fs dr um code addr alt mb hfs hdr hum hcode haddr hw hfit hnz halt
    exact ⟨alt, regs, halt, htf, hget b05 regs hregs⟩
  · obtain ⟨regs, hregs, htf⟩ := tryFrom_df21 fs dr um code addr mb hfs hdr hum hcode haddr hw hfit hnz
    exact ⟨regs, htf, hget none regs hregs⟩

/-- **DF 20, the AC field at frame level** (`_partial`: N > 40): a Comm-B altitude reply built by the Spec around ANY
    non-zero 56-bit MB field carries `altitude = 25·N − 1000` ft and the address of the AP overlay; `regs` are the
    registers the hypothesis test recognised in the MB field -/
theorem df20_altitude_partial (fs dr um n addr : Nat) (mb : List Field)
    (hfs : fs < 2 ^ 3) (hdr : dr < 2 ^ 5) (hum : um < 2 ^ 6) (hn : n < 2 ^ 11) (h40 : n > 40) (haddr : addr < 2 ^ 24)
    (hw : width mb = 56) (hfit : fits mb = true) (hnz : NonZero mb) :
    ∃ regs, tryFrom (buildCommB 20 fs dr um (ac13Q n) addr mb) = .ok (toDecoded (.ok
      ([dfTag (key! "20"), fld (key! "altitude") (jnat (25 * n - 1000))] ++ regs ++
        [fld (key! "icao24") (jhex6 addr)]))) := by
  obtain ⟨_, regs, _, _, htf⟩ := tryFrom_df20 fs dr um _ addr _ mb hfs hdr hum (ac13Q_lt n hn) haddr hw hfit hnz
    (alt25_ac13_rt_partial n hn h40)
  exact ⟨regs, htf⟩

/-- … with a Gillham-coded altitude (`_partial`: steps 12 … 667, i.e. 0 … 65 500 ft) -/
theorem df20_altitude_gillham_partial (fs dr um s addr : Nat) (mb : List Field)
    (hfs : fs < 2 ^ 3) (hdr : dr < 2 ^ 5) (hum : um < 2 ^ 6) (hs1 : 12 ≤ s) (hs2 : s ≤ 667) (haddr : addr < 2 ^ 24)
    (hw : width mb = 56) (hfit : fits mb = true) (hnz : NonZero mb) :
    ∃ regs, tryFrom (buildCommB 20 fs dr um (ac13G s) addr mb) = .ok (toDecoded (.ok
      ([dfTag (key! "20"), fld (key! "altitude") (jnat (100 * s - 1200))] ++ regs ++
        [fld (key! "icao24") (jhex6 addr)]))) := by
  obtain ⟨_, regs, _, _, htf⟩ := tryFrom_df20 fs dr um _ addr _ mb hfs hdr hum (Proofs.Altitude.ac13G_lt s) haddr hw hfit hnz
    (gillham_ac13_rt_partial s (by omega) hs1 hs2)
  exact ⟨regs, htf⟩

/-- **finding, frame level** (`C03-altitude-nonpositive-unavailable`): the 41 codes N ≤ 40 in DF 20: `altitude: 0` -/
theorem finding_df20_altitude_nonpositive (fs dr um n addr : Nat) (mb : List Field)
    (hfs : fs < 2 ^ 3) (hdr : dr < 2 ^ 5) (hum : um < 2 ^ 6) (hn : n < 2 ^ 11) (h40 : n ≤ 40) (haddr : addr < 2 ^ 24)
    (hw : width mb = 56) (hfit : fits mb = true) (hnz : NonZero mb) :
    ∃ regs, tryFrom (buildCommB 20 fs dr um (ac13Q n) addr mb) = .ok (toDecoded (.ok
      ([dfTag (key! "20"), fld (key! "altitude") (jnat 0)] ++ regs ++ [fld (key! "icao24") (jhex6 addr)]))) := by
  obtain ⟨_, regs, _, _, htf⟩ := tryFrom_df20 fs dr um _ addr _ mb hfs hdr hum (ac13Q_lt n hn) haddr hw hfit hnz
    (finding_alt25_nonpositive_unavailable n hn h40).2
  exact ⟨regs, htf⟩

/-- **DF 21, the ID field at frame level**: all 4096 squawks, every address, any non-zero MB field -/
theorem df21_squawk (fs dr um q addr : Nat) (mb : List Field)
    (hfs : fs < 2 ^ 3) (hdr : dr < 2 ^ 5) (hum : um < 2 ^ 6) (hq : q < 2 ^ 12) (haddr : addr < 2 ^ 24)
    (hw : width mb = 56) (hfit : fits mb = true) (hnz : NonZero mb) :
    ∃ regs, tryFrom (buildCommB 21 fs dr um (id13OfOctal q) addr mb) = .ok (toDecoded (.ok
      ([dfTag (key! "21"), fld (key! "squawk") (jhex4
          (0x1000 * ((q >>> 9) % 8) + 0x100 * ((q >>> 6) % 8) + 0x10 * ((q >>> 3) % 8) + q % 8))] ++ regs ++
        [fld (key! "icao24") (jhex6 addr)]))) := by
  rw [← squawk_rt q hq]
  obtain ⟨regs, _, htf⟩ := tryFrom_df21 fs dr um _ addr mb hfs hdr hum (id13OfOctal_lt q hq) haddr hw hfit hnz
  exact ⟨regs, htf⟩

/-- **BDS 2,0 in DF 20/21**: every valid call sign -/
theorem commb_identification (cs : List Char) (hcs : validCallsign cs) :
    CommbCarries (mb20 cs) (key! "bds20")
      [fld (key! "bds") (.lit (key! "20")), fld (key! "callsign") (.chars cs)] := by
  have hlen := callsignCodes_length hcs.1
  refine commbCarries_of _ _ _ (by rw [mb20, width, callsignFields, width_map6, hlen])
    (by rw [mb20, fits, fits_callsignFields]; rfl) ⟨0, 8, 0x20, rfl, by decide⟩ fun b05 regs hregs => ?_
  exact hregs.bds20.trans
    (congrArg Commb.nestVal (hyp_bds20 _ cs hlen (fits_callsignFields cs) (callsign_rt cs hcs)))

def stBit {α} (o : Option α) : Nat := if o.isSome then 1 else 0

theorem stBit_lt {α} (o : Option α) : stBit o < 2 := by unfold stBit; split <;> decide

/-- **BDS 4,0 in DF 20/21**: MCP/FCU and FMS selected altitudes on the whole 100 ft grid up to
    45 000 ft (`some k` = 100·k ft, `none` = status bit clear), every pressure code (`some v` =
    800 + 0.1·v mb), every mode bit and target source.  The payload must not be all zero (an all-zero
    MB field means "no register"). -/
theorem commb_bds40 (mcp fms baro : Option Nat) (sMode vnav ah app sSrc src : Nat)
    (hmcp : ∀ k, mcp = some k → k ≤ 450) (hfms : ∀ k, fms = some k → k ≤ 450)
    (hbaro : ∀ v, baro = some v → v < 2 ^ 12)
    (h1 : sMode < 2 ^ 1) (h2 : vnav < 2 ^ 1) (h3 : ah < 2 ^ 1) (h4 : app < 2 ^ 1) (h5 : sSrc < 2 ^ 1)
    (h6 : src < 2 ^ 2)
    (hnz : NonZero (mb40 (stBit mcp) ((mcp.map fun k => selAlt40Code (100 * k)).getD 0)
      (stBit fms) ((fms.map fun k => selAlt40Code (100 * k)).getD 0)
      (stBit baro) ((baro.map fun v => qnh40Code (8000 + v)).getD 0) sMode vnav ah app sSrc src)) :
    CommbCarries (mb40 (stBit mcp) ((mcp.map fun k => selAlt40Code (100 * k)).getD 0)
        (stBit fms) ((fms.map fun k => selAlt40Code (100 * k)).getD 0)
        (stBit baro) ((baro.map fun v => qnh40Code (8000 + v)).getD 0) sMode vnav ah app sSrc src)
      (key! "bds40")
      [ fld (key! "bds") (.lit (key! "40")),
        skipNone (key! "selected_mcp") (mcp.map fun k => jnat (100 * k)),
        skipNone (key! "selected_fms") (fms.map fun k => jnat (100 * k)),
        skipNone (key! "barometric_setting") (baro.map fun v => jrat ((v + 8000 : Nat) : Int) 10),
        skipNone (key! "target_source") (Bds40.targetSource src) ] := by
  have alt_ok : ∀ o : Option Nat, (∀ k, o = some k → k ≤ 450) →
      (o.map fun k => selAlt40Code (100 * k)).getD 0 < 2 ^ 12 ∧
      Bds40.selectedAlt (stBit o == 1) ((o.map fun k => selAlt40Code (100 * k)).getD 0)
        = .ok (o.map fun k => 100 * k) := fun o ho =>
    optCases o ⟨by decide, rfl⟩ fun k hk => selalt40_rt k (by have := ho k hk; omega) (ho k hk)
  have q_ok : (baro.map fun v => qnh40Code (8000 + v)).getD 0 < 2 ^ 12 ∧
      Bds40.qnhNum (stBit baro == 1) ((baro.map fun v => qnh40Code (8000 + v)).getD 0)
        = .ok (baro.map fun v => v + 8000) :=
    optCases baro ⟨by decide, rfl⟩ fun v hv => by
      have := qnh40_rt v (hbaro v hv)
      simp only [Option.map_some, Option.getD_some, this.2]
      exact ⟨hbaro v hv, this.1⟩
  obtain ⟨m1, m2⟩ := alt_ok mcp hmcp
  obtain ⟨f1, f2⟩ := alt_ok fms hfms
  obtain ⟨q1, q2⟩ := q_ok
  have hfit := fits_mb40 (stBit_lt mcp) m1 (stBit_lt fms) f1 (stBit_lt baro) q1 h1 h2 h3 h4 h5 h6
  refine commbCarries_of _ _ _ (by simp [width, mb40]) hfit hnz fun b05 regs hregs => ?_
  rw [hregs.bds40, hyp_bds40 _ _ _ _ _ _ sMode vnav ah app sSrc src _ _ _ hfit m2 f2 q2]
  simp only [Commb.nestVal, out40, Option.map_map]
  cases baro <;> rfl

/-- **BDS 5,0 in DF 20/21** (`_partial`: NOT the full code space of the register — only the codes inside the
    plausibility rules the decoder's Comm-B inference imposes: |roll| ≤ 50° (|k| ≤ 284 of 512), ground speed ≤ 600 kt
    (v ≤ 300 of 1023), TAS 80 … 500 kt within 200 kt of the ground speed when both are present, roll and track rate
    of the same sign; outside them the register is not recognised at all — and, for the track rate, not the two
    codes `k = −1`, `k = 511` of the known finding `C03-bds50-track-rate-all-ones-null`).
    `some k` = status bit set with `k` LSBs, `none` = status bit clear (field zero).
    roll `k·45/256`°, track `k·90/512`° mod 360, ground speed / TAS `2·v` kt, track rate `k·8/256` °/s. -/
theorem commb_bds50_partial (roll trk : Option Int) (gs : Option Nat) (rate : Option Int) (tas : Option Nat)
    (hroll : ∀ k, roll = some k → -512 ≤ k ∧ k < 512 ∧ k.natAbs ≤ 284)
    (htrk : ∀ k, trk = some k → -1024 ≤ k ∧ k < 1024)
    (hgs : ∀ v, gs = some v → v ≤ 300)
    (hrate : ∀ k, rate = some k → -512 ≤ k ∧ k < 511 ∧ k ≠ -1 ∧
      ∀ n, roll = some n → (0 ≤ n ∧ 0 ≤ k) ∨ (n ≤ 0 ∧ k ≤ 0))
    (htas : ∀ t, tas = some t → t < 2 ^ 10 ∧
      ∀ v, gs = some v → 80 ≤ 2 * t ∧ 2 * t ≤ 500 ∧ 2 * v ≤ 2 * t + 200 ∧ 2 * t ≤ 2 * v + 200)
    (hnz : NonZero (mb50 (stBit roll) (roll.getD 0) (stBit trk) (trk.getD 0) (stBit gs) (gs.getD 0)
      (stBit rate) (rate.getD 0) (stBit tas) (tas.getD 0))) :
    CommbCarries (mb50 (stBit roll) (roll.getD 0) (stBit trk) (trk.getD 0) (stBit gs) (gs.getD 0)
        (stBit rate) (rate.getD 0) (stBit tas) (tas.getD 0))
      (key! "bds50")
      [ fld (key! "bds") (.lit (key! "50")),
        fldOpt (key! "roll") (roll.map fun k => jrat (k * 45) 256),
        fldOpt (key! "track") (trk.map fun k => jrat ((k * 90) % (360 * 512)) 512),
        fldOpt (key! "groundspeed") (gs.map fun v => jnat (2 * v)),
        fldOpt (key! "track_rate") (rate.map fun k => jrat (k * 8) 256),
        fldOpt (key! "TAS") (tas.map fun t => jnat (2 * t)) ] := by
  have e1 : Bds50.roll (stBit roll == 1) (signBit (roll.getD 0)) (twosMag 9 (roll.getD 0)) = .ok roll :=
    optCases roll rfl fun k hk => by obtain ⟨a, b, c⟩ := hroll k hk; exact roll50_rt k a b c
  have e2 : Bds50.track (stBit trk == 1) (signBit (trk.getD 0)) (twosMag 10 (trk.getD 0))
      = .ok (trk.map fun k => (k * 90) % (360 * 512)) :=
    optCases trk rfl fun k hk => track50_rt k (htrk k hk).1 (htrk k hk).2
  have e3 : Bds50.groundspeed (stBit gs == 1) (gs.getD 0) = .ok (gs.map fun v => 2 * v) :=
    optCases gs rfl fun v hv => gs50_rt v (by have := hgs v hv; omega) (hgs v hv)
  have e4 : Bds50.rate roll (stBit rate == 1) (signBit (rate.getD 0)) (twosMag 9 (rate.getD 0))
      = .ok (rate.map fun k => k * 8) :=
    optCases rate rfl fun k hk => by obtain ⟨a, b, c, d⟩ := hrate k hk; exact rate50_rt_partial roll k a b c d
  have e5 : Bds50.tas (gs.map fun v => 2 * v) (stBit tas == 1) (tas.getD 0) = .ok (tas.map fun t => 2 * t) :=
    optCases tas rfl fun t ht => by
      obtain ⟨a, b⟩ := htas t ht
      refine tas50_rt _ t a fun g hg => ?_
      obtain ⟨v, hv, rfl⟩ := Option.map_eq_some_iff.1 hg
      have := b v hv
      have := hgs v hv
      omega
  have hfit := fits_mb50 (roll.getD 0) (trk.getD 0) (rate.getD 0) (stBit_lt roll) (stBit_lt trk) (stBit_lt gs)
    (getD_lt (by decide) fun v hv => by have := hgs v hv; omega) (stBit_lt rate) (stBit_lt tas)
    (getD_lt (by decide) fun t ht => (htas t ht).1)
  refine commbCarries_of _ _ _ (by simp [width, mb50]) hfit hnz fun b05 regs hregs => ?_
  rw [hregs.bds50, hyp_bds50 _ _ _ _ _ _ _ _ _ _ _ _ _ _ _ hfit e1 e2 e3 e4 e5]
  simp only [Commb.nestVal, out50, Option.map_map]
  rfl

/-- **BDS 6,0 in DF 20/21** (`_partial`: NOT the full code space of the register — only the codes inside the
    plausibility rules the decoder's Comm-B inference imposes: IAS 1 … 500 kt, Mach ≤ 1 (v ≤ 250 of 1023) and
    consistent with the IAS, |vertical rate| ≤ 6000 ft/min (|k| ≤ 187 of 512); outside them the register is not
    recognised at all — and, for the two vertical rates, not the code `k = −1` of the known finding
    `C03-bds60-vertical-rate-minus-one-lsb-zero`).
    heading `k·90/512`° mod 360, IAS `v` kt, Mach `v·2048/512000 = v·2.048/512`, vertical rates `32·k` ft/min. -/
theorem commb_bds60_partial (hdg : Option Int) (ias mach : Option Nat) (baro inert : Option Int)
    (hhdg : ∀ k, hdg = some k → -1024 ≤ k ∧ k < 1024)
    (hias : ∀ v, ias = some v → 1 ≤ v ∧ v ≤ 500)
    (hmach : ∀ v, mach = some v → 1 ≤ v ∧ v ≤ 250 ∧
      ∀ i, ias = some i → ¬ (i > 250 ∧ v < 100) ∧ ¬ (i < 150 ∧ v > 125))
    (hbaro : ∀ k, baro = some k → -512 ≤ k ∧ k < 512 ∧ k.natAbs ≤ 187 ∧ k ≠ -1)
    (hin : ∀ k, inert = some k → -512 ≤ k ∧ k < 512 ∧ k.natAbs ≤ 187 ∧ k ≠ -1)
    (hnz : NonZero (mb60 (stBit hdg) (hdg.getD 0) (stBit ias) (ias.getD 0) (stBit mach) (mach.getD 0)
      (stBit baro) (baro.getD 0) (stBit inert) (inert.getD 0))) :
    CommbCarries (mb60 (stBit hdg) (hdg.getD 0) (stBit ias) (ias.getD 0) (stBit mach) (mach.getD 0)
        (stBit baro) (baro.getD 0) (stBit inert) (inert.getD 0))
      (key! "bds60")
      [ fld (key! "bds") (.lit (key! "60")),
        skipNone (key! "heading") (hdg.map fun k => jrat ((k * 90) % (360 * 512)) 512),
        skipNone (key! "IAS") (ias.map jnat),
        skipNone (key! "Mach") (mach.map fun v => jrat (v * 2048) 512000),
        skipNone (key! "vrate_barometric") (baro.map fun k => jint (32 * k)),
        skipNone (key! "vrate_inertial") (inert.map fun k => jint (32 * k)) ] := by
  have e1 : Bds60.heading (stBit hdg == 1) (signBit (hdg.getD 0)) (twosMag 10 (hdg.getD 0))
      = .ok (hdg.map fun k => (k * 90) % (360 * 512)) :=
    optCases hdg rfl fun k hk => heading60_rt k (hhdg k hk).1 (hhdg k hk).2
  have e2 : Bds60.ias (stBit ias == 1) (ias.getD 0) = .ok ias :=
    optCases ias rfl fun v hv => by obtain ⟨a, b⟩ := hias v hv; exact ias60_rt v (by omega) a b
  have e3 : Bds60.mach ias (stBit mach == 1) (mach.getD 0) = .ok mach :=
    optCases mach rfl fun v hv => by obtain ⟨a, b, c⟩ := hmach v hv; exact mach60_rt ias v a b c
  have ev : ∀ o : Option Int, (∀ k, o = some k → -512 ≤ k ∧ k < 512 ∧ k.natAbs ≤ 187 ∧ k ≠ -1) →
      Bds60.vertical (stBit o == 1) (signBit (o.getD 0)) (twosMag 9 (o.getD 0))
        = .ok (o.map fun k => 32 * k) := fun o ho =>
    optCases o rfl fun k hk => by obtain ⟨a, b, c, d⟩ := ho k hk; exact vrate60_rt_partial k a b c d
  have hfit := fits_mb60 (hdg.getD 0) (baro.getD 0) (inert.getD 0) (stBit_lt hdg) (stBit_lt ias)
    (getD_lt (by decide) fun v hv => by have := hias v hv; omega) (stBit_lt mach)
    (getD_lt (by decide) fun v hv => by have := hmach v hv; omega) (stBit_lt baro) (stBit_lt inert)
  refine commbCarries_of _ _ _ (by simp [width, mb60]) hfit hnz fun b05 regs hregs => ?_
  rw [hregs.bds60, hyp_bds60 _ _ _ _ _ _ _ _ _ _ _ _ _ _ _ hfit e1 e2 e3 (ev baro hbaro) (ev inert hin)]
  simp only [Commb.nestVal, out60, Option.map_map]
  rfl

/-- **A DF 20 payload is labelled as an airborne position only when its altitude equals the altitude of
    the surveillance header.**  For every DF 20 reply — every FS, DR, UM, AC code, address, and *every*
    56-bit MB content `mb` (any field list of total width 56, e.g. the single field `[(56, v)]`) that
    is not all zero: if the decoded message has a `bds05` entry, that entry is an object whose
    `altitude` is the integer `alt` reported for the AC field.  (An all-zero MB field yields no
    register at all; DF 21 never tries the BDS 0,5 hypothesis.) -/
theorem bds05_in_df20_only_if_alt_matches (fs dr um code addr : Nat) (mb : List Field)
    (hfs : fs < 2 ^ 3) (hdr : dr < 2 ^ 5) (hum : um < 2 ^ 6) (hcode : code < 2 ^ 13) (haddr : addr < 2 ^ 24)
    (hw : width mb = 56) (hfit : fits mb = true) (hnz : NonZero mb) :
    ∃ alt regs, ac13 code = .ok alt ∧
      tryFrom (buildCommB 20 fs dr um code addr mb) = .ok (toDecoded (.ok
        ([dfTag (key! "20"), fld (key! "altitude") (jnat alt)] ++ regs ++ [fld (key! "icao24") (jhex6 addr)]))) ∧
      ∀ j, Fields.get? regs (key! "bds05") = some j →
        ∃ f, j = .obj (Fields.toObj f) ∧ Fields.get? f (key! "altitude") = some (.int alt) := by
  obtain ⟨alt, halt⟩ := Proofs.Altitude.ac13_ok code
  obtain ⟨b05, regs, hregs, hb05, htf⟩ := tryFrom_df20 fs dr um code addr alt mb hfs hdr hum hcode haddr hw hfit hnz halt
  refine ⟨alt, regs, halt, htf, ?_⟩
  intro j hj
  rw [hregs.bds05] at hj
  cases b05 with
  | none => simp [Commb.nestVal] at hj
  | some v =>
    cases v with
    | error e => simp [Commb.nestVal] at hj
    | ok f =>
      simp only [Commb.nestVal, Option.some.injEq] at hj
      exact ⟨f, hj.symm, hb05 f rfl⟩

/-- DF 21 never labels its payload as an airborne position -/
theorem bds05_not_in_df21 (fs dr um code addr : Nat) (mb : List Field)
    (hfs : fs < 2 ^ 3) (hdr : dr < 2 ^ 5) (hum : um < 2 ^ 6) (hcode : code < 2 ^ 13) (haddr : addr < 2 ^ 24)
    (hw : width mb = 56) (hfit : fits mb = true) (hnz : NonZero mb) :
    ∃ regs,
      tryFrom (buildCommB 21 fs dr um code addr mb) = .ok (toDecoded (.ok
        ([dfTag (key! "21"), fld (key! "squawk") (jhex4 (decodeId13 code))] ++ regs ++
          [fld (key! "icao24") (jhex6 addr)]))) ∧
      Fields.get? regs (key! "bds05") = none := by
  obtain ⟨regs, hregs, htf⟩ := tryFrom_df21 fs dr um code addr mb hfs hdr hum hcode haddr hw hfit hnz
  exact ⟨regs, htf, hregs.bds05⟩

/-! Non-vacuity.  The Spec encoder reproduces frames of the repository's own test-suite bit for bit, and the hypotheses
of the frame theorems are satisfiable on them. -/

-- bds08.rs: 8d406b902015a678d4d220aa4bda  (EZY85MH)
example : buildES 17 5 0x406b90 (me08 4 0 ['E', 'Z', 'Y', '8', '5', 'M', 'H'])
    = [0x8d, 0x40, 0x6b, 0x90, 0x20, 0x15, 0xa6, 0x78, 0xd4, 0xd2, 0x20, 0xaa, 0x4b, 0xda] := by decide +kernel
example : validCallsign ['E', 'Z', 'Y', '8', '5', 'M', 'H'] := ⟨by decide, by decide⟩
example := es_identification 17 5 0x406b90 4 0 ['E', 'Z', 'Y', '8', '5', 'M', 'H'] (Or.inl rfl) (by decide) (by decide)
  ⟨by decide, by decide⟩ (by decide) ⟨by decide, by decide⟩

-- bds09.rs: 8d485020994409940838175b284f  (159 kt, track 182.88°, −832 ft/min, +550 ft)
example : buildES 17 5 0x485020 (me09 1 0 1 0 (velGround 1 (speedCode 8) 1 (speedCode 159)) 0 1 (vrateCode 13) 0
      (geoBaroCode 22))
    = [0x8d, 0x48, 0x50, 0x20, 0x99, 0x44, 0x09, 0x94, 0x08, 0x38, 0x17, 0x5b, 0x28, 0x4f] := by decide +kernel

-- bds05.rs: 8d40621d58c382d690c8ac2863a7  (38 000 ft)
example : buildES 17 5 0x40621d (me05 11 0 0 (ac12Q (n25 38000)) 0 0 93000 51372)
    = [0x8d, 0x40, 0x62, 0x1d, 0x58, 0xc3, 0x82, 0xd6, 0x90, 0xc8, 0xac, 0x28, 0x63, 0xa7] := by decide +kernel

-- bds20.rs: a0001838201584f23468207cdfa5  (DF 20, 38 000 ft, EXS2MF, address 40655a from the AP overlay)
example : buildCommB 20 0 0 0 (ac13Q (n25 38000)) 0x40655a (mb20 ['E', 'X', 'S', '2', 'M', 'F'])
    = [0xa0, 0x00, 0x18, 0x38, 0x20, 0x15, 0x84, 0xf2, 0x34, 0x68, 0x20, 0x7c, 0xdf, 0xa5] := by decide +kernel

-- bds40.rs: a000029c85e42f313000007047d3  (3300 ft; MCP 3000 ft, FMS 3000 ft, 1020.0 mb)
example : buildCommB 20 0 0 0 (ac13Q (n25 3300)) 0x4243d0
      (mb40 1 (selAlt40Code 3000) 1 (selAlt40Code 3000) 1 (qnh40Code 10200) 0 0 0 0 0 0)
    = [0xa0, 0x00, 0x02, 0x9c, 0x85, 0xe4, 0x2f, 0x31, 0x30, 0x00, 0x00, 0x70, 0x47, 0xd3] := by decide +kernel
example : NonZero (mb40 (stBit (some 30)) (((some 30).map fun k => selAlt40Code (100 * k)).getD 0)
    (stBit (some 30)) (((some 30).map fun k => selAlt40Code (100 * k)).getD 0)
    (stBit (some 2200)) (((some 2200).map fun v => qnh40Code (8000 + v)).getD 0) 0 0 0 0 0 0) :=
  ⟨0, 1, 1, rfl, by decide⟩

-- bds50.rs: a000139381951536e024d4ccf6b5  (roll 2.1°, track 114.26°, GS 438 kt, rate 0.125 °/s, TAS 424 kt)
example : buildCommB 20 0 0 0 (ac13Q (n25 30275)) 0x3c4dd2 (mb50 1 12 1 650 1 219 1 4 1 212)
    = [0xa0, 0x00, 0x13, 0x93, 0x81, 0x95, 0x15, 0x36, 0xe0, 0x24, 0xd4, 0xcc, 0xf6, 0xb5] := by decide +kernel
example : NonZero (mb50 (stBit (some (12 : Int))) ((some (12 : Int)).getD 0) (stBit (some (650 : Int)))
    ((some (650 : Int)).getD 0) (stBit (some 219)) ((some 219).getD 0) (stBit (some (4 : Int))) ((some (4 : Int)).getD 0)
    (stBit (some 212)) ((some 212).getD 0)) := ⟨0, 1, 1, rfl, by decide⟩

-- bds60.rs: a80004aaa74a072bfdefc1d5cb4f  (DF 21, squawk 4720; heading 110.39°, IAS 259 kt, Mach 0.7,
--           −2144 / −2016 ft/min)
example : buildCommB 21 0 0 0 (id13OfOctal 0o4720) 0x4ca53f (mb60 1 628 1 259 1 175 1 (-67) 1 (-63))
    = [0xa8, 0x00, 0x04, 0xaa, 0xa7, 0x4a, 0x07, 0x2b, 0xfd, 0xef, 0xc1, 0xd5, 0xcb, 0x4f] := by decide +kernel

-- bds62.rs: 8da05629ea21485cbf3f8cadaeeb  (17 000 ft selected, 1012.8 mb, heading 66.8°)
example : buildES 17 5 0xa05629 (me62 0 0 (selAlt62Code 17000) (qnh62Code 10128) 1 95 9 1 3 1 1 1 0 0 0 1 1)
    = [0x8d, 0xa0, 0x56, 0x29, 0xea, 0x21, 0x48, 0x5c, 0xbf, 0x3f, 0x8c, 0xad, 0xae, 0xeb] := by decide +kernel

-- the altitude-match clause on concrete DF 20 replies whose MB field is an airborne-position payload: the
-- antecedent of `bds05_in_df20_only_if_alt_matches` (a `bds05` entry exists) is satisfiable, and the entry
-- disappears when the altitudes differ
example : NonZero (me05 11 0 0 (ac12Q (n25 38000)) 0 0 93000 51372) := ⟨0, 5, 11, rfl, by decide⟩

def objGet : Json → Key → Option Json
  | .obj kvs, k => (kvs.find? fun p => p.1 == k).map (·.2)
  | _, _ => none
def decodedGet (d : Outcome Decoded) (k : Key) : Option Json :=
  match d with
  | .ok (.json j) => objGet j k
  | _ => none
def asInt : Option Json → Option Int
  | some (.int i) => some i
  | _ => none

-- AC altitude 38 000 ft, MB = airborne position at 38 000 ft: labelled `bds05`, whose altitude is 38 000 = the AC one
example :
    asInt (decodedGet (tryFrom (buildCommB 20 0 0 0 (ac13Q (n25 38000)) 0x40621d
      (me05 11 0 0 (ac12Q (n25 38000)) 0 0 93000 51372))) (key! "altitude")) = some 38000 ∧
    asInt ((decodedGet (tryFrom (buildCommB 20 0 0 0 (ac13Q (n25 38000)) 0x40621d
      (me05 11 0 0 (ac12Q (n25 38000)) 0 0 93000 51372))) (key! "bds05")).bind (objGet · (key! "altitude"))) = some 38000 := by
  decide +kernel
-- AC altitude 38 025 ft, same MB: decodes (altitude 38 025), NOT labelled `bds05`
example :
    asInt (decodedGet (tryFrom (buildCommB 20 0 0 0 (ac13Q (n25 38025)) 0x40621d
      (me05 11 0 0 (ac12Q (n25 38000)) 0 0 93000 51372))) (key! "altitude")) = some 38025 ∧
    (decodedGet (tryFrom (buildCommB 20 0 0 0 (ac13Q (n25 38025)) 0x40621d
      (me05 11 0 0 (ac12Q (n25 38000)) 0 0 93000 51372))) (key! "bds05")).isSome = false := by
  decide +kernel
-- the same payload in DF 21: never labelled (`bds05_not_in_df21`)
example :
    (decodedGet (tryFrom (buildCommB 21 0 0 0 (id13OfOctal 0o7700) 0x40621d
      (me05 11 0 0 (ac12Q (n25 38000)) 0 0 93000 51372))) (key! "df")).isSome = true ∧
    (decodedGet (tryFrom (buildCommB 21 0 0 0 (id13OfOctal 0o7700) 0x40621d
      (me05 11 0 0 (ac12Q (n25 38000)) 0 0 93000 51372))) (key! "bds05")).isSome = false := by
  decide +kernel
-- both altitudes −25 ft (the known finding): AC altitude reported 0, BDS 0,5 altitude unavailable, not labelled
example :
    asInt (decodedGet (tryFrom (buildCommB 20 0 0 0 (ac13Q (n25 (-25))) 0x40621d
      (me05 11 0 0 (ac12Q (n25 (-25))) 0 0 93000 51372))) (key! "altitude")) = some 0 ∧
    (decodedGet (tryFrom (buildCommB 20 0 0 0 (ac13Q (n25 (-25))) 0x40621d
      (me05 11 0 0 (ac12Q (n25 (-25))) 0 0 93000 51372))) (key! "bds05")).isSome = false := by
  decide +kernel

-- the hypotheses of the `_partial` altitude theorems are satisfiable on the repository's test frame (38 000 ft)
example : n25 38000 = 1560 ∧ 25 * n25 38000 - 1000 = 38000 := by decide
example := es_position_partial 17 5 0x40621d 11 0 0 (n25 38000) 0 0 93000 51372 (Or.inl rfl) (by decide) (by decide)
  (Or.inl ⟨by decide, by decide⟩) (by decide) (by decide) (by decide) (by decide) (by decide) (by decide) (by decide)
  (by decide)

-- DF 0 / DF 16 / DF 11 (the repository's tests have no such frame): the Spec encoder reproduces, bit for bit, the
-- frames the harness's independent positional encoder builds from the same values (38 000 ft, address 40621d), the
-- hypotheses of the frame theorems are satisfiable on them, and the decoded members are the encoded ones
example : buildAir0 0 1 3 3 (ac13Q (n25 38000)) 0x40621d = [0x02, 0x61, 0x98, 0x38, 0xbd, 0x3d, 0xa1] := by
  decide +kernel
example : buildAir16 0 7 3 (ac13Q (n25 38000)) 0x40621d [(8, 0x30), (8, 0xa2), (8, 0), (8, 0), (8, 0), (8, 0), (8, 0)]
    = [0x80, 0xe1, 0x98, 0x38, 0x30, 0xa2, 0, 0, 0, 0, 0, 0x13, 0xe2, 0x62] := by decide +kernel
example : buildAllCall 5 0x40621d 0 = [0x5d, 0x40, 0x62, 0x1d, 0x4f, 0x94, 0xd0] ∧
    buildAllCall 5 0x40621d 15 = [0x5d, 0x40, 0x62, 0x1d, 0x4f, 0x94, 0xdf] := by decide +kernel
example := df0_altitude_partial 0 1 3 3 (n25 38000) 0x40621d (by decide) (by decide) (by decide) (by decide)
  (by decide) (by decide) (by decide)
example := df16_altitude_partial 0 7 3 (n25 38000) 0x40621d
  [(8, 0x30), (8, 0xa2), (8, 0), (8, 0), (8, 0), (8, 0), (8, 0)] (by decide) (by decide) (by decide) (by decide)
  (by decide) (by decide) rfl rfl
example := df11_address 5 0x40621d 15 (by decide) (by decide) (by decide)
example :
    asInt (decodedGet (tryFrom (buildAir0 0 1 3 3 (ac13Q (n25 38000)) 0x40621d)) (key! "altitude")) = some 38000 ∧
    asInt (decodedGet (tryFrom (buildAir16 1 7 3 (ac13G (gillhamStep 38000)) 0x40621d
      [(8, 0x30), (8, 0xa2), (8, 0), (8, 0), (8, 0), (8, 0), (8, 0)])) (key! "altitude")) = some 38000 ∧
    asInt (decodedGet (tryFrom (buildAir16 1 7 3 (ac13G (gillhamStep 38000)) 0x40621d
      [(8, 0x30), (8, 0xa2), (8, 0), (8, 0), (8, 0), (8, 0), (8, 0)])) (key! "vs")) = some 1 := by
  decide +kernel

/-- **No hidden state besides the reviewed one** in the decoder's files.  Every theorem above is about the
    decoder as a FUNCTION of the frame; the translator lists on every run every construct through which a Rust
    function can carry state between calls (`static`, `thread_local!`, `lazy_static!`, `OnceCell`/`Lazy`,
    `Cell`/`RefCell`/`UnsafeCell`, `Mutex`/`RwLock`, atomics, `unsafe`; whole files) and the only one in the
    decoder's files is the serialisation switch `CONFIG` (read by `Serialize for TimedMessage` only).  A memo of
    decoded values or of Comm-B inferences breaks this obligation by name. -/
theorem hidden_state_reviewed :
    Gen.HiddenState.sitesIn
      ["decode/mod.rs", "decode/adsb.rs", "decode/commb.rs", "decode/crc.rs", "decode/bds/mod.rs",
   "decode/bds/bds05.rs", "decode/bds/bds06.rs", "decode/bds/bds08.rs", "decode/bds/bds09.rs",
   "decode/bds/bds10.rs", "decode/bds/bds17.rs", "decode/bds/bds18.rs", "decode/bds/bds19.rs",
   "decode/bds/bds20.rs", "decode/bds/bds21.rs", "decode/bds/bds30.rs", "decode/bds/bds40.rs",
   "decode/bds/bds44.rs", "decode/bds/bds45.rs", "decode/bds/bds50.rs", "decode/bds/bds60.rs",
   "decode/bds/bds61.rs", "decode/bds/bds62.rs", "decode/bds/bds65.rs"] =
      [("decode/mod.rs", "static CONFIG:OnceCell<SerializeConfig>=OnceCell::new();")] := by decide +kernel


/-! ### the hand-written conversion functions ARE the Rust readers (translated on every run)

`Gen/BdsFns.lean` is regenerated from `fn read_*` of bds50.rs / bds60.rs by gen/extractors/bdsfns.py (statement by
statement: checked integer arithmetic, f64 as exact rationals); `Proofs/Decode/GenBds.lean` enumerates every code.
A behavioural edit of a reader fails the obligation below that names it (the offending codes:
`#eval Rs1090.Proofs.GenBds.disagreements`); a rewrite that keeps the values does not. -/

open Rs1090.Proofs.GenBds in
/-- **BDS 5,0: `read_roll`, `read_track`, `read_groundspeed`, `read_rate` are the model's `roll`, `track`,
    `groundspeed`, `rate` composed with their scales** (45/256°, 1/512°, kt, 1/256 °/s), on EVERY value of the bits
    read (2^11, 2^12, 2^11, 2^11 codes) and, for the track rate, every roll angle `n·45/256` or none. -/
theorem bds50_readers_as_modelled :
    (∀ s g v, g < 2 ^ 1 → v < 2 ^ 9 →
      Gen.BdsFns.Bds50.read_roll s g v = scaled 45 256 (Model.Bds50.roll s g v)) ∧
    (∀ s g v, g < 2 ^ 1 → v < 2 ^ 10 →
      Gen.BdsFns.Bds50.read_track s g v = scaled 1 512 (Model.Bds50.track s g v)) ∧
    (∀ s v, v < 2 ^ 10 →
      Gen.BdsFns.Bds50.read_groundspeed s v = Model.Bds50.groundspeed s v) ∧
    (∀ (n : Option Int) s g v, g < 2 ^ 1 → v < 2 ^ 9 →
      Gen.BdsFns.Bds50.read_rate (n.map rollVal) s g v = scaled 1 256 (Model.Bds50.rate n s g v)) :=
  Rs1090.Proofs.GenBds.bds50_readers

open Rs1090.Proofs.GenBds in
/-- **BDS 6,0: `read_heading`, `read_ias`, `read_mach`, `read_vertical` are the model's `heading` (1/512°), `ias`,
    `mach` (code/250; exact-rational reading of `value as f64 * 2.048 / 512.`), `vertical`** on every value of the bits
    read (2^12, 2^11, 2^11, 2^11 codes) and, for Mach, every airspeed (any natural number) or none. -/
theorem bds60_readers_as_modelled :
    (∀ s g v, g < 2 ^ 1 → v < 2 ^ 10 →
      Gen.BdsFns.Bds60.read_heading s g v = scaled 1 512 (Model.Bds60.heading s g v)) ∧
    (∀ s v, v < 2 ^ 10 →
      Gen.BdsFns.Bds60.read_ias s v = Model.Bds60.ias s v) ∧
    (∀ (i : Option Nat) s v, v < 2 ^ 10 →
      Gen.BdsFns.Bds60.read_mach i s v = scaledN 1 250 (Model.Bds60.mach i s v)) ∧
    (∀ s g v, g < 2 ^ 1 → v < 2 ^ 9 →
      Gen.BdsFns.Bds60.read_vertical s g v = Model.Bds60.vertical s g v) :=
  Rs1090.Proofs.GenBds.bds60_readers

/- Full statement for `read_tas`, which takes the DECODED ground speed:
     ∀ gs, (gs = none ∨ ∃ k ≤ 300, gs = some (2 * k)) → ∀ s v, v < 2 ^ 10 →
        Gen.BdsFns.Bds50.read_tas gs s v = Model.Bds50.tas gs s v
   Its domain (301 × 2^11 codes) is too large to enumerate, so `fn read_tas` stays digest-pinned; under that pin
   `Rs1090.Proofs.GenBds.bds50_tas` proves it, for every ground speed below 2^15, by following the generated text. -/

open Rs1090.Proofs.GenBds in
/-- `read_tas` is the model's `tas` on all 2^11 codes for the ground speeds of `tasGs` (absent, and the values
    around every threshold of the cross-check) -/
theorem bds50_read_tas_as_modelled_partial : ∀ gs ∈ tasGs, ∀ s v, v < 2 ^ 10 →
    Gen.BdsFns.Bds50.read_tas gs s v = Model.Bds50.tas gs s v :=
  Rs1090.Proofs.GenBds.bds50_tas_sampled

/-- the layouts the model's `read` functions use (`flag`, `bits 1`, `bits 9|10`) are the reads of the Rust readers -/
theorem bds_reader_layouts :
    Gen.BdsFns.Bds50.read_roll_layout = [("bool", 1), ("u8", 1), ("u16", 9)] ∧
    Gen.BdsFns.Bds50.read_track_layout = [("bool", 1), ("u8", 1), ("u16", 10)] ∧
    Gen.BdsFns.Bds50.read_groundspeed_layout = [("bool", 1), ("u16", 10)] ∧
    Gen.BdsFns.Bds50.read_rate_layout = [("bool", 1), ("u8", 1), ("u16", 9)] ∧
    Gen.BdsFns.Bds50.read_tas_layout = [("bool", 1), ("u16", 10)] ∧
    Gen.BdsFns.Bds60.read_heading_layout = [("bool", 1), ("u8", 1), ("u16", 10)] ∧
    Gen.BdsFns.Bds60.read_ias_layout = [("bool", 1), ("u16", 10)] ∧
    Gen.BdsFns.Bds60.read_mach_layout = [("bool", 1), ("u16", 10)] ∧
    Gen.BdsFns.Bds60.read_vertical_layout = [("bool", 1), ("u8", 1), ("u16", 9)] :=
  let ⟨a, b, c, d, e⟩ := Rs1090.Proofs.GenBds.bds50_layouts
  ⟨a, b, c, d, e, Rs1090.Proofs.GenBds.bds60_layouts⟩

/-- the hypotheses are satisfiable and the readers do return values there -/
example : Gen.BdsFns.Bds50.read_roll true 1 500 = .ok (some (-135 / 64 : Rat)) := by decide +kernel
example : Gen.BdsFns.Bds50.read_rate (some (Rs1090.Proofs.GenBds.rollVal 12)) true 0 4 = .ok (some (1 / 8 : Rat)) := by
  decide +kernel
example : Gen.BdsFns.Bds50.read_rate (some (Rs1090.Proofs.GenBds.rollVal (-12))) true 0 4 = .err .assertion := by
  decide +kernel


open Rs1090.Proofs.GenBds in
/-- **BDS 4,0: `read_selected` (both selected altitudes) and `read_qnh` are the model's `selectedAlt` and `qnhNum`
    (tenths of hPa; `value as f64 * 0.1 + 800.` read exactly)** on all 2^13 codes each. -/
theorem bds40_readers_as_modelled :
    (∀ s v, v < 2 ^ 12 → Gen.BdsFns.Bds40.read_selected s v = Model.Bds40.selectedAlt s v) ∧
    (∀ s v, v < 2 ^ 12 → Gen.BdsFns.Bds40.read_qnh s v = scaledN 1 10 (Model.Bds40.qnhNum s v)) :=
  Rs1090.Proofs.GenBds.bds40_readers

open Rs1090.Proofs.GenBds in
/-- **BDS 4,4: `read_pressure` and `read_humidity` are the model's `pressure` and `humidity` (value·100 over 64)** on
    all 2^12 / 2^7 codes (the other four readers of bds44.rs use `match` / a second read and are digest-pinned). -/
theorem bds44_readers_as_modelled :
    (∀ s v, v < 2 ^ 11 → Gen.BdsFns.Bds44.read_pressure s v = Model.Bds44.pressure s v) ∧
    (∀ s v, v < 2 ^ 6 → Gen.BdsFns.Bds44.read_humidity s v = scaledN 1 64 (Model.Bds44.humidity s v)) :=
  Rs1090.Proofs.GenBds.bds44_readers

theorem bds40_44_reader_layouts :
    Gen.BdsFns.Bds40.read_selected_layout = [("bool", 1), ("u16", 12)] ∧
    Gen.BdsFns.Bds40.read_qnh_layout = [("bool", 1), ("u16", 12)] ∧
    Gen.BdsFns.Bds44.read_pressure_layout = [("bool", 1), ("u16", 11)] ∧
    Gen.BdsFns.Bds44.read_humidity_layout = [("bool", 1), ("u8", 6)] := Rs1090.Proofs.GenBds.bds40_44_layouts

end Rs1090.Props.C03
