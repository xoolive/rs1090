/-
C04 — global CPR decoding returns the true position or nothing.

  "For every point on Earth, decoding an even and an odd airborne position report encoded from that
   point (in either order) yields a latitude in [-90, 90] and a longitude in [-180, 180) within 10 m of
   the point, or no position; no position may be returned only when the two reports fall in different
   longitude-zone bands. A pair with the same parity never yields a position."

Objects.  `Model.Cpr.airbornePosition` is the model of `rs1090::decode::cpr::airborne_position` on exact
rationals (tied to the source by the regenerated NL ladder and by differential execution, see DESIGN §2.3);
`Spec.Cpr.encode` is the CPR *encoder* of DO-260B A.1.7.3, `Spec.Cpr.NL` the standard's NL function,
`report 17 i lat lon` the format-`i` airborne report of the point.  All theorems quantify over ALL rational
`(lat, lon)` with `lat ∈ [-90, 90]` — exact arithmetic, no sampling.

"Within 10 m": the returned position is the encoder's recovered lattice point `(Rlat_p, Rlon_p)` of the
later report, which is within half a quantisation step of the true point on each axis (`recovered_close`:
`Dlat_p / 2^18 ≤ 2.33·10⁻⁵ °` in latitude, `Dlon_p / 2^18` in longitude, modulo 360).  The conversion to
metres is a theorem too (`nl_band_cos`, `recovered_axes_metres`, `recovered_within_10m`,
`global_within_10m`): on the sphere of radius 6 399 594 m (largest radius of curvature of WGS-84) the
great-circle distance is ≤ 9.629 m (≤ 6.251 m below 86.535° of latitude).  Not a theorem: sphere vs ellipsoid.
-/
import Rs1090.Proofs.CprGlobalSpec
import Rs1090.Proofs.CprMetres
import Rs1090.Proofs.CprFloat
import Rs1090.Proofs.IeeeRound
import Rs1090.Proofs.CprFloatAsm
import Rs1090.Gen.HiddenState
namespace Rs1090.Props.C04
open Rs1090 Rs1090.Model.Cpr Rs1090.Spec.Cpr Rs1090.Proofs.Cpr

/-- The ladder of `fn nl`, regenerated from the source on every run (thresholds as exact decimals, their
    `<` / `<=`, the returned values, in order), is the standard's table of transition latitudes, including
    the standard's explicit rule NL(±87°) = 2 (the last row is `<=`). -/
theorem nl_table_ok : Gen.Cpr.nlLadder = Spec.Cpr.nlLadder := nl_table_eq.1

/-- `nlDefault` is what `fn nl` returns when no row of the ladder applies, i.e. above 87° -/
theorem nl_default_ok : Gen.Cpr.nlDefault = 1 := nl_table_eq.2

theorem nl_range (x : ℚ) : 1 ≤ nl x ∧ nl x ≤ 59 := Proofs.Cpr.nl_range x

theorem nl_antitone (x y : ℚ) (h : |x| ≤ |y|) : nl y ≤ nl x := Proofs.Cpr.nl_antitone h

theorem nl_eq_NL (x : ℚ) : nl x = NL x := Proofs.Cpr.nl_eq_NL x

/-- why the decoder's `j` (and `m`) is a zone index: in the combination `(n − 1)·frac(n x) − n·frac((n − 1) x)`
    of the two fields the `x` terms cancel and an integer is left -/
theorem zone_int (n : ℤ) (x : ℚ) :
    ((n : ℚ) - 1) * Int.fract (n * x) - n * Int.fract (((n : ℚ) - 1) * x)
      = ((n * ⌊((n : ℚ) - 1) * x⌋ - (n - 1) * ⌊(n : ℚ) * x⌋ : ℤ) : ℚ) :=
  Proofs.Cpr.zone_int n (n * x) (((n : ℚ) - 1) * x) (by ring)

/-- **zone_pair** (generic `2 ≤ n ≤ 60`): with `a = q(fract(n·x))`, `b = q(fract((n−1)·x))` (`q17`: 17-bit
    rounding with wrap, `w17`: the wrap bit) the decoder's `⌊(n−1)a − n b + ½⌋` is `≡ ⌊n x⌋ + w_a (mod n)`
    and `≡ ⌊(n−1)x⌋ + w_b (mod n−1)`.  The decoder's `j` is the case `n = 60` (latitude), its `m` the case
    `n = NL` (longitude). -/
theorem zone_pair (n : ℤ) (hn : 2 ≤ n) (hn' : n ≤ 60) (x : ℚ) :
    ⌊((n : ℚ) - 1) * q17 (Int.fract (n * x)) - n * q17 (Int.fract (((n : ℚ) - 1) * x)) + 1 / 2⌋ % n
        = (⌊(n : ℚ) * x⌋ + w17 (Int.fract (n * x))) % n ∧
    ⌊((n : ℚ) - 1) * q17 (Int.fract (n * x)) - n * q17 (Int.fract (((n : ℚ) - 1) * x)) + 1 / 2⌋ % (n - 1)
        = (⌊((n : ℚ) - 1) * x⌋ + w17 (Int.fract (((n : ℚ) - 1) * x))) % (n - 1) :=
  Proofs.Cpr.zone_pair n hn hn' x

/-- `latest == even_frame` (DESIGN §6.4): on an (even, odd) pair it selects by parity. -/
theorem latest_eq_even_iff (e o : Msg) (he : e.parity = .even) (ho : o.parity = .odd) :
    (e = e) ∧ ¬ (o = e) := by
  refine ⟨rfl, fun h => ?_⟩
  rw [h, he] at ho
  cases ho

/-- **Latitude recovery.**  The decoder's `lat_even` and `lat_odd` (after the two `≥ 270` wraps) are exactly
    the encoder's `Rlat₀`, `Rlat₁`, and both lie in [-90, 90] (±90° are lattice points of both grids). -/
theorem lat_recovered (lat lon : ℚ) (hlat : -90 ≤ lat ∧ lat ≤ 90) :
    gLatE (report 17 0 lat lon) (report 17 1 lat lon) = rlat 17 0 lat ∧
    gLatO (report 17 0 lat lon) (report 17 1 lat lon) = rlat 17 1 lat ∧
    (-90 ≤ rlat 17 0 lat ∧ rlat 17 0 lat ≤ 90) ∧ (-90 ≤ rlat 17 1 lat ∧ rlat 17 1 lat ≤ 90) :=
  Proofs.Cpr.lat_recovered lat lon hlat

/-- **Global decoding is correct**, both orders.  If the two recovered latitudes lie in the same
    longitude-zone band, `NL(Rlat₀) = NL(Rlat₁)`, then decoding (even, odd) returns `(Rlat₁, Rlon₁)` and
    decoding (odd, even) returns `(Rlat₀, Rlon₀)` — the encoder's lattice point of the *later* report — with
    the longitude reduced to [-180, 180).  No panic (`.ok`). -/
theorem global_correct (lat lon : ℚ) (hlat : -90 ≤ lat ∧ lat ≤ 90)
    (hnl : NL (rlat 17 0 lat) = NL (rlat 17 1 lat)) :
    airbornePosition (report 17 0 lat lon) (report 17 1 lat lon)
      = .ok (some ⟨rlat 17 1 lat, norm180 (rlon 17 1 (rlat 17 1 lat) lon)⟩) ∧
    airbornePosition (report 17 1 lat lon) (report 17 0 lat lon)
      = .ok (some ⟨rlat 17 0 lat, norm180 (rlon 17 0 (rlat 17 0 lat) lon)⟩) :=
  Proofs.Cpr.global_correct lat lon hlat hnl

/-- **The returned position is the point, up to half a quantisation step per axis** ("within 10 m", in
    degrees). -/
theorem recovered_close (i : Nat) (hi : i ≤ 1) (lat lon : ℚ) :
    |rlat 17 i lat - lat| ≤ dlat i / 262144 ∧
    ∃ k : ℤ, |norm180 (rlon 17 i (rlat 17 i lat) lon) - (lon + 360 * k)|
      ≤ dlon i (rlat 17 i lat) / 262144 := by
  constructor
  · rw [rlat_eq_recv]; exact recv17_err _ _ (dlat_pos i hi)
  · obtain ⟨_, _, k, hk⟩ := norm180_spec (rlon 17 i (rlat 17 i lat) lon)
    refine ⟨k, ?_⟩
    rw [hk, add_sub_add_right_eq_sub, rlon_eq_recv]
    exact recv17_err _ _ (dlon_pos i _)

/-- the longitude bound is attained in the polar band with a single 360° zone, |lat| ≥ 86.5°, where a degree
    of longitude is short -/
theorem step_bounds (i : Nat) (hi : i ≤ 1) (rl : ℚ) :
    dlat i / 262144 < 233 / 10000000 ∧ dlon i rl / 262144 ≤ 360 / 262144 := by
  have := (dlat_bounds i hi).2
  exact ⟨by linarith, div_le_div_of_nonneg_right (dlon_le i rl) (by norm_num)⟩

/-- The coordinates `global_correct` returns are in range: latitude in [-90, 90], longitude in [-180, 180). -/
theorem result_in_range (i : Nat) (hi : i ≤ 1) (lat lon : ℚ) (hlat : -90 ≤ lat ∧ lat ≤ 90) :
    (-90 ≤ rlat 17 i lat ∧ rlat 17 i lat ≤ 90) ∧
    (-180 ≤ norm180 (rlon 17 i (rlat 17 i lat) lon) ∧ norm180 (rlon 17 i (rlat 17 i lat) lon) < 180) := by
  obtain ⟨h1, h2, _⟩ := norm180_spec (rlon 17 i (rlat 17 i lat) lon)
  exact ⟨rlat_range_air i hi lat hlat, h1, h2⟩

/-- **No position only when the bands differ** (and exactly then), both orders. -/
theorem global_none_iff (lat lon : ℚ) (hlat : -90 ≤ lat ∧ lat ≤ 90) :
    (airbornePosition (report 17 0 lat lon) (report 17 1 lat lon) = .ok none
        ↔ NL (rlat 17 0 lat) ≠ NL (rlat 17 1 lat)) ∧
    (airbornePosition (report 17 1 lat lon) (report 17 0 lat lon) = .ok none
        ↔ NL (rlat 17 0 lat) ≠ NL (rlat 17 1 lat)) :=
  Proofs.Cpr.global_none_iff lat lon hlat

/-- the clause as worded in the property -/
theorem global_none_only_if (lat lon : ℚ) (hlat : -90 ≤ lat ∧ lat ≤ 90) :
    (airbornePosition (report 17 0 lat lon) (report 17 1 lat lon) = .ok none
        → NL (rlat 17 0 lat) ≠ NL (rlat 17 1 lat)) ∧
    (airbornePosition (report 17 1 lat lon) (report 17 0 lat lon) = .ok none
        → NL (rlat 17 0 lat) ≠ NL (rlat 17 1 lat)) :=
  ⟨(global_none_iff lat lon hlat).1.1, (global_none_iff lat lon hlat).2.1⟩

/-- **A pair with the same parity never yields a position** — for arbitrary field values. -/
theorem same_parity_none (a b : Msg) (h : a.parity = b.parity) :
    airbornePosition a b = .ok none := by
  unfold airbornePosition
  rw [h]
  cases b.parity <;> rfl

/-- `airborne_position` never panics (the `u64` subtractions `nl(lat) − p`, `nl(lat) − 1` cannot underflow
    because `nl ≥ 1`) — for arbitrary field values. -/
theorem global_never_panics (a b : Msg) (s : Site) : airbornePosition a b ≠ .panic s :=
  airbornePosition_ne_panic a b s

/-! ### "within 10 m": from degrees to metres

Metric.  The Earth is replaced by the sphere of radius `R_MAX = 6 399 594 m`, the largest radius of curvature
of the WGS-84 ellipsoid (a²/b, at the poles; equatorial radius 6 378 137 m, mean 6 371 000 m are smaller) —
the conservative choice, and the radius the harness oracle uses.  `Geo.chordSq` is the squared straight-line
distance of two points of the unit sphere in ℝ³ (an elementary definition), `Geo.chordDist R` the chord,
`Geo.gcDist R = 2R·arcsin(chord/2)` the great-circle distance.  `mPerDeg = R_MAX·3.141593/180 ≥ R_MAX·π/180`
(111 694.0 m per degree of arc), `cosUB n` a 7-decimal rational upper bound of the cosine on the band NL = n.

What is a theorem: everything below (spherical trigonometry from Mathlib: haversine identity, `sin² x ≤ x²`,
`x − x³/6 ≤ sin x`, `cos` 1-Lipschitz; 59 cosine bounds from `Real.cos_bound`/`Real.sin_bound` and
`3.141592 < π < 3.141593`).  What is not: that distances on the ellipsoid do not exceed distances on that
sphere (modelling assumption, also made by the oracle).

North-south ≤ 2.60 m everywhere.  East-west ≤ 5.68 m where NL ≥ 3 (|lat| < 86.535°) and
≤ 9.27 m in the two polar bands.  Hence the distance (Euclidean combination — on the sphere this is exactly
what the haversine identity gives) is ≤ 6.25 m resp. ≤ 9.63 m < 10 m; the *sum* of the two axes (taxicab) is
≤ 8.28 m where NL ≥ 3 but up to 11.87 m in the polar bands, so "≤ 10 m" holds for the distance, not for the
sum of the axis errors. -/

open Rs1090.Proofs.Metres Rs1090.Proofs.Geo in
/-- **A latitude lies at or above the lower edge of its NL band, and its cosine is at most `cosUB`** of the
    band (`lowThr n` = transition latitude of the row n+1 of the standard's table; 0 for NL = 59, 87 for
    NL = 1).  The trigonometric bridge between `Dlon = 360/(NL − i)` degrees and metres on the ground. -/
theorem nl_band_cos (rl : ℚ) (h90 : |rl| ≤ 90) :
    lowThr (NL rl) ≤ |rl| ∧ Real.cos (rad (rl : ℝ)) ≤ ((cosUB (NL rl) : ℚ) : ℝ) :=
  ⟨lowThr_le rl, cos_band rl h90⟩

open Rs1090.Proofs.Metres in
/-- **The two axes in metres** (rational statement, no transcendental function): north-south
    `mPerDeg·|Δlat| ≤ 2.6 m`, east-west `mPerDeg·cosUB(NL Rlat)·|Δlon| ≤ 5.68 m` (9.27 m where NL ≤ 2),
    `NS² + EW² ≤ chordMax²` (6.25 m; 9.628 m where NL ≤ 2), and `NS + EW ≤ 8.28 m` where NL ≥ 3. -/
theorem recovered_axes_metres (i : Nat) (hi : i ≤ 1) (lat lon : ℚ) :
    ∃ k : ℤ,
      nsM (rlat 17 i lat - lat) ≤ 26 / 10 ∧
      ewM (NL (rlat 17 i lat)) (norm180 (rlon 17 i (rlat 17 i lat) lon) - (lon + 360 * k))
        ≤ ewMax (NL (rlat 17 i lat)) ∧
      nsM (rlat 17 i lat - lat) ^ 2
        + ewM (NL (rlat 17 i lat)) (norm180 (rlon 17 i (rlat 17 i lat) lon) - (lon + 360 * k)) ^ 2
        ≤ chordMax (NL (rlat 17 i lat)) ^ 2 ∧
      (3 ≤ NL (rlat 17 i lat) →
        nsM (rlat 17 i lat - lat)
          + ewM (NL (rlat 17 i lat)) (norm180 (rlon 17 i (rlat 17 i lat) lon) - (lon + 360 * k))
          ≤ 828 / 100) := by
  obtain ⟨hA, k, hB⟩ := recovered_close i hi lat lon
  obtain ⟨h1, h59⟩ := NL_range (rlat 17 i lat)
  rw [dlon_eq_dlonOf] at hB
  obtain ⟨a, b, c⟩ := axes_air _ i h1 h59 hi _ _ hA hB
  refine ⟨k, a, b, c, fun h3 => ?_⟩
  rw [ewMax, if_pos h3] at b
  linarith

open Rs1090.Proofs.Metres Rs1090.Proofs.Geo in
/-- **The recovered lattice point is within 9.63 m of the true point** on the sphere of radius `R_MAX`
    (NL ≥ 3 is |Rlat| < 86.535°). -/
theorem recovered_within_10m (i : Nat) (hi : i ≤ 1) (lat lon : ℚ) (hlat : -90 ≤ lat ∧ lat ≤ 90) :
    chordDist 6399594 (rad lat) (rad lon) (rad (rlat 17 i lat))
        (rad (norm180 (rlon 17 i (rlat 17 i lat) lon))) ≤ 9628 / 1000 ∧
    gcDist 6399594 (rad lat) (rad lon) (rad (rlat 17 i lat))
        (rad (norm180 (rlon 17 i (rlat 17 i lat) lon))) ≤ 9629 / 1000 ∧
    (3 ≤ NL (rlat 17 i lat) →
      gcDist 6399594 (rad lat) (rad lon) (rad (rlat 17 i lat))
        (rad (norm180 (rlon 17 i (rlat 17 i lat) lon))) ≤ 6251 / 1000) := by
  obtain ⟨_, k, hB⟩ := recovered_close i hi lat lon
  exact air_dist_10m i hi lat lon hlat _ k hB

open Rs1090.Proofs.Metres Rs1090.Proofs.Geo in
/-- **Global decoding returns a position within 10 m of the point** (the property's clause, as a theorem on
    the sphere of radius `R_MAX`), under the hypothesis of `global_correct`. -/
theorem global_within_10m (lat lon : ℚ) (hlat : -90 ≤ lat ∧ lat ≤ 90)
    (hnl : NL (rlat 17 0 lat) = NL (rlat 17 1 lat)) :
    ∃ p q : Pos,
      airbornePosition (report 17 0 lat lon) (report 17 1 lat lon) = .ok (some p) ∧
      airbornePosition (report 17 1 lat lon) (report 17 0 lat lon) = .ok (some q) ∧
      gcDist 6399594 (rad lat) (rad lon) (rad p.lat) (rad p.lon) ≤ 9629 / 1000 ∧
      gcDist 6399594 (rad lat) (rad lon) (rad q.lat) (rad q.lon) ≤ 9629 / 1000 ∧
      (9629 / 1000 : ℝ) < 10 := by
  obtain ⟨h1, h2⟩ := global_correct lat lon hlat hnl
  exact ⟨_, _, h1, h2, (recovered_within_10m 1 le_rfl lat lon hlat).2.1,
    (recovered_within_10m 0 (by norm_num) lat lon hlat).2.1, by norm_num⟩

/-! ### the f64 argument, as theorems (for an abstract rounding `fl`, and for IEEE-754 binary64 `fl64`)

`airborne_position` computes in `f64`, the theorems above are about exact rationals.  `Proofs/CprFloat.lean`:
`F64Exact q` — `q` is a finite binary64 value (`q = m·2^e`, `|m| < 2^53`, `-1074 ≤ e ≤ 971`); `Rounding fl` —
the standard model of rounding as a HYPOTHESIS on an abstract `fl : ℚ → ℚ` (identity on `F64Exact` values,
monotone, `|fl x − x| ≤ |x|·2⁻⁵³ + 2⁻¹⁰⁷⁵` for `|x| ≤ 2^1023`); `fJ fl`, `fModulo fl`, `fLatE fl`, `fLatO fl`,
`fM fl`, `fLon0 fl`, … — the Rust expressions of cpr.rs l.214-301 one by one, with `fl` after EVERY operation.
Theorems named `…_f64exact` need no hypothesis on `fl` beyond what they state: they say which intermediate
values ARE binary64 values, for ALL 17-bit fields and ALL `nl ∈ 1..59`.  The real instance of `fl` is not
trusted: `Proofs/IeeeRound.lean` DEFINES IEEE-754 binary64 round-to-nearest-even `fl64 : ℚ → ℚ` (gradual
underflow, no overflow to infinity — irrelevant here, every intermediate is below `2^40`) and PROVES
`rounding_fl64 : Rounding fl64` (`rounding_ieee` below); each theorem taking `(R : Rounding fl)` has an unconditional `…_ieee` corollary
for `fl := fl64`.  What remains outside Lean: that the machine's `+ − × ÷`, `floor`, `u32 → f64` and literal
parsing return `fl64` of the exact result (IEEE-754 conformance of hardware / LLVM / libm). -/

open Rs1090.Proofs.CprFloat (F64Exact Rounding fJ fModulo fLatE fLatO fLatO0 fM fLon0 fWrap180 gMn gLon0 gLatO0)
open Rs1090.Proofs.IeeeRound (fl64)

/-- the rounding hypothesis is satisfiable (`fl = id`; the intended instance is `rounding_ieee`) -/
theorem rounding_satisfiable : Rounding id := Proofs.CprFloat.rounding_id

/-- **IEEE-754 binary64 round-to-nearest-even is an instance of the rounding hypothesis** (`fl64` is defined in
    `Proofs/IeeeRound.lean`: `fl64 q = rne (q / ulp q) · ulp q`, `ulp q = 2^(max ⌊log₂|q|⌋ (-1022) − 52)`) -/
theorem rounding_ieee : Rounding fl64 := Proofs.IeeeRound.rounding_fl64

/-- the value `fl64` returns is a finite binary64 value (no overflow below `2^1023`), so `fl64` is idempotent -/
theorem fl64_f64exact (q : ℚ) (h : |q| ≤ 2 ^ 1023) : F64Exact (fl64 q) ∧ fl64 (fl64 q) = fl64 q :=
  ⟨Proofs.IeeeRound.fl64_f64exact q h, Proofs.IeeeRound.fl64_idem q h⟩

/-- … and it is a NEAREST one: no finite binary64 value `y` is closer to `q` than `fl64 q` (with `fl64_f64exact`
    and the tie rule `Proofs.IeeeRound.fl64_tie_even` this characterises round-to-nearest-even: `fl64` need not be
    trusted by inspection of its definition) -/
theorem fl64_nearest (q y : ℚ) (hy : F64Exact y) : |fl64 q - q| ≤ |y - q| :=
  Proofs.IeeeRound.fl64_nearest q y hy

/-- l.253-256 `f64::from(x) / CPR_MAX`: a binary64 value for every 17-bit field -/
theorem cpr_f64exact (n : ℕ) (hn : n < 131072) : F64Exact ((n : ℚ) / 131072) :=
  Proofs.CprFloat.cpr_f64exact n hn

/-- l.258 `floor(59.0 * cpr_lat_even - 60.0 * cpr_lat_odd + 0.5)`: both products, the difference, the sum and
    the floor are binary64 values; `-60 ≤ j ≤ 59` -/
theorem j_f64exact (a b : ℕ) (ha : a < 131072) (hb : b < 131072) :
    F64Exact (59 * ((a : ℚ) / 131072)) ∧ F64Exact (60 * ((b : ℚ) / 131072)) ∧
    F64Exact (59 * ((a : ℚ) / 131072) - 60 * ((b : ℚ) / 131072)) ∧
    F64Exact (59 * ((a : ℚ) / 131072) - 60 * ((b : ℚ) / 131072) + 1 / 2) ∧
    (-60 ≤ ⌊59 * ((a : ℚ) / 131072) - 60 * ((b : ℚ) / 131072) + 1 / 2⌋ ∧
      ⌊59 * ((a : ℚ) / 131072) - 60 * ((b : ℚ) / 131072) + 1 / 2⌋ ≤ 59) ∧
    F64Exact ((⌊59 * ((a : ℚ) / 131072) - 60 * ((b : ℚ) / 131072) + 1 / 2⌋ : ℤ) : ℚ) :=
  Proofs.CprFloat.j_f64exact a b ha hb

/-- l.218-220 `a - b * floor(a / b)` on integers `|j| ≤ 60`, `1 ≤ n ≤ 60` (covers `j mod 60`, `j mod 59`,
    `m mod ni`): the quotient `j / n` is in general NOT a binary64 value, but under the rounding hypothesis the
    floor of its rounding is the exact floor; `n·⌊j/n⌋` and `j − n·⌊j/n⌋` are binary64 values; the computed
    result is `j mod n`. -/
theorem modulo_f64exact {fl : ℚ → ℚ} (R : Rounding fl) (j : ℤ) (n : ℕ) (hj : |j| ≤ 60) (hn1 : 1 ≤ n)
    (hn : n ≤ 60) :
    ⌊fl ((j : ℚ) / (n : ℚ))⌋ = j / (n : ℤ) ∧
    F64Exact ((n : ℚ) * ((j / (n : ℤ) : ℤ) : ℚ)) ∧
    F64Exact ((j : ℚ) - (n : ℚ) * ((j / (n : ℤ) : ℤ) : ℚ)) ∧
    fModulo fl (j : ℚ) (n : ℚ) = ((j % (n : ℤ) : ℤ) : ℚ) :=
  Proofs.CprFloat.modulo_f64exact R j n hj hn1 hn

theorem modulo_f64exact_ieee (j : ℤ) (n : ℕ) (hj : |j| ≤ 60) (hn1 : 1 ≤ n) (hn : n ≤ 60) :
    ⌊fl64 ((j : ℚ) / (n : ℚ))⌋ = j / (n : ℤ) ∧
    F64Exact ((n : ℚ) * ((j / (n : ℤ) : ℤ) : ℚ)) ∧
    F64Exact ((j : ℚ) - (n : ℚ) * ((j / (n : ℤ) : ℤ) : ℚ)) ∧
    fModulo fl64 (j : ℚ) (n : ℚ) = ((j % (n : ℤ) : ℤ) : ℚ) :=
  modulo_f64exact rounding_ieee j n hj hn1 hn

/-- l.214 `D_LAT_EVEN = 360.0 / (4.0 * NZ)` and l.260, 263-265 `lat_even = D_LAT_EVEN * (j mod 60 + cpr_lat_even)`,
    `lat_even -= 360.0`: `60`, `6`, the sum, the product and the wrapped value are binary64 values -/
theorem lat_even_f64exact (r : ℤ) (a : ℕ) (hr : 0 ≤ r ∧ r < 60) (ha : a < 131072) :
    F64Exact (4 * 15 : ℚ) ∧ F64Exact (360 / 60 : ℚ) ∧
    F64Exact ((r : ℚ) + (a : ℚ) / 131072) ∧ F64Exact (6 * ((r : ℚ) + (a : ℚ) / 131072)) ∧
    F64Exact (6 * ((r : ℚ) + (a : ℚ) / 131072) - 360) :=
  ⟨Proofs.CprFloat.dlat_even_f64exact.1, Proofs.CprFloat.dlat_even_f64exact.2.1,
    Proofs.CprFloat.lat_even_f64exact r a hr ha⟩

/-- l.291-294 `floor(cpr_lon_even * (nl - 1) as f64 - cpr_lon_odd * nl as f64 + 0.5)`, `nl = k + 1 ∈ 1..59`: both
    conversions, both products, the difference, the sum and the floor are binary64 values; `-59 ≤ m ≤ 58` -/
theorem m_f64exact (a b k : ℕ) (ha : a < 131072) (hb : b < 131072) (hk : k + 1 ≤ 59) :
    F64Exact ((k : ℕ) : ℚ) ∧ F64Exact ((k + 1 : ℕ) : ℚ) ∧
    F64Exact ((a : ℚ) / 131072 * (k : ℚ)) ∧ F64Exact ((b : ℚ) / 131072 * ((k + 1 : ℕ) : ℚ)) ∧
    F64Exact ((a : ℚ) / 131072 * (k : ℚ) - (b : ℚ) / 131072 * ((k + 1 : ℕ) : ℚ)) ∧
    F64Exact ((a : ℚ) / 131072 * (k : ℚ) - (b : ℚ) / 131072 * ((k + 1 : ℕ) : ℚ) + 1 / 2) ∧
    (-59 ≤ ⌊(a : ℚ) / 131072 * (k : ℚ) - (b : ℚ) / 131072 * ((k + 1 : ℕ) : ℚ) + 1 / 2⌋ ∧
      ⌊(a : ℚ) / 131072 * (k : ℚ) - (b : ℚ) / 131072 * ((k + 1 : ℕ) : ℚ) + 1 / 2⌋ ≤ 58) ∧
    F64Exact ((⌊(a : ℚ) / 131072 * (k : ℚ) - (b : ℚ) / 131072 * ((k + 1 : ℕ) : ℚ) + 1 / 2⌋ : ℤ) : ℚ) :=
  Proofs.CprFloat.m_f64exact a b k ha hb hk

/-- l.290, 296, 298: `ni = max(nl − p, 1) as f64` is a binary64 value, and the second factor of the longitude,
    `modulo(m, ni) + c`, computed with `fl`, IS the rational model's: a binary64 value in `[0, ni)` -/
theorem lon_factor_f64exact {fl : ℚ → ℚ} (R : Rounding fl) (e o : Msg) (n p k : ℕ) (he : e.lon < 131072)
    (ho : o.lon < 131072) (hk : k < 131072) (hn1 : 1 ≤ n) (hn : n ≤ 59) :
    F64Exact ((max (n - p) 1 : ℕ) : ℚ) ∧
    fl (fModulo fl (fM fl e o n) (fl ((max (n - p) 1 : ℕ) : ℚ)) + Proofs.CprFloat.fCpr fl k)
      = modulo (gMn e o n : ℚ) ((max (n - p) 1 : ℕ) : ℚ) + (k : ℚ) / cprMax ∧
    F64Exact (modulo (gMn e o n : ℚ) ((max (n - p) 1 : ℕ) : ℚ) + (k : ℚ) / cprMax) ∧
    0 ≤ modulo (gMn e o n : ℚ) ((max (n - p) 1 : ℕ) : ℚ) + (k : ℚ) / cprMax ∧
    modulo (gMn e o n : ℚ) ((max (n - p) 1 : ℕ) : ℚ) + (k : ℚ) / cprMax < ((max (n - p) 1 : ℕ) : ℚ) :=
  ⟨(Proofs.CprFloat.ni_f64exact n p hn).1, Proofs.CprFloat.lon_factor_f64exact R e o n p k he ho hk hn1 hn⟩

theorem lon_factor_f64exact_ieee (e o : Msg) (n p k : ℕ) (he : e.lon < 131072)
    (ho : o.lon < 131072) (hk : k < 131072) (hn1 : 1 ≤ n) (hn : n ≤ 59) :
    F64Exact ((max (n - p) 1 : ℕ) : ℚ) ∧
    fl64 (fModulo fl64 (fM fl64 e o n) (fl64 ((max (n - p) 1 : ℕ) : ℚ)) + Proofs.CprFloat.fCpr fl64 k)
      = modulo (gMn e o n : ℚ) ((max (n - p) 1 : ℕ) : ℚ) + (k : ℚ) / cprMax ∧
    F64Exact (modulo (gMn e o n : ℚ) ((max (n - p) 1 : ℕ) : ℚ) + (k : ℚ) / cprMax) ∧
    0 ≤ modulo (gMn e o n : ℚ) ((max (n - p) 1 : ℕ) : ℚ) + (k : ℚ) / cprMax ∧
    modulo (gMn e o n : ℚ) ((max (n - p) 1 : ℕ) : ℚ) + (k : ℚ) / cprMax < ((max (n - p) 1 : ℕ) : ℚ) :=
  lon_factor_f64exact rounding_ieee e o n p k he ho hk hn1 hn

/-- **The zone indices and `lat_even` are computed exactly.**  Under the rounding hypothesis, for all 17-bit
    fields: the `f64` computation of `j` (l.258), of `lat_even` including its wrap (l.260-265) and — for every
    value `n ∈ 1..59` of `nl(lat)` — of `m` (l.291-294) returns exactly the rational model's `gJ`, `gLatE`,
    `gM` (`gM e o lat = gMn e o (nl lat)`). -/
theorem zone_indices_f64exact {fl : ℚ → ℚ} (R : Rounding fl) (e o : Msg)
    (he : e.lat < 131072 ∧ e.lon < 131072) (ho : o.lat < 131072 ∧ o.lon < 131072) :
    fJ fl e o = gJ e o ∧ fLatE fl e o = gLatE e o ∧
    (∀ n, 1 ≤ n → n ≤ 59 → fM fl e o n = gMn e o n) ∧ (∀ lat, gM e o lat = gMn e o (nl lat)) :=
  ⟨Proofs.CprFloat.fJ_eq R e o he.1 ho.1, Proofs.CprFloat.fLatE_eq R e o he.1 ho.1,
    fun n h1 h2 => Proofs.CprFloat.fM_eq R e o n he.2 ho.2 h1 h2, fun _ => rfl⟩

theorem zone_indices_f64exact_ieee (e o : Msg)
    (he : e.lat < 131072 ∧ e.lon < 131072) (ho : o.lat < 131072 ∧ o.lon < 131072) :
    fJ fl64 e o = gJ e o ∧ fLatE fl64 e o = gLatE e o ∧
    (∀ n, 1 ≤ n → n ≤ 59 → fM fl64 e o n = gMn e o n) ∧ (∀ lat, gM e o lat = gMn e o (nl lat)) :=
  zone_indices_f64exact rounding_ieee e o he ho

/-- **`lat_odd` is NOT exact** (`360/59` is rounded, the product is rounded): the computed value is within
    `10⁻¹²` degrees of the model's before the `>= 270` wrap (`gLatO = wrap270 gLatO0`), within `2·10⁻¹²` after it
    when the wrap decision is the same, and the decision is the same unless the exact value is within `10⁻¹²`
    of 270.  (What remains rounding-sensitive downstream: the `[-90, 90]` test and `nl(lat_odd)`, when the exact
    `lat_odd` is within `2·10⁻¹²` of ±90 or of a transition latitude.) -/
theorem lat_odd_float_close {fl : ℚ → ℚ} (R : Rounding fl) (e o : Msg) (he : e.lat < 131072)
    (ho : o.lat < 131072) :
    |fLatO0 fl e o - gLatO0 e o| ≤ 1 / 10 ^ 12 ∧ gLatO e o = wrap270 (gLatO0 e o) ∧
    ((fLatO0 fl e o ≥ 270 ↔ gLatO0 e o ≥ 270) → |fLatO fl e o - gLatO e o| ≤ 2 / 10 ^ 12) ∧
    (1 / 10 ^ 12 < |gLatO0 e o - 270| → (fLatO0 fl e o ≥ 270 ↔ gLatO0 e o ≥ 270)) :=
  ⟨(Proofs.CprFloat.lat_odd_err R e o he ho).1, rfl,
    Proofs.CprFloat.lat_odd_wrapped_err R e o he ho⟩

theorem lat_odd_float_close_ieee (e o : Msg) (he : e.lat < 131072) (ho : o.lat < 131072) :
    |fLatO0 fl64 e o - gLatO0 e o| ≤ 1 / 10 ^ 12 ∧ gLatO e o = wrap270 (gLatO0 e o) ∧
    ((fLatO0 fl64 e o ≥ 270 ↔ gLatO0 e o ≥ 270) → |fLatO fl64 e o - gLatO e o| ≤ 2 / 10 ^ 12) ∧
    (1 / 10 ^ 12 < |gLatO0 e o - 270| → (fLatO0 fl64 e o ≥ 270 ↔ gLatO0 e o ≥ 270)) :=
  lat_odd_float_close rounding_ieee e o he ho

/-- **The longitude is NOT exact** (`360/ni` is rounded, the product is rounded): for all 17-bit fields, every
    `n = nl(lat) ∈ 1..59`, `p ∈ {0,1}` and field `k` of the latest report, the computed value is within `10⁻¹²`
    degrees of the model's before the `>= 180` wrap (`gLon = wrap180 gLon0`), within `2·10⁻¹²` after it when the
    wrap decision is the same (otherwise the two differ by exactly one turn), and the decision is the same
    unless the exact value is within `10⁻¹²` of 180. -/
theorem lon_float_close {fl : ℚ → ℚ} (R : Rounding fl) (e o : Msg) (n p k : ℕ) (he : e.lon < 131072)
    (ho : o.lon < 131072) (hk : k < 131072) (hn1 : 1 ≤ n) (hn : n ≤ 59) :
    |fLon0 fl e o n p k - gLon0 e o n p k| ≤ 1 / 10 ^ 12 ∧
    (∀ lat, gLon e o lat p ((k : ℚ) / cprMax) = wrap180 (gLon0 e o (nl lat) p k)) ∧
    ((fLon0 fl e o n p k ≥ 180 ↔ gLon0 e o n p k ≥ 180) →
      |fWrap180 fl (fLon0 fl e o n p k) - wrap180 (gLon0 e o n p k)| ≤ 2 / 10 ^ 12) ∧
    (1 / 10 ^ 12 < |gLon0 e o n p k - 180| → (fLon0 fl e o n p k ≥ 180 ↔ gLon0 e o n p k ≥ 180)) :=
  ⟨(Proofs.CprFloat.lon_err R e o n p k he ho hk hn1 hn).1, fun _ => rfl,
    Proofs.CprFloat.lon_wrapped_err R e o n p k he ho hk hn1 hn⟩

theorem lon_float_close_ieee (e o : Msg) (n p k : ℕ) (he : e.lon < 131072)
    (ho : o.lon < 131072) (hk : k < 131072) (hn1 : 1 ≤ n) (hn : n ≤ 59) :
    |fLon0 fl64 e o n p k - gLon0 e o n p k| ≤ 1 / 10 ^ 12 ∧
    (∀ lat, gLon e o lat p ((k : ℚ) / cprMax) = wrap180 (gLon0 e o (nl lat) p k)) ∧
    ((fLon0 fl64 e o n p k ≥ 180 ↔ gLon0 e o n p k ≥ 180) →
      |fWrap180 fl64 (fLon0 fl64 e o n p k) - wrap180 (gLon0 e o n p k)| ≤ 2 / 10 ^ 12) ∧
    (1 / 10 ^ 12 < |gLon0 e o n p k - 180| → (fLon0 fl64 e o n p k ≥ 180 ↔ gLon0 e o n p k ≥ 180)) :=
  lon_float_close rounding_ieee e o n p k he ho hk hn1 hn

/-- the hypotheses are satisfiable, and with `fl = id` the `fl`-expressions are the model's: the first test
    pair of the repository, `j = 8` -/
example : fJ id ⟨.even, 39848, 83951⟩ ⟨.odd, 21567, 81965⟩ = 8 ∧ gJ ⟨.even, 39848, 83951⟩ ⟨.odd, 21567, 81965⟩ = 8 := by
  have h := Proofs.CprFloat.fJ_eq rounding_satisfiable ⟨.even, 39848, 83951⟩ ⟨.odd, 21567, 81965⟩
    (by decide) (by decide)
  have : gJ ⟨.even, 39848, 83951⟩ ⟨.odd, 21567, 81965⟩ = 8 := by decide +kernel
  exact ⟨h.trans this, this⟩

/-- the same pair with the real rounding: the IEEE-754 computation of `j` returns `8`; and `fl64` is not the
    identity (`1/10 ↦ 3602879701896397 / 2^55`), so the `…_ieee` corollaries are not the `fl = id` instance -/
example : fJ fl64 ⟨.even, 39848, 83951⟩ ⟨.odd, 21567, 81965⟩ = 8 ∧ fl64 (1 / 10) ≠ 1 / 10 := by
  have h := (zone_indices_f64exact_ieee ⟨.even, 39848, 83951⟩ ⟨.odd, 21567, 81965⟩
    ⟨by decide, by decide⟩ ⟨by decide, by decide⟩).1
  have : gJ ⟨.even, 39848, 83951⟩ ⟨.odd, 21567, 81965⟩ = 8 := by decide +kernel
  exact ⟨h.trans this, by rw [Proofs.IeeeRound.fl64_one_tenth]; norm_num⟩

/-! ### the f64 argument, ASSEMBLED: the complete float-level `airborne_position` against the exact model

`Proofs/CprFloatAsm.lean`: `fNl fl` — `fn nl` on an f64 latitude against the thresholds AS THE MACHINE HOLDS THEM
(`fl t` for each decimal literal `t` of the generated ladder: the literal parsed correctly rounded; `lat = -lat`
exact); `fAirbornePosition fl` — the whole function (`match` on the parities, `j`, the two latitudes and their
`>= 270` wraps, the `[-90, 90]` test, `nl(lat_even) != nl(lat_odd)`, `latest == even_frame`, `ni`, `m`, `r`, the
longitude and its `>= 180` wrap) with `fl` after every operation and every comparison made on the f64 values,
returning `none` exactly where the Rust code returns `None`.  `Margin e o` (`= MarginAt 10⁻⁹ e o`, decidable):
the EXACT values stay farther than `10⁻⁹`° (0.1 mm) from every point where a comparison on an inexact value
flips — `lat_even`, `lat_odd` from the 58 transition latitudes of the NL table, `lat_odd` from ±90 and (before
the wrap) from 270, the two longitudes (before the wrap) from 180.  (`lat_even` is computed exactly: it needs
no margin at ±90 / 270.) -/

open Rs1090.Proofs.CprFloat (fNl nlFar fAirbornePosition Margin MarginAt)

/-- **`nl` on the f64 latitude, against the rounded literals, returns the model's band** whenever the f64
    latitude is within `ε` of the exact one and the exact `|lat|` is farther than `ε + 10⁻¹³` from every
    transition latitude (`10⁻¹³ ≥ 87·2⁻⁵³ + 2⁻¹⁰⁰` bounds the rounding error of a literal) -/
theorem nl_float_eq_of_far {fl : ℚ → ℚ} (R : Rounding fl) {lat' lat ε : ℚ} (h : |lat' - lat| ≤ ε)
    (far : nlFar (ε + 1 / 10 ^ 13) lat) : fNl fl lat' = nl lat ∧ (1 ≤ fNl fl lat' ∧ fNl fl lat' ≤ 59) :=
  ⟨Proofs.CprFloat.fNl_eq_of_far R h far, Proofs.CprFloat.fNl_range lat'⟩

/-- **The complete f64 computation of `airborne_position` returns (almost) what the exact model returns**,
    in BOTH orders of the pair, under the margin hypothesis. -/
theorem airborne_position_f64_close (fl : ℚ → ℚ) (R : Rounding fl) (e o : Msg)
    (hpe : e.parity = .even) (hpo : o.parity = .odd)
    (he : e.lat < 131072 ∧ e.lon < 131072) (ho : o.lat < 131072 ∧ o.lon < 131072) (M : Margin e o) :
    ((fAirbornePosition fl e o = none ↔ airbornePosition e o = .ok none) ∧
      ∀ q, fAirbornePosition fl e o = some q → ∃ p : Pos, airbornePosition e o = .ok (some p) ∧
        |q.1 - p.lat| ≤ 1 / 10 ^ 11 ∧ |q.2 - p.lon| ≤ 1 / 10 ^ 11) ∧
    ((fAirbornePosition fl o e = none ↔ airbornePosition o e = .ok none) ∧
      ∀ q, fAirbornePosition fl o e = some q → ∃ p : Pos, airbornePosition o e = .ok (some p) ∧
        |q.1 - p.lat| ≤ 1 / 10 ^ 11 ∧ |q.2 - p.lon| ≤ 1 / 10 ^ 11) :=
  Proofs.CprFloat.airborne_position_f64_close fl R e o hpe hpo he ho M

theorem airborne_position_ieee_close (e o : Msg)
    (hpe : e.parity = .even) (hpo : o.parity = .odd)
    (he : e.lat < 131072 ∧ e.lon < 131072) (ho : o.lat < 131072 ∧ o.lon < 131072) (M : Margin e o) :
    ((fAirbornePosition fl64 e o = none ↔ airbornePosition e o = .ok none) ∧
      ∀ q, fAirbornePosition fl64 e o = some q → ∃ p : Pos, airbornePosition e o = .ok (some p) ∧
        |q.1 - p.lat| ≤ 1 / 10 ^ 11 ∧ |q.2 - p.lon| ≤ 1 / 10 ^ 11) ∧
    ((fAirbornePosition fl64 o e = none ↔ airbornePosition o e = .ok none) ∧
      ∀ q, fAirbornePosition fl64 o e = some q → ∃ p : Pos, airbornePosition o e = .ok (some p) ∧
        |q.1 - p.lat| ≤ 1 / 10 ^ 11 ∧ |q.2 - p.lon| ≤ 1 / 10 ^ 11) :=
  Proofs.CprFloat.airborne_position_ieee_close e o hpe hpo he ho M

/-- **The IEEE-754 computation recovers the encoder's lattice point within `10⁻¹¹` degrees** — the positions
    `global_correct` proves for the exact model and `global_within_10m` places within 9.629 m of the true point.
    `10⁻¹¹`° is at most 1.2 µm on the ground (`f64_slack_metres`), against a remaining slack of 0.37 m in the
    10 m clause. -/
theorem global_f64_recovers (lat lon : ℚ) (hlat : -90 ≤ lat ∧ lat ≤ 90)
    (hnl : NL (rlat 17 0 lat) = NL (rlat 17 1 lat))
    (M : Margin (report 17 0 lat lon) (report 17 1 lat lon)) :
    (∃ q, fAirbornePosition fl64 (report 17 0 lat lon) (report 17 1 lat lon) = some q ∧
      |q.1 - rlat 17 1 lat| ≤ 1 / 10 ^ 11 ∧
      |q.2 - norm180 (rlon 17 1 (rlat 17 1 lat) lon)| ≤ 1 / 10 ^ 11) ∧
    (∃ q, fAirbornePosition fl64 (report 17 1 lat lon) (report 17 0 lat lon) = some q ∧
      |q.1 - rlat 17 0 lat| ≤ 1 / 10 ^ 11 ∧
      |q.2 - norm180 (rlon 17 0 (rlat 17 0 lat) lon)| ≤ 1 / 10 ^ 11) := by
  obtain ⟨g1, g2⟩ := global_correct lat lon hlat hnl
  obtain ⟨s1, s2⟩ := Proofs.CprFloat.airborne_position_f64_some fl64 rounding_ieee
    (report 17 0 lat lon) (report 17 1 lat lon) rfl rfl
    (report_fields_lt 17 0 lat lon) (report_fields_lt 17 1 lat lon) M
  obtain ⟨q1, f1, c1, d1⟩ := s1 _ g1
  obtain ⟨q2, f2, c2, d2⟩ := s2 _ g2
  exact ⟨⟨q1, f1, c1, d1⟩, ⟨q2, f2, c2, d2⟩⟩

open Rs1090.Proofs.Metres in
/-- `10⁻¹¹` degrees of arc on the sphere of radius `R_MAX` are at most 1.2 µm (north-south; east-west is shorter
    by the cosine) -/
theorem f64_slack_metres : nsM (1 / 10 ^ 11) ≤ 12 / 10 ^ 7 := by
  have h : |(1 : ℚ) / 10 ^ 11| = 1 / 10 ^ 11 := abs_of_pos (by norm_num)
  unfold nsM mPerDeg; rw [h]; norm_num

/-- non-vacuity of the margin: the classic pair 8D40621D58C382D690C8AC2863A7 / 8D40621D58C386435CC412692AD6
    (even `lat_cpr, lon_cpr = 93000, 51372`, odd `74158, 50194`; 52.2572°, 3.9194°) satisfies `Margin`, … -/
example : Margin ⟨.even, 93000, 51372⟩ ⟨.odd, 74158, 50194⟩ := Proofs.CprFloat.margin_classic_pair

/-- … so the assembled theorem applies to it: the IEEE-754 computation returns a position, in both orders, within
    `10⁻¹¹`° of the exact model's `(52.26578…, 3.93891…)` (latest = odd) resp. `(52.25720…, 3.91937…)`
    (latest = even) -/
example :
    (∃ q, fAirbornePosition fl64 ⟨.even, 93000, 51372⟩ ⟨.odd, 74158, 50194⟩ = some q ∧
      |q.1 - 25261515 / 483328| ≤ 1 / 10 ^ 11 ∧ |q.2 - 225873 / 57344| ≤ 1 / 10 ^ 11) ∧
    (∃ q, fAirbornePosition fl64 ⟨.odd, 74158, 50194⟩ ⟨.even, 93000, 51372⟩ = some q ∧
      |q.1 - 428091 / 8192| ≤ 1 / 10 ^ 11 ∧ |q.2 - 64215 / 16384| ≤ 1 / 10 ^ 11) := by
  obtain ⟨s1, s2⟩ := Proofs.CprFloat.airborne_position_f64_some fl64 rounding_ieee
    ⟨.even, 93000, 51372⟩ ⟨.odd, 74158, 50194⟩ rfl rfl ⟨by decide, by decide⟩ ⟨by decide, by decide⟩
    Proofs.CprFloat.margin_classic_pair
  have e1 : airbornePosition ⟨.even, 93000, 51372⟩ ⟨.odd, 74158, 50194⟩
      = .ok (some ⟨(25261515 : Rat) / 483328, (225873 : Rat) / 57344⟩) := by decide +kernel
  have e2 : airbornePosition ⟨.odd, 74158, 50194⟩ ⟨.even, 93000, 51372⟩
      = .ok (some ⟨(428091 : Rat) / 8192, (64215 : Rat) / 16384⟩) := by decide +kernel
  obtain ⟨q1, f1, c1, d1⟩ := s1 _ e1
  obtain ⟨q2, f2, c2, d2⟩ := s2 _ e2
  exact ⟨⟨q1, f1, c1, d1⟩, ⟨q2, f2, c2, d2⟩⟩

/-- the repository's first test pair satisfies the margin too -/
example : Margin ⟨.even, 39848, 83951⟩ ⟨.odd, 21567, 81965⟩ := by decide +kernel

/-- the margin is a real restriction: 87° is an even lattice latitude AND a threshold of the table (`<= 87.0`),
    so the pair of the point (87°, 0°) does not satisfy it (the theorem is silent there; `87.0` is a binary64
    value and `lat_even` is exact, so the comparison is in fact decided correctly) -/
example : ¬ Margin ⟨.even, 65536, 0⟩ ⟨.odd, 33860, 0⟩ := by decide +kernel

/-- `decode_airporne_position`, first pair (8D40058B58C901375147EFD09357 / 8D40058B58C904A87F402D3B8C59):
    the model returns 49.81755…, 6.08442… as the test expects. -/
example : airbornePosition ⟨.even, 39848, 83951⟩ ⟨.odd, 21567, 81965⟩
    = .ok (some ⟨(48156435 : Rat) / 966656, (3688425 : Rat) / 606208⟩) := by decide +kernel

/-- second pair (8d4d224f58bf07c2d41a9a353d70 / 8d4d224f58bf003b221b34aa5b8d): 42.346…, 0.4347… -/
example : airbornePosition ⟨.odd, 123242, 6810⟩ ⟨.even, 7569, 6964⟩
    = .ok (some ⟨(2775219 : Rat) / 65536, (78345 : Rat) / 180224⟩) := by decide +kernel

/-- the odd report of the first pair *is* the encoder's odd report of the position the test expects … -/
example : report 17 1 (4981755 / 100000) (608442 / 100000) = ⟨.odd, 21567, 81965⟩ := by decide +kernel

/-- … whose two recovered latitudes lie in the same band (hypothesis of `global_correct`), … -/
example : NL (rlat 17 0 (4981755 / 100000)) = NL (rlat 17 1 (4981755 / 100000)) := by decide +kernel

/-- … while next to a transition latitude (10.47047130°) the bands differ (58 vs 59) and the pair is
    refused, as `global_none_iff` says. -/
example : NL (rlat 17 0 (104704523 / 10000000)) = 58 ∧ NL (rlat 17 1 (104704523 / 10000000)) = 59 := by
  decide +kernel

/-- 87° is an even lattice latitude and lies in the band NL = 2 (the standard's explicit rule; the last row of
    the ladder is `<=`) -/
example : rlat 17 0 87 = 87 ∧ nl 87 = 2 ∧ NL 87 = 2 := by decide +kernel

open Rs1090.Proofs.Metres in
/-- why the 10 m are stated for the distance and not for the sum of the axis errors: in the band NL = 2
    (86.535° ≤ |lat| ≤ 87°), odd format (one 360° longitude zone), the two half steps are 2.60 m north-south
    and 9.27 m east-west: 9.63 m in distance, 11.87 m in sum -/
example : 1186 / 100 < mPerDeg * (dlat 1 / 262144) + mPerDeg * cosUB 2 * (dlonOf 2 1 / 262144) ∧
    budget 2 1 262144 ≤ (9628 / 1000) ^ 2 := by
  decide +kernel

/-- **No hidden state besides the reviewed one** in the files this property is anchored in. 
    `airborne_position` and `nl` are functions of their arguments; cpr.rs holds nothing between calls.
    The translator lists on every run every construct through which a Rust function can carry state from one
    call to the next without it showing in its signature (`static`, `thread_local!`, `lazy_static!`,
    `OnceCell`/`OnceLock`/`Lazy`, `Cell`/`RefCell`/`UnsafeCell`, `Mutex`/`RwLock`, atomics, `unsafe`; whole
    files, gen/extractors/hidden_state.py); a memo, cache or counter added there breaks this obligation by
    name, whatever inputs the harness happens to generate. -/
theorem hidden_state_reviewed :
    Gen.HiddenState.sitesIn ["decode/cpr.rs"] =
      [] := by decide

end Rs1090.Props.C04
