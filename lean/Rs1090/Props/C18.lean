/-
C18 — GPS time-of-week → UTC time-of-day is total and exact; start of GPS week.

The functions are *generated* from crates/rs1090/src/decode/time.rs by
gen/extract.py (Rs1090/Gen/Time.lean): every run re-translates the Rust
expression bodies into the checked-arithmetic `Outcome` monad (u64/u128 with
`overflow-checks = true`: an out-of-range intermediate is `.panic`), and the
theorems below are re-checked against what the code says now.
-/
import Rs1090.Gen.Time
import Rs1090.Proofs.Time
import Rs1090.Gen.HiddenState
namespace Rs1090.Props.C18
open Rs1090 Rs1090.Gen.Time

def WEEK_NS : Nat := 604800 * 1000000000
def DAY_NS : Nat := 86400 * 1000000000
def WEEK_S : Nat := 604800

/-- C18, first clause, full strength: for every GPS time-of-week `t` (ns) within a
    week the conversion returns — without panic — `(t − 18 s) mod 1 day`
    (mathematical modulo over ℤ). -/
theorem tow_ok (t : Nat) (ht : t < WEEK_NS) :
    since_gps_week_to_since_today t
      = .ok (((t : Int) - 18 * 1000000000) % (DAY_NS : Int)).toNat := by
  unfold WEEK_NS at ht
  unfold DAY_NS
  exact since_gps_week_to_since_today_eq t (by omega)

theorem tow_range (t : Nat) :
    (((t : Int) - 18 * 1000000000) % (DAY_NS : Int)).toNat < DAY_NS := by
  unfold DAY_NS; omega

theorem tow_ne_panic (t : Nat) (ht : t < WEEK_NS) (s : Site) :
    since_gps_week_to_since_today t ≠ .panic s := by
  rw [tow_ok t ht]; intro h; cases h

/-- C18, second clause, exact domain: for EVERY `u64` Unix time `now` at or after the GPS
    epoch, `GPS_TO_UNIX_OFFSET ≤ now < 2^64`, the computed start of GPS week `w` is returned
    without panic, is at most one week before `now` with leap seconds included
    (`w ≤ now < w + 1 week`), and `w` expressed in GPS time (`w − OFFSET + LEAP`) is a multiple of
    one week.  (The obvious sufficient condition for the two additions not to overflow is
    `now ≤ 2^64 − 19`; the last 18 values are fine as well because the week that contains them
    starts 370 834 s before `2^64`.) -/
theorem week_ok_u64 (now : Nat) (h0 : GPS_TO_UNIX_OFFSET ≤ now) (h1 : now < 2 ^ 64) :
    ∃ w, gps_week_in_s now = .ok w ∧ w ≤ now ∧ now - w < WEEK_S ∧
      (w + LEAP_SECONDS_SINCE_2017 - GPS_TO_UNIX_OFFSET) % WEEK_S = 0 := by
  unfold GPS_TO_UNIX_OFFSET at h0
  unfold WEEK_S
  simp only [Nat.reducePow] at h1
  simp (disch := omega) only [gps_week_in_s, LEAP_SECONDS_SINCE_2017, GPS_TO_UNIX_OFFSET,
    Outcome.bind_ok, addU_ok, subU_ok, mulU_ok, divU_ok, Nat.reduceMul]
  refine ⟨_, rfl, ?_, ?_, ?_⟩ <;> omega

/-- C18, second clause as the property text has it, with `now` representable as `now < 2^63`. -/
theorem week_ok (now : Nat) (h0 : GPS_TO_UNIX_OFFSET ≤ now) (h1 : now < 2 ^ 63) :
    ∃ w, gps_week_in_s now = .ok w ∧ w ≤ now ∧ now - w < WEEK_S ∧
      (w + LEAP_SECONDS_SINCE_2017 - GPS_TO_UNIX_OFFSET) % WEEK_S = 0 :=
  week_ok_u64 now h0 (by omega)

/-- … and the lower bound is sharp: before the GPS epoch the first subtraction underflows
    (a panic with `overflow-checks = true`), so the domain of `week_ok_u64` is exactly the set of
    `u64` values on which the function returns. -/
theorem week_before_epoch_panics (now : Nat) (h : now < GPS_TO_UNIX_OFFSET) :
    gps_week_in_s now = .panic .subOverflow := by
  unfold GPS_TO_UNIX_OFFSET at h
  simp (disch := omega) only [gps_week_in_s, LEAP_SECONDS_SINCE_2017, GPS_TO_UNIX_OFFSET,
    Outcome.bind_ok, mulU_ok, Nat.reduceMul, subU_panic, Outcome.bind_panic]

/-- **The regenerated constants are the documented ones**: the GPS epoch 1980-01-06T00:00:00Z is
    Unix second 315 964 800 and GPS is 18 leap seconds ahead of UTC since 2017.  `week_ok` is stated with the
    names regenerated from `time.rs` and its proof would go through for other values; this theorem is what
    fails when a constant in the source is edited (`week_boundary_literal` restates the clause with the
    literals). -/
theorem source_constants_literal : GPS_TO_UNIX_OFFSET = 315964800 ∧ LEAP_SECONDS_SINCE_2017 = 18 :=
  ⟨rfl, rfl⟩

/-- the second clause with literal constants -/
theorem week_boundary_literal (now : Nat) (h0 : 315964800 ≤ now) (h1 : now < 2 ^ 64) :
    ∃ w, gps_week_in_s now = .ok w ∧ w ≤ now ∧ now - w < 604800 ∧ (w + 18 - 315964800) % 604800 = 0 :=
  week_ok_u64 now h0 h1

/-- Non-vacuity: the hypotheses are met by ordinary values, and the statement is
    sharp at the first second of the week (the input on which the unrepaired code
    panicked). -/
example : since_gps_week_to_since_today 5000000000 = .ok 86387000000000 := by decide
example : since_gps_week_to_since_today 0 = .ok 86382000000000 := by decide
example : gps_week_in_s 1790000000 = .ok 1789862382 := by decide
example : gps_week_in_s (2 ^ 64 - 1) = .ok 18446744073709180782 := by decide

/-- The code side of "is a function of its input": the two conversions are functions of their argument; the
    only `static` items of time.rs are two immutable integer constants (regenerated into `Gen.Time` and used
    by the model).  `sitesIn` lists every construct through which a Rust function can carry state from one
    call to the next without it showing in its signature (whole files, gen/extractors/hidden_state.py); a
    memo, cache or counter added there breaks this theorem. -/
theorem hidden_state_reviewed :
    Gen.HiddenState.sitesIn ["decode/time.rs"] =
      [("decode/time.rs", "static GPS_TO_UNIX_OFFSET:u64=315964800;"), ("decode/time.rs", "static LEAP_SECONDS_SINCE_2017:u64=18;")] := by rfl

end Rs1090.Props.C18
