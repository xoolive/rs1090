/-
C07 — every accepted message serialises to one well-formed, self-consistent JSON object.

Model: `Message.tryFrom` returns the serialised form (`Decoded.json`) or the serde error
(`Decoded.serErr`) of the accepted message; serde's derive rules (tag, flatten, untagged, rename,
skip_serializing_if) are built into every reader of Model/Decode/*.lean and compared with
`serde_json::to_string` by the `dec` correspondence over the whole shape space.
-/
import Rs1090.Proofs.Decode.GenBds
import Rs1090.Proofs.Decode.AllGood
import Rs1090.Props.C11
import Rs1090.Model.Decode.Timed
import Rs1090.Props.C01
import Rs1090.Proofs.JsonText
import Rs1090.Gen.HiddenState
namespace Rs1090.Props.C07
open Rs1090 Rs1090.Model Rs1090.Model.Message

/-- **Every accepted message serialises**: no frame that the decoder accepts — any downlink format,
    control field, type code, subtype, ADS-B version, reserved value, any combination of Comm-B
    registers — yields a serde error (`can only flatten structs and maps`, `tagged newtype variant`). -/
theorem serialises (bs : List Nat) (d : Decoded) (h : tryFrom bs = .ok d) :
    ∃ kvs, d = .json (.obj kvs) := by
  obtain ⟨kvs, e, _⟩ := tryFrom_good bs d h
  exact ⟨kvs, e⟩

theorem no_serde_error (bs : List Nat) (e : SerErr) : tryFrom bs ≠ .ok (.serErr e) := by
  intro h
  obtain ⟨kvs, e', _⟩ := tryFrom_good bs _ h
  cases e'

/-- **No duplicate keys, finite numbers**: the result is one JSON object in which no object at any
    nesting depth repeats a key and every number is finite (`Json.wf`). -/
theorem json_wellformed (bs : List Nat) (j : Json) (h : tryFrom bs = .ok (.json j)) : j.wf = true := by
  obtain ⟨kvs, e, hn, hw, _, _⟩ := tryFrom_good bs _ h
  cases e
  simp only [Json.wf, Bool.and_eq_true, decide_eq_true_eq]
  exact ⟨hw, hn⟩

theorem keys_nodup (bs : List Nat) (kvs : List (Key × Json)) (h : tryFrom bs = .ok (.json (.obj kvs))) :
    (kvs.map (·.1.id)).Nodup := by
  obtain ⟨kvs', e, hn, _, _, _⟩ := tryFrom_good bs _ h
  cases e; exact hn

/-- **`df` and `icao24` are those of the frame**: for the nine address-carrying formats the object
    has `"df"` = the decimal downlink format and `"icao24"` = the address the frame carries as six
    lowercase hex digits — the announced address field (bits 8..32) for DF 11, 17, 18, the Mode S
    checksum remainder (address/parity overlay, see C02 `ap_recover`) for DF 0, 4, 5, 16, 20, 21. -/
theorem df_icao_consistent (bs : List Nat) (kvs : List (Key × Json))
    (h : tryFrom bs = .ok (.json (.obj kvs)))
    (hdf : [0, 4, 5, 11, 16, 17, 18, 20, 21].contains (bitsBE bs 0 5) = true) :
    ∃ k a, Rs1090.Proofs.Filters.objGet kvs (key! "df") = some (Json.lit k) ∧ k.name = toString (bitsBE bs 0 5) ∧
      Rs1090.Proofs.Filters.objGet kvs (key! "icao24") = some (jhex6 a) ∧
      (([11, 17, 18].contains (bitsBE bs 0 5) = true → a = bitsBE bs 8 24) ∧
       ([0, 4, 5, 16, 20, 21].contains (bitsBE bs 0 5) = true →
          modesChecksum bs (frameBits (bs.headD 0)) = .ok a)) := by
  obtain ⟨v, hv, ⟨k, hk, hname⟩, ha⟩ :=
    Rs1090.Props.C11.display_matches_json_lookup bs kvs h (keys_nodup bs kvs h)
  obtain ⟨b0, rest, crc, rfl, _, hm, _, hv⟩ := Rs1090.Proofs.Filters.viewOf_eq_some.mp hv
  unfold Rs1090.Model.Filters.hdrView at hv
  simp only [List.headD_cons]
  generalize hid : bitsBE (b0 :: rest) 0 5 = id at hv hdf ⊢
  have hcases : id = 0 ∨ id = 4 ∨ id = 5 ∨ id = 11 ∨ id = 16 ∨ id = 17 ∨ id = 18 ∨ id = 20 ∨ id = 21 := by
    simp only [List.contains_cons, List.contains_nil, Bool.or_false, Bool.or_eq_true, beq_iff_eq] at hdf
    omega
  rcases hcases with rfl | rfl | rfl | rfl | rfl | rfl | rfl | rfl | rfl <;>
    (simp only [] at hv; cases hv; simp only [Rs1090.Model.Filters.display] at hname ha;
     refine ⟨k, _, hk, hname, ha _ rfl, ?_, ?_⟩ <;> simp [hm])

/-! ### the timed record (`TimedMessage`) -/

theorem hexVal_hexDigit : ∀ n, n < 16 → hexVal (hexDigit n) = some n := by decide

/-- `hex::decode(hex::encode(frame)) = frame`: the recorded frame reads back as the same bytes -/
theorem frame_hex_roundtrip (bs : List Nat) (hb : ∀ b ∈ bs, b < 256) (acc : List Nat) :
    parseHexAux (Timed.frameHex bs) acc = some (acc.reverse ++ bs) := by
  induction bs generalizing acc with
  | nil => simp [Timed.frameHex, parseHexAux]
  | cons b rest ih =>
    have hb' : b < 256 := hb b (by simp)
    simp only [Timed.frameHex, parseHexAux]
    rw [hexVal_hexDigit _ (by omega), hexVal_hexDigit _ (by omega)]
    simp only []
    rw [ih (fun x hx => hb x (by simp [hx]))]
    have : b / 16 % 16 * 16 + b % 16 = b := by omega
    simp [this]

/-- the `decode_time` member by configuration: there exactly under `serialize_config(true)` with a measured time -/
theorem decode_time_member (cfg : Timed.Config) (dt : Option Json) :
    Timed.decodeTimeMember cfg dt =
      if cfg = .set true then (dt.map fun t => (key! "decode_time", t)).toList else [] := by
  cases cfg with
  | unset => cases dt <;> simp [Timed.decodeTimeMember, Timed.skipDecodeTime, Timed.Config.decodeTime]
  | set b => cases b <;> cases dt <;> simp [Timed.decodeTimeMember, Timed.skipDecodeTime, Timed.Config.decodeTime]

/-- under the default configuration (never set) and under `serialize_config(false)` the record is the one without
    `decode_time`, whatever the field holds; under every configuration so is a record whose field is `None` -/
theorem timedJsonCfg_default (cfg : Timed.Config) (ts : Json) (bs : List Nat) (msg : Option (List (Key × Json)))
    (mdata : List Json) (dt : Option Json) (h : cfg ≠ .set true ∨ dt = none) :
    Timed.timedJsonCfg cfg ts bs msg mdata dt = Timed.timedJson ts bs msg mdata := by
  unfold Timed.timedJsonCfg Timed.timedJson
  rw [decode_time_member]
  rcases h with h | h
  · simp [h]
  · subst h; split <;> simp

theorem wfObj_append (a b : List (Key × Json)) : Json.wfObj (a ++ b) = (Json.wfObj a && Json.wfObj b) :=
  CommbA.wfObj_append a b

theorem record_wf (ts : Json) (bs : List Nat) (kvs T : List (Key × Json))
    (hts : ts.wf = true) (hw : Json.wfObj kvs = true) (hn : (keyIds kvs).Nodup)
    (hav : ∀ k ∈ keyIds kvs, k ∉ timedKeys)
    (hT : Json.wfObj T = true) (hTn : (keyIds T).Nodup)
    (hTk : ∀ k ∈ keyIds T, k = (key! "metadata").id ∨ k = (key! "decode_time").id) :
    (Json.obj ([(key! "timestamp", ts), (key! "frame", .chars (Timed.frameHex bs))] ++ kvs ++ T)).wf = true := by
  simp only [Json.wf, Bool.and_eq_true, decide_eq_true_eq]
  refine ⟨?_, ?_⟩
  · simp only [List.cons_append, List.nil_append, Json.wfObj, wfObj_append, hts, hw, hT, Json.wf, Bool.and_self]
  · simp only [keyIds, List.cons_append, List.nil_append, List.map_cons, List.map_append]
    have hk : ∀ k ∈ List.map (fun x => x.1.id) kvs, k ∉ timedKeys := hav
    have hTk' : ∀ k ∈ List.map (fun x => x.1.id) T, k = (key! "metadata").id ∨ k = (key! "decode_time").id := hTk
    refine List.nodup_cons.mpr ⟨?_, List.nodup_cons.mpr ⟨?_, ?_⟩⟩
    · intro hm
      simp only [List.mem_cons, List.mem_append] at hm
      rcases hm with hm | hm | hm
      · exact absurd hm (by decide)
      · exact hk _ hm (by decide)
      · rcases hTk' _ hm with e | e <;> exact absurd e (by decide)
    · intro hm
      simp only [List.mem_append] at hm
      rcases hm with hm | hm
      · exact hk _ hm (by decide)
      · rcases hTk' _ hm with e | e <;> exact absurd e (by decide)
    · rw [List.nodup_append]
      refine ⟨hn, hTn, ?_⟩
      intro a ha b hb' hab
      subst hab
      rcases hTk' _ hb' with e | e <;> exact hk _ ha (by rw [e]; decide)

theorem tail_good (cfg : Timed.Config) (mdata : List Json) (dt : Option Json)
    (hmeta : Json.wfList mdata = true) (hdt : ∀ t, dt = some t → t.wf = true) :
    Json.wfObj ([(key! "metadata", Json.arr mdata)] ++ Timed.decodeTimeMember cfg dt) = true ∧
    (keyIds ([(key! "metadata", Json.arr mdata)] ++ Timed.decodeTimeMember cfg dt)).Nodup ∧
    ∀ k ∈ keyIds ([(key! "metadata", Json.arr mdata)] ++ Timed.decodeTimeMember cfg dt),
      k = (key! "metadata").id ∨ k = (key! "decode_time").id := by
  rw [decode_time_member]
  by_cases hc : cfg = .set true
  · cases dt with
    | none => simp [hc, Json.wfObj, Json.wf, hmeta, keyIds]
    | some t =>
      have := hdt t rfl
      simp only [hc, if_true, Option.map_some, Option.toList_some, List.cons_append, List.nil_append, Json.wfObj,
        Json.wf, hmeta, this, Bool.and_self, keyIds, List.map_cons, List.map_nil, true_and]
      refine ⟨by decide, ?_⟩
      intro k hk
      simp only [List.mem_cons, List.not_mem_nil, or_false] at hk
      exact hk
  · simp [hc, Json.wfObj, Json.wf, hmeta, keyIds]

/-- **A timed record keeps the input frame as hex, so decoding that hex again gives the same fields — under EVERY
    serialisation configuration**: for each state `cfg` of the process-wide switch (never set, `serialize_config(false)`,
    `serialize_config(true)`) and each value `dt` of the `decode_time` field, the record — time stamp, frame, the
    message's members flattened in, metadata, and `decode_time` when shown — is a well-formed object without duplicate
    keys; its `frame` member parses back to the input bytes (hence, decoding being a function, to the same message);
    every member of the message is found in the record under its key with its value; and `decode_time` is a member
    exactly under `serialize_config(true)` when the field is `Some`, with the field's value. -/
theorem timed_record (cfg : Timed.Config) (bs : List Nat) (kvs : List (Key × Json)) (ts : Json) (mdata : List Json)
    (dt : Option Json)
    (h : tryFrom bs = .ok (.json (.obj kvs))) (hb : ∀ b ∈ bs, b < 256)
    (hts : ts.wf = true) (hmeta : Json.wfList mdata = true) (hdt : ∀ t, dt = some t → t.wf = true) :
    (Timed.timedJsonCfg cfg ts bs (some kvs) mdata dt).wf = true ∧
    parseHexAux (Timed.frameHex bs) [] = some bs ∧
    (∀ bs', parseHexAux (Timed.frameHex bs) [] = some bs' → tryFrom bs' = .ok (.json (.obj kvs))) ∧
    (∀ members, Timed.timedJsonCfg cfg ts bs (some kvs) mdata dt = .obj members →
      (∀ k v, (k, v) ∈ kvs → Rs1090.Proofs.Filters.objGet members k = some v) ∧
      Rs1090.Proofs.Filters.objGet members (key! "decode_time") = (if cfg = .set true then dt else none)) := by
  obtain ⟨kvs', e, hn, hw, _, hav⟩ := tryFrom_good bs _ h
  cases e
  have hrt : parseHexAux (Timed.frameHex bs) [] = some bs := by simpa using frame_hex_roundtrip bs hb []
  obtain ⟨hT, hTn, hTk⟩ := tail_good cfg mdata dt hmeta hdt
  have hwf : (Timed.timedJsonCfg cfg ts bs (some kvs) mdata dt).wf = true := by
    unfold Timed.timedJsonCfg
    rw [Option.getD_some, List.append_assoc _ [_] _]
    exact record_wf ts bs kvs _ hts hw hn hav hT hTn hTk
  refine ⟨hwf, hrt, fun bs' hb' => by rw [hrt] at hb'; cases hb'; exact h, ?_⟩
  intro members hm
  have hnd : (members.map (·.1.id)).Nodup := by
    rw [hm] at hwf
    simp only [Json.wf, Bool.and_eq_true, decide_eq_true_eq] at hwf
    exact hwf.2
  unfold Timed.timedJsonCfg at hm
  cases hm
  refine ⟨fun k v hkv => Rs1090.Proofs.Filters.objGet_of_mem hnd (by simp [hkv]), ?_⟩
  rw [decode_time_member] at hnd ⊢
  have hbase : Rs1090.Proofs.Filters.objGet ([(key! "timestamp", ts), (key! "frame", .chars (Timed.frameHex bs))] ++
      (some kvs).getD [] ++ [(key! "metadata", .arr mdata)]) (key! "decode_time") = none := by
    apply Rs1090.Proofs.Filters.objGet_none
    simp only [Option.getD_some, List.map_append, List.map_cons, List.map_nil, List.mem_append, List.mem_cons,
      List.not_mem_nil, or_false, not_or]
    exact ⟨⟨⟨by decide, by decide⟩, fun hm => hav _ hm (by decide)⟩, by decide⟩
  by_cases hc : cfg = .set true
  · cases dt with
    | none => simpa only [hc, if_true, Option.map_none, Option.toList_none, List.append_nil] using hbase
    | some t =>
      simp only [hc, if_true, Option.map_some, Option.toList_some] at hnd ⊢
      exact Rs1090.Proofs.Filters.objGet_of_mem hnd (by simp)
  · simpa only [hc, if_false, List.append_nil] using hbase

-- the hypotheses are satisfiable under each configuration (the frame of the repository's tests used below decodes)
example : ∀ cfg : Timed.Config, ∃ j, Timed.recordCfg cfg (jrat 3 2)
    [0x8d,0x40,0x6b,0x90,0x20,0x15,0xa6,0x78,0xd4,0xd2,0x20,0xaa,0x4b,0xda] [] (some (jrat 1 8000)) = .ok (.json j) := by
  intro cfg
  obtain ⟨kvs, h⟩ := tryFrom_test_json
  unfold Timed.recordCfg
  rw [h]
  exact ⟨_, rfl⟩

/-! ### the pipeline's entry point

jet1090's de-duplicator and decode1090 decode with `Message::from_bytes`, which ignores bytes after the
frame.  Whatever it accepts is what `try_from` accepts on the frame proper (`C01.fromBytes_prefix`), so every
statement above holds of it, with `bs` replaced by the first 7 / 14 bytes. -/

theorem serialises_from_bytes (bs : List Nat) (d : Decoded) (h : fromBytes bs = .ok d) :
    ∃ kvs, d = .json (.obj kvs) ∧ (Json.obj kvs).wf = true :=  by
  obtain ⟨_, ht⟩ := Rs1090.Props.C01.fromBytes_prefix bs d h
  obtain ⟨kvs, e⟩ := serialises _ d ht
  subst e
  exact ⟨kvs, rfl, json_wellformed _ _ ht⟩

/-- a timed record made from an undecodable frame (`message: None` flattens to nothing) is well formed too, under
    every configuration -/
theorem timed_record_undecoded (cfg : Timed.Config) (bs : List Nat) (ts : Json) (mdata : List Json) (dt : Option Json)
    (hts : ts.wf = true) (hmeta : Json.wfList mdata = true) (hdt : ∀ t, dt = some t → t.wf = true) :
    (Timed.timedJsonCfg cfg ts bs none mdata dt).wf = true := by
  obtain ⟨hT, hTn, hTk⟩ := tail_good cfg mdata dt hmeta hdt
  unfold Timed.timedJsonCfg
  rw [Option.getD_none, List.append_assoc _ [_] _]
  exact record_wf ts bs [] _ hts rfl (by simp [keyIds]) (by simp [keyIds]) hT hTn hTk

/-! ### one object on one line

`Json.text numText j` (Model/JsonText.lean) is the text `serde_json::to_string` writes for `j` — compact writer, every
string (values, unit-variant names AND keys) escaped by `format_escaped_str` — with the float printer `ryu` abstracted
as `numText`, about which only `NumClean` is assumed (its output is made of `0-9 + - . e E` and the letters of `null`).
No hypothesis about key names: they are escaped like every string. -/

/-- **One JSON object on one line**: the text serde_json writes for whatever the decoder accepts has no control
    character (nothing below 0x20) — in particular neither a line feed nor a carriage return — and it starts with `{`
    and ends with `}`. -/
theorem one_line (numText : Json → List Char) (hn : NumClean numText) (bs : List Nat) (d : Decoded)
    (h : tryFrom bs = .ok d) :
    ∃ j, d = .json j ∧
      (∀ c ∈ j.text numText, 0x20 ≤ c.toNat) ∧ (∀ c ∈ j.text numText, c ≠ '\n' ∧ c ≠ '\r') ∧
      (j.text numText).head? = some '{' ∧ (j.text numText).getLast? = some '}' := by
  obtain ⟨kvs, e⟩ := serialises bs d h
  subst e
  exact ⟨_, rfl, text_no_control hn _, text_one_line hn _, text_obj_shape numText kvs⟩

theorem one_line_from_bytes (numText : Json → List Char) (hn : NumClean numText) (bs : List Nat) (d : Decoded)
    (h : fromBytes bs = .ok d) :
    ∃ j, d = .json j ∧
      (∀ c ∈ j.text numText, 0x20 ≤ c.toNat) ∧ (∀ c ∈ j.text numText, c ≠ '\n' ∧ c ≠ '\r') ∧
      (j.text numText).head? = some '{' ∧ (j.text numText).getLast? = some '}' := by
  obtain ⟨_, ht⟩ := Rs1090.Props.C01.fromBytes_prefix bs d h
  exact one_line numText hn _ d ht

/-- **The timed record is one object on one line, under EVERY serialisation configuration**: whatever the time stamp,
    the frame, the message members (`some kvs`, or `none` for an undecodable frame), the reception records — whose
    `name` is an arbitrary string, escaped — and the `decode_time` field. -/
theorem one_line_timed (numText : Json → List Char) (hn : NumClean numText) (cfg : Timed.Config) (ts : Json)
    (bs : List Nat) (msg : Option (List (Key × Json))) (mdata : List Json) (dt : Option Json) :
    let t := (Timed.timedJsonCfg cfg ts bs msg mdata dt).text numText
    (∀ c ∈ t, 0x20 ≤ c.toNat) ∧ (∀ c ∈ t, c ≠ '\n' ∧ c ≠ '\r') ∧ t.head? = some '{' ∧ t.getLast? = some '}' := by
  intro t
  exact ⟨text_no_control hn _, text_one_line hn _, text_obj_shape numText _⟩

/-- what the pipeline prints for one reception: decode, then wrap (`Timed.recordCfg`) -/
theorem one_line_record (numText : Json → List Char) (hn : NumClean numText) (cfg : Timed.Config) (ts : Json)
    (bs : List Nat) (metadata : List Timed.SensorMeta) (dt : Option Json) (d : Decoded)
    (h : Timed.recordCfg cfg ts bs metadata dt = .ok d) :
    ∃ j, d = .json j ∧
      (∀ c ∈ j.text numText, 0x20 ≤ c.toNat) ∧ (∀ c ∈ j.text numText, c ≠ '\n' ∧ c ≠ '\r') ∧
      (j.text numText).head? = some '{' ∧ (j.text numText).getLast? = some '}' := by
  unfold Timed.recordCfg at h
  cases hd : tryFrom bs with
  | err e => rw [hd] at h; cases h
  | panic x => rw [hd] at h; cases h
  | ok d' =>
    obtain ⟨kvs, e⟩ := serialises bs d' hd
    subst e
    rw [hd] at h
    cases h
    exact ⟨_, rfl, one_line_timed numText hn cfg ts bs (some kvs) _ dt⟩

/-- a control character in a computed string (here the receiver `name` `a<LF>b`) is escaped, not printed -/
example : (Json.chars ['a', '\n', 'b']).text (fun _ => []) = ['"', 'a', '\\', 'n', 'b', '"'] := by decide

/-- `NumClean` is satisfiable (what ryu prints for 1.5) -/
example : NumClean (fun _ => ['1', '.', '5']) := by
  intro _; show ∀ c ∈ ['1', '.', '5'], c ∈ numChars; decide

/-- non-vacuity: the text of the repository's test frame, computed by the kernel -/
example :
    (match tryFrom [0x8d,0x40,0x6b,0x90,0x20,0x15,0xa6,0x78,0xd4,0xd2,0x20,0xaa,0x4b,0xda] with
     | .ok (.json j) => j.text (fun _ => [])
     | _ => []) =
    "{\"df\":\"17\",\"icao24\":\"406b90\",\"bds\":\"08\",\"id\":4,\"wake_vortex\":\"n/a\",\"callsign\":\"EZY85MH\"}".toList := by
  decide +kernel

/-! sanity anchors: frames of the repository's own suite serialise -/
example : ∃ kvs, tryFrom [0x8d,0x40,0x6b,0x90,0x20,0x15,0xa6,0x78,0xd4,0xd2,0x20,0xaa,0x4b,0xda] = .ok (.json (.obj kvs)) :=
  tryFrom_test_json

/-! ### hidden state (the code side of "is a function of its input") -/

/-- **No hidden state besides the reviewed one** in the files this property is anchored in.  'Decoding that hex again gives the same fields' needs the decoder to be a function of the frame: the only site in its files is the serialisation switch `CONFIG`, which is modelled (`Config`, three states). Seeds C07-e-m1 / C07-h-m2 put a per-thread memo of Comm-B inferences into commb.rs.
    The translator lists on every run every construct through which a Rust function can carry state from one
    call to the next without it showing in its signature (`static`, `thread_local!`, `lazy_static!`,
    `OnceCell`/`OnceLock`/`Lazy`, `Cell`/`RefCell`/`UnsafeCell`, `Mutex`/`RwLock`, atomics, `unsafe`; whole
    files, gen/extractors/hidden_state.py); a memo, cache or counter added there breaks this obligation by
    name, whatever inputs the harness happens to generate. -/
theorem hidden_state_reviewed :
    Gen.HiddenState.sitesIn ["decode/mod.rs", "decode/adsb.rs", "decode/commb.rs", "decode/crc.rs", "decode/bds/mod.rs",
   "decode/bds/bds05.rs", "decode/bds/bds06.rs", "decode/bds/bds08.rs", "decode/bds/bds09.rs",
   "decode/bds/bds10.rs", "decode/bds/bds17.rs", "decode/bds/bds18.rs", "decode/bds/bds19.rs",
   "decode/bds/bds20.rs", "decode/bds/bds21.rs", "decode/bds/bds30.rs", "decode/bds/bds40.rs",
   "decode/bds/bds44.rs", "decode/bds/bds45.rs", "decode/bds/bds50.rs", "decode/bds/bds60.rs",
   "decode/bds/bds61.rs", "decode/bds/bds62.rs", "decode/bds/bds65.rs"] =
      [("decode/mod.rs", "static CONFIG:OnceCell<SerializeConfig>=OnceCell::new();")] :=
  Rs1090.Props.C01.hidden_state_reviewed


/-! ### the BDS 5,0 / 6,0 field readers are TRANSLATED from the source on every run (gen/extractors/bdsfns.py →
`Gen/BdsFns.lean`) and proved equal, as `Outcome`s — value, `Err` and panic alike — to the model's conversion
functions on every value of the bits read (`Proofs/Decode/GenBds.lean`; spelled out in Props/C08.lean).
`rollOk s g v` is `decide (Gen.BdsFns.Bds50.read_roll s g v = scaled 45 256 (Model.Bds50.roll s g v))`, and so on.
A rewrite of the `fn` items that keeps the values passes; a behavioural edit fails here by name. -/

open Rs1090.Proofs.GenBds in
theorem bds50_readers_as_modelled :
    (∀ s g v, g < 2 ^ 1 → v < 2 ^ 9 → rollOk s g v = true) ∧
    (∀ s g v, g < 2 ^ 1 → v < 2 ^ 10 → trackOk s g v = true) ∧
    (∀ s v, v < 2 ^ 10 → gsOk s v = true) ∧
    (∀ (n : Option Int) s g v, g < 2 ^ 1 → v < 2 ^ 9 → rateOk n s g v = true) :=
  ⟨bds50_roll, bds50_track, bds50_groundspeed, bds50_rate⟩

open Rs1090.Proofs.GenBds in
theorem bds60_readers_as_modelled :
    (∀ s g v, g < 2 ^ 1 → v < 2 ^ 10 → headingOk s g v = true) ∧
    (∀ s v, v < 2 ^ 10 → iasOk s v = true) ∧
    (∀ (i : Option Nat) s v, v < 2 ^ 10 → machOk i s v = true) ∧
    (∀ s g v, g < 2 ^ 1 → v < 2 ^ 9 → verticalOk s g v = true) :=
  ⟨bds60_heading, bds60_ias, bds60_mach, bds60_vertical⟩

/-- the predicates are not vacuous: a disagreeing pair is rejected -/
example : decide (Gen.BdsFns.Bds50.read_roll true 0 4 = Rs1090.Proofs.GenBds.scaled 45 128 (Model.Bds50.roll true 0 4)) = false := by
  decide +kernel


open Rs1090.Proofs.GenBds in
theorem bds40_readers_as_modelled :
    (∀ s v, v < 2 ^ 12 → selectedOk s v = true) ∧ (∀ s v, v < 2 ^ 12 → qnhOk s v = true) :=
  ⟨bds40_selected, bds40_qnh⟩

open Rs1090.Proofs.GenBds in
theorem bds44_readers_as_modelled :
    (∀ s v, v < 2 ^ 11 → pressure44Ok s v = true) ∧ (∀ s v, v < 2 ^ 6 → humidityOk s v = true) :=
  ⟨bds44_pressure, bds44_humidity⟩

end Rs1090.Props.C07
