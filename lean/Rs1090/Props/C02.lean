/-
C02 — the Mode S checksum is the polynomial remainder; DF17 is accepted iff it is zero;
no 1-bit, 2-bit or ≤ 24-bit burst corruption of a valid DF17 frame is accepted as DF17;
the address/parity formats report the transmitted address.

Model: `modesChecksum` (Model/Decode/Checksum.lean, over the table regenerated from crc.rs on
every run) and `Message.tryFrom` / `decodeBuf` / `df` (Model/Decode/Message.lean).
Spec: Spec/Crc.lean — bit-serial long division by the 25-bit generator 0x1FFF409, written
from the standard.

Every statement quantifies over *all* inputs of its domain (induction over the byte/bit
list, XOR-linearity of the division); the only enumerations are the 256 table rows and the
111 distances of a double error.
-/
import Rs1090.Proofs.Decode.AllGood
import Rs1090.Gen.CrcGate
import Rs1090.Gen.HiddenState
namespace Rs1090.Props.C02
open Rs1090 Rs1090.Spec.Crc Rs1090.Model Rs1090.Model.Message Rs1090.Proofs.Crc

def AcceptedDF17 (frame : List Nat) : Prop := dfField frame = 17 ∧ ∃ d, tryFrom frame = .ok d

structure ValidDF17 (F : List Nat) : Prop where
  len : F.length = 14
  bytes : Bytes F
  df : dfField F = 17
  crc : polyMod (bits F) = 0#24

/-- the frame received when the channel flips the bits of `F` marked in `e` (bit 0 = first
    bit on the air = most significant bit of byte 0) -/
def corrupt (F : List Nat) (e : List Bool) : List Nat := pack (xorBits (bits F) e)

/-- exactly bit `i` of 112 -/
def flip1 (i : Nat) : List Bool := zeros i ++ [true] ++ zeros (111 - i)

/-- exactly bits `i < j` of 112 -/
def flip2 (i j : Nat) : List Bool := zeros i ++ pair (j - i) ++ zeros (111 - j)

theorem flip1_spec (i k : Nat) (hi : i < 112) (hk : k < 112) : (flip1 i)[k]? = some (decide (k = i)) := by
  rw [flip1, List.append_assoc, List.singleton_append, getElem?_zeros_true]
  by_cases h1 : k < i
  · rw [if_pos h1, decide_eq_false (by omega)]
  · by_cases h2 : k = i
    · rw [if_neg h1, if_pos h2, decide_eq_true h2]
    · rw [if_neg h1, if_neg h2, decide_eq_false h2, zeros, List.getElem?_replicate, if_pos (by omega)]

theorem flip2_spec (i j k : Nat) (hij : i < j) (hj : j < 112) (hk : k < 112) :
    (flip2 i j)[k]? = some (decide (k = i ∨ k = j)) := by
  have e : flip2 i j = zeros i ++ true :: (zeros (j - i - 1) ++ true :: zeros (111 - j)) := by
    rw [flip2, pair, List.append_assoc, List.cons_append, List.append_assoc, List.singleton_append]
  rw [e, getElem?_zeros_true, getElem?_zeros_true]
  by_cases h1 : k < i
  · rw [if_pos h1, decide_eq_false (by omega)]
  · by_cases h2 : k = i
    · rw [if_neg h1, if_pos h2, decide_eq_true (Or.inl h2)]
    · rw [if_neg h1, if_neg h2]
      by_cases h3 : k < j
      · rw [if_pos (by omega), decide_eq_false (by omega)]
      · by_cases h4 : k = j
        · rw [if_neg (by omega), if_pos (by omega), decide_eq_true (Or.inr h4)]
        · rw [if_neg (by omega), if_neg (by omega), decide_eq_false (by omega), zeros, List.getElem?_replicate,
            if_pos (by omega)]

/-- `polyMod` (24-bit register, generator without its leading term) *is* schoolbook long
    division of the bit string by the full 25-bit generator 0x1FFF409 on plain numbers
    (`polyModNat`: bring down a bit; if the degree-24 coefficient is set, XOR the generator). -/
theorem spec_is_long_division (bs : List Bool) : polyModNat bs = (polyMod bs).toNat :=
  polyModNat_eq bs

/-- … so, in the terms of the standard: the checksum of every frame is its remainder -/
theorem checksum_eq_long_division (frame : List Nat) (hn : 3 ≤ frame.length) (hb : Bytes frame) :
    modesChecksum frame (8 * frame.length) = .ok (polyModNat (bits frame)) := by
  rw [spec_is_long_division]; exact modesChecksum_eq frame hn hb

/-- All 256 rows of `CRC_TABLE` are the parities `(i·x^24) mod G` of the single bytes.
    (`Gen.Crc.crcTable` is regenerated from crc.rs on every run: editing one entry there makes
    this theorem fail.) -/
theorem table_ok : Gen.Crc.crcTable = crcTableList := Proofs.Crc.table_ok

/-- For every byte string of length n ≥ 3: `modes_checksum(frame, 8 n)` returns `Ok` of the
    remainder of the frame's bits modulo the generator.  In particular it never panics (the
    table index is always < 256) and never errs. -/
theorem checksum_eq_polyMod (frame : List Nat) (hn : 3 ≤ frame.length) (hb : Bytes frame) :
    modesChecksum frame (8 * frame.length) = .ok (polyMod (bits frame)).toNat :=
  modesChecksum_eq frame hn hb

/-- the two lengths the decoder uses -/
theorem checksum_short (frame : List Nat) (hn : frame.length = 7) (hb : Bytes frame) :
    modesChecksum frame 56 = .ok (polyMod (bits frame)).toNat := by
  have := checksum_eq_polyMod frame (by omega) hb
  rwa [hn] at this

theorem checksum_long (frame : List Nat) (hn : frame.length = 14) (hb : Bytes frame) :
    modesChecksum frame 112 = .ok (polyMod (bits frame)).toNat := by
  have := checksum_eq_polyMod frame (by omega) hb
  rwa [hn] at this

theorem checksum_lt (frame : List Nat) : (polyMod (bits frame)).toNat < 2 ^ 24 :=
  (polyMod (bits frame)).isLt

/-- Complete description of `Message::try_from` on a 14-byte frame announcing DF 17: the
    CRC assertion error unless the remainder is zero; with remainder zero, exactly the outcome
    of the `DF` parser (context 0) — the checksum gate is passed. -/
theorem df17_gate (frame : List Nat) (hl : frame.length = 14) (hb : Bytes frame)
    (hdf : dfField frame = 17) :
    tryFrom frame = if polyMod (bits frame) = 0#24 then wrap (parseDF 0 frame) else .err .assertion :=
  tryFrom_df17 frame hl hb hdf

/-- **The gate in the source text is the gate of the model.**  `Gen.CrcGate` is re-extracted from
    `Message::from_reader_with_ctx` on every run (which DF is gated, the comparison and its
    literal, the context handed to the `DF` parser and stored by `IcaoParity`); with *those*
    definitions the model's `decodeBuf` is: reject with the assertion error iff DF = `GATE_DF` and
    `gateRejects crc`, else parse with the checksum as context.  Editing the guard in mod.rs
    (`c > 1`, another DF, an extra conjunct) breaks this theorem or the extractor. -/
theorem gate_source_ok (b0 : Nat) (buf : List Nat) (crc : Nat)
    (h : modesChecksum buf (frameBits b0) = .ok crc) :
    decodeBuf b0 buf =
      if (b0 >>> 3 == Gen.CrcGate.GATE_DF) && Gen.CrcGate.gateRejects crc then .err .assertion
      else parseDF (Gen.CrcGate.icaoOfCtx crc) buf :=
  decodeBuf_of_checksum b0 buf crc h

/-- all six address/parity variants (DF 0, 4, 5, 16, 20, 21) receive the checksum unchanged -/
theorem ap_fields_ok : Gen.CrcGate.AP_FIELDS = 6 := by decide

/-- Only DF 17 is gated: for every other format the remainder never rejects the frame, it is
    handed to the `DF` parser as context. -/
theorem other_df_not_gated (b0 : Nat) (buf : List Nat) (hlen : 8 * buf.length = frameBits b0)
    (hb : Bytes buf) (hdf : b0 >>> 3 ≠ 17) :
    decodeBuf b0 buf = parseDF (polyMod (bits buf)).toNat buf := by
  rw [decodeBuf_exact b0 buf hlen hb, if_neg (fun h => hdf h.1)]

/-- **Accepted as DF17 ⇔ remainder zero** (and the payload parses), for every byte string of
    any length.  The second conjunct cannot be dropped: a frame with a zero remainder whose ME
    field the parser refuses (e.g. BDS 0,9 subtype 0) is rejected *after* the gate; `df17_gate`
    states precisely that the gate itself is passed iff the remainder is zero. -/
theorem df17_accept_iff (frame : List Nat) (hb : Bytes frame) :
    AcceptedDF17 frame ↔
      frame.length = 14 ∧ dfField frame = 17 ∧ polyMod (bits frame) = 0#24 ∧
        ∃ v, parseDF 0 frame = .ok v := by
  constructor
  · rintro ⟨hdf, d, hd⟩
    have hl : frame.length = 14 := by
      match frame, hd, hdf with
      | [], hd, _ => simp [tryFrom] at hd
      | b0 :: rest, hd, hdf =>
        have := tryFrom_ok_length b0 rest d hd
        simp only [dfField, List.headD_cons] at hdf
        rw [frameBits_long b0 (by rw [hdf]; decide)] at this
        omega
    rw [df17_gate frame hl hb hdf] at hd
    by_cases hz : polyMod (bits frame) = 0#24
    · rw [if_pos hz] at hd
      refine ⟨hl, hdf, hz, ?_⟩
      cases hp : parseDF 0 frame with
      | ok v => exact ⟨v, rfl⟩
      | err e => rw [hp] at hd; cases hd
      | panic x => rw [hp] at hd; cases hd
    · rw [if_neg hz] at hd; cases hd
  · rintro ⟨hl, hdf, hz, v, hv⟩
    refine ⟨hdf, toDecoded v, ?_⟩
    rw [df17_gate frame hl hb hdf, if_pos hz, hv]
    rfl

/-- necessity alone, without side conditions on the parser -/
theorem df17_accepted_crc_zero (frame : List Nat) (hb : Bytes frame) (h : AcceptedDF17 frame) :
    polyMod (bits frame) = 0#24 :=
  ((df17_accept_iff frame hb).1 h).2.2.1

/-- the generator has constant term 1: multiplying a non-zero remainder by `x` modulo `G`
    never gives zero -/
theorem step0_ne_zero (r : BitVec 24) (h : r ≠ 0#24) : step0 r ≠ 0#24 :=
  Proofs.Crc.step0_ne_zero r h

theorem syndrome_linear (xs ys : List Bool) (h : xs.length = ys.length) :
    polyMod (xorBits xs ys) = polyMod xs ^^^ polyMod ys :=
  polyMod_xor xs ys h

theorem corrupt_length (F : List Nat) (e : List Bool) (hF : F.length = 14) (he : e.length = 112) :
    (corrupt F e).length = 14 := by
  rw [corrupt, pack_length, xorBits_length _ _ (by rw [bits_length, hF, he]), bits_length, hF]

theorem corrupt_bytes (F : List Nat) (e : List Bool) : Bytes (corrupt F e) := pack_bytes _

/-- **the syndrome of a corrupted valid frame is the syndrome of the error pattern** -/
theorem syndrome_of_corrupted (F : List Nat) (e : List Bool) (hF : ValidDF17 F) (he : e.length = 112) :
    polyMod (bits (corrupt F e)) = polyMod e := by
  have hlen : (bits F).length = e.length := by rw [bits_length, hF.len, he]
  rw [corrupt, bits_pack _ (by rw [xorBits_length _ _ hlen, bits_length, hF.len]),
    polyMod_xor _ _ hlen, hF.crc]
  simp

/-- what a non-zero syndrome means for the receiver: the corrupted frame either no longer
    announces DF 17 (the error hit the DF field) or is rejected with the CRC assertion -/
theorem detected_of_syndrome (F : List Nat) (e : List Bool) (hF : ValidDF17 F) (he : e.length = 112)
    (hs : polyMod e ≠ 0#24) :
    dfField (corrupt F e) ≠ 17 ∨ tryFrom (corrupt F e) = .err .assertion := by
  by_cases hdf : dfField (corrupt F e) = 17
  · right
    rw [df17_gate _ (corrupt_length F e hF.len he) (corrupt_bytes F e) hdf,
      syndrome_of_corrupted F e hF he, if_neg hs]
  · left; exact hdf

theorem not_accepted_of_syndrome (F : List Nat) (e : List Bool) (hF : ValidDF17 F) (he : e.length = 112)
    (hs : polyMod e ≠ 0#24) : ¬ AcceptedDF17 (corrupt F e) := by
  rintro ⟨hdf, d, hd⟩
  rcases detected_of_syndrome F e hF he hs with h | h
  · exact h hdf
  · rw [h] at hd; cases hd

/-- **Bursts.**  For every valid DF17 frame and every non-zero error pattern confined to a
    window `p` of at most 24 consecutive bit positions, anywhere in the 112 bits (`a` bits before,
    `c` after): the received frame is not accepted as DF17.  If the burst leaves the DF field
    reading 17 the frame is rejected with the CRC assertion; if it changes the DF field the frame
    is by definition no longer a DF17 frame (whatever else it may decode to). -/
theorem burst_detected (F : List Nat) (hF : ValidDF17 F) (a c : Nat) (p : List Bool)
    (hlen : (zeros a ++ p ++ zeros c).length = 112) (hp : p.length ≤ 24) (hne : true ∈ p) :
    (dfField (corrupt F (zeros a ++ p ++ zeros c)) ≠ 17 ∨
        tryFrom (corrupt F (zeros a ++ p ++ zeros c)) = .err .assertion) ∧
      ¬ AcceptedDF17 (corrupt F (zeros a ++ p ++ zeros c)) :=
  have hs := burst_syndrome_ne_zero a c p hp hne
  ⟨detected_of_syndrome F _ hF hlen hs, not_accepted_of_syndrome F _ hF hlen hs⟩

/-- the same, with the window described position by position: every flipped bit lies in
    `[s, s + 24)` and at least one bit is flipped -/
theorem burst_detected_window (F : List Nat) (hF : ValidDF17 F) (e : List Bool) (he : e.length = 112)
    (s : Nat) (hwin : ∀ i (h : i < e.length), e[i] = true → s ≤ i ∧ i < s + 24) (hne : true ∈ e) :
    ¬ AcceptedDF17 (corrupt F e) := by
  obtain ⟨a, p, c, rfl, hp⟩ := window_split e s 24 hwin
  have hmem : true ∈ p := by
    rcases List.mem_append.1 hne with h | h
    · rcases List.mem_append.1 h with h | h
      · exact absurd h (true_not_mem_zeros a)
      · exact h
    · exact absurd h (true_not_mem_zeros c)
  exact (burst_detected F hF a c p he hp hmem).2

/-- **Single-bit errors**: flipping any one of the 112 bits. -/
theorem single_bit (F : List Nat) (hF : ValidDF17 F) (i : Nat) (hi : i < 112) :
    ¬ AcceptedDF17 (corrupt F (flip1 i)) :=
  (burst_detected F hF i (111 - i) [true] (by simp [zeros]; omega) (by simp) (by simp)).2

/-- `x^d + 1` is not a multiple of the generator for d = 1 … 111 (the powers of `x` modulo the
    generator do not return to 1: 111 register steps in the kernel) -/
theorem pair_ne_zero (d : Nat) (h1 : 1 ≤ d) (h2 : d ≤ 111) : polyMod (pair d) ≠ 0#24 :=
  Proofs.Crc.pair_ne_zero d h1 h2

/-- **Double-bit errors**: flipping any two distinct bits `i < j` of the 112. -/
theorem double_bit (F : List Nat) (hF : ValidDF17 F) (i j : Nat) (hij : i < j) (hj : j < 112) :
    ¬ AcceptedDF17 (corrupt F (flip2 i j)) :=
  not_accepted_of_syndrome F _ hF (double_length i j hij hj)
    (double_syndrome_ne_zero i (j - i) (111 - j) (by omega) (by omega))

/-- … and in both cases the receiver's view: DF field changed, or CRC assertion -/
theorem double_bit_outcome (F : List Nat) (hF : ValidDF17 F) (i j : Nat) (hij : i < j) (hj : j < 112) :
    dfField (corrupt F (flip2 i j)) ≠ 17 ∨ tryFrom (corrupt F (flip2 i j)) = .err .assertion :=
  detected_of_syndrome F _ hF (double_length i j hij hj)
    (double_syndrome_ne_zero i (j - i) (111 - j) (by omega) (by omega))

/-- the remainder of `data ++ (parity(data) ⊕ a)` is `a`: every data, every 24-bit address -/
theorem ap_syndrome (data : List Nat) (a : Nat) (ha : a < 2 ^ 24) :
    (polyMod (bits (encodeAP data a))).toNat = a :=
  syndrome_encodeAP data a ha

/-- the two shapes of an address/parity frame: 4 data bytes for DF 0, 4, 5; 11 for DF 16, 20, 21 -/
def APShape (data : List Nat) : Prop :=
  (data.length = 4 ∧ (dfField data = 0 ∨ dfField data = 4 ∨ dfField data = 5)) ∨
  (data.length = 11 ∧ (dfField data = 16 ∨ dfField data = 20 ∨ dfField data = 21))

/-- **AP recovery.**  For DF ∈ {0, 4, 5, 16, 20, 21}, every payload `data` (the frame without its
    last three bytes) and every 24-bit address `a`: on the transmitted frame
    `data ++ (parity(data) ⊕ a)`
    * `modes_checksum` returns `a`;
    * whenever `Message::try_from` accepts the frame, the serialised message is an object whose
      last entry is `"icao24": hex6(a)` (the `IcaoParity` field, fed from the remainder). -/
theorem ap_recover (data : List Nat) (a : Nat) (hd : Bytes data) (ha : a < 2 ^ 24) (hs : APShape data) :
    modesChecksum (encodeAP data a) (8 * (encodeAP data a).length) = .ok a ∧
    ∀ j, tryFrom (encodeAP data a) = .ok (.json j) →
      ∃ kvs, j = .obj kvs ∧ kvs.getLast? = some (key! "icao24", jhex6 a) := by
  have hbytes := encodeAP_bytes data a hd
  have hlen := encodeAP_length data a
  have hsyn := syndrome_encodeAP data a ha
  refine ⟨?_, ?_⟩
  · rw [checksum_eq_polyMod _ (by omega) hbytes]
    exact congrArg _ hsyn
  · intro j hj
    match hdat : data, hs with
    | [], hs => rcases hs with ⟨h, _⟩ | ⟨h, _⟩ <;> simp at h
    | b0 :: rest, hs =>
      simp only [APShape, dfField, List.headD_cons] at hs
      have hdfs : b0 >>> 3 = 0 ∨ b0 >>> 3 = 4 ∨ b0 >>> 3 = 5 ∨ b0 >>> 3 = 16 ∨ b0 >>> 3 = 20 ∨ b0 >>> 3 = 21 := by
        rcases hs with ⟨_, h | h | h⟩ | ⟨_, h | h | h⟩ <;> simp [h]
      have hfb : 8 * (encodeAP (b0 :: rest) a).length = frameBits b0 := by
        rw [hlen]
        rcases hs with ⟨hl, h | h | h⟩ | ⟨hl, h | h | h⟩
        all_goals first
          | (rw [frameBits_short b0 (by rw [h]; decide), hl])
          | (rw [frameBits_long b0 (by rw [h]; decide), hl])
      have hfr : encodeAP (b0 :: rest) a = b0 :: (rest ++ apField (b0 :: rest) a) := rfl
      rw [hfr] at hj hfb hbytes hsyn
      rw [← hsyn]
      exact tryFrom_last_icao b0 _ hfb hbytes hdfs j hj

/-! ## Satisfiability of the hypotheses (frames from the repository's own tests) -/

/-- crc.rs `test_crc`, first frame: a valid DF17 transmission … -/
example : ValidDF17 [0x8d,0x40,0x6b,0x90,0x20,0x15,0xa6,0x78,0xd4,0xd2,0x20,0xaa,0x4b,0xda] :=
  ⟨by decide, by decide, by decide, by decide +kernel⟩

/-- … which is accepted as DF17 … -/
example : AcceptedDF17 [0x8d,0x40,0x6b,0x90,0x20,0x15,0xa6,0x78,0xd4,0xd2,0x20,0xaa,0x4b,0xda] := by
  refine ⟨by decide, ?_⟩
  have h : (tryFrom [0x8d,0x40,0x6b,0x90,0x20,0x15,0xa6,0x78,0xd4,0xd2,0x20,0xaa,0x4b,0xda]).isOk = true := by
    decide +kernel
  revert h
  cases tryFrom [0x8d,0x40,0x6b,0x90,0x20,0x15,0xa6,0x78,0xd4,0xd2,0x20,0xaa,0x4b,0xda] with
  | ok d => intro _; exact ⟨d, rfl⟩
  | err e => intro h; cases h
  | panic x => intro h; cases h

/-- … while `test_invalid_crc`-style corruption of its last bit is not (instance of `single_bit`) -/
example : corrupt [0x8d,0x40,0x6b,0x90,0x20,0x15,0xa6,0x78,0xd4,0xd2,0x20,0xaa,0x4b,0xda] (flip1 111)
    = [0x8d,0x40,0x6b,0x90,0x20,0x15,0xa6,0x78,0xd4,0xd2,0x20,0xaa,0x4b,0xdb] := by decide +kernel

/-- crc.rs `test_crc`: `a0000410bc900010a40000f5f477` (DF20) has remainder 11727682 -/
example : modesChecksum [0xa0,0x00,0x04,0x10,0xbc,0x90,0x00,0x10,0xa4,0x00,0x00,0xf5,0xf4,0x77] 112
    = .ok 11727682 := by decide +kernel

/-- that frame *is* `encodeAP` of its first 11 bytes and the address 0xb2f342 = 11727682 -/
example : encodeAP [0xa0,0x00,0x04,0x10,0xbc,0x90,0x00,0x10,0xa4,0x00,0x00] 11727682
    = [0xa0,0x00,0x04,0x10,0xbc,0x90,0x00,0x10,0xa4,0x00,0x00,0xf5,0xf4,0x77] := by decide +kernel

example : APShape [0xa0,0x00,0x04,0x10,0xbc,0x90,0x00,0x10,0xa4,0x00,0x00] := by
  right; exact ⟨by decide, by decide⟩

/-- and the model accepts it (the premise of `ap_recover`'s second clause is satisfiable) -/
example : (tryFrom (encodeAP [0xa0,0x00,0x04,0x10,0xbc,0x90,0x00,0x10,0xa4,0x00,0x00] 11727682)).isOk = true := by
  decide +kernel

/-- a short one: DF4, altitude code 0x0518… any address -/
example : (tryFrom (encodeAP [0x20,0x00,0x05,0x18] 0xabcdef)).isOk = true := by decide +kernel

/-- **No hidden state besides the reviewed one** in the files this property is anchored in.  The theorems of this file are about the FUNCTION `modes_checksum` and the gate of `Message::try_from`; the only site is the serialisation switch `CONFIG` of mod.rs (read by `Serialize for TimedMessage`, never by the checksum or the decoder).
    The translator lists on every run every construct through which a Rust function can carry state from one
    call to the next without it showing in its signature (`static`, `thread_local!`, `lazy_static!`,
    `OnceCell`/`OnceLock`/`Lazy`, `Cell`/`RefCell`/`UnsafeCell`, `Mutex`/`RwLock`, atomics, `unsafe`; whole
    files, gen/extractors/hidden_state.py); a memo, cache or counter added there breaks this obligation by
    name, whatever inputs the harness happens to generate. -/
theorem hidden_state_reviewed :
    Gen.HiddenState.sitesIn ["decode/crc.rs", "decode/mod.rs"] =
      [("decode/mod.rs", "static CONFIG:OnceCell<SerializeConfig>=OnceCell::new();")] := by decide +kernel

end Rs1090.Props.C02
