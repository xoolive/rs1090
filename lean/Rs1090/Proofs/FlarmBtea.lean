/-
C15 helper lemmas: the XXTEA decryption of the model inverts the reference encryption of the Spec.

The encryption rounds preserve the length of the block and hand on its last word as `z`
(`encRound_length`, `encRound_snd`), so the induction over the rounds needs the five words by name
only in `round_encRound`, where one decryption round is computed on one encryption round.
-/
import Rs1090.Model.Flarm
import Rs1090.Spec.Flarm
namespace Rs1090.Proofs.Flarm
open Rs1090 Rs1090.Model.Flarm Rs1090.Gen.Flarm

theorem idx_eq_getD {α} (xs : List α) (i : Nat) (d : α) (h : i < xs.length) :
    idx xs i = .ok (xs.getD i d) := by
  unfold idx
  rw [List.getD_eq_getElem?_getD, List.getElem?_eq_getElem h]
  rfl

theorem idx_cons_zero {α} (x : α) (xs : List α) : idx (x :: xs) 0 = .ok x := rfl
theorem idx_cons_succ {α} (x : α) (xs : List α) (n : Nat) : idx (x :: xs) (n + 1) = idx xs n := rfl

theorem keyIdx_lt (p : Nat) (s : BitVec 32) :
    keyIdx p ((s >>> E_SHR) &&& BitVec.ofNat 32 E_MASK) < 4 := by
  unfold keyIdx MX_P_MASK E_MASK
  have h1 : p &&& 3 < 2 ^ 2 := Nat.lt_succ_of_le Nat.and_le_right
  have h2 : ((s >>> E_SHR) &&& BitVec.ofNat 32 3).toNat < 2 ^ 2 := by
    rw [BitVec.toNat_and]
    exact Nat.lt_succ_of_le Nat.and_le_right
  exact Nat.xor_lt_two_pow h1 h2

theorem mx_ok (key : List (BitVec 32)) (hk : key.length = 4) (sum y z : BitVec 32) (p : Nat) :
    mx sum y z p ((sum >>> E_SHR) &&& BitVec.ofNat 32 E_MASK) key
      = .ok (mxVal sum y z (key.getD (keyIdx p ((sum >>> E_SHR) &&& BitVec.ofNat 32 E_MASK)) 0)) := by
  unfold mx
  rw [idx_eq_getD key _ 0 (by rw [hk]; exact keyIdx_lt p sum), Outcome.bind_ok]

theorem mxVal_eq_MX (key : List (BitVec 32)) (sum y z : BitVec 32) (p : Nat) :
    mxVal sum y z (key.getD (keyIdx p ((sum >>> E_SHR) &&& BitVec.ofNat 32 E_MASK)) 0)
      = Spec.Flarm.MX sum y z p ((sum >>> 2) &&& 3#32).toNat key := by
  rfl

/-- the values of `sum` used by `r` encryption rounds starting after `s` -/
def encSums : Nat → BitVec 32 → List (BitVec 32)
  | 0, _ => []
  | r + 1, s => (s + Spec.Flarm.delta) :: encSums r (s + Spec.Flarm.delta)

/-- the loop `while sum != 0` of the model runs over exactly the six encryption sums, reversed -/
theorem sumSeq_eq :
    sumSeq FUEL (BitVec.ofNat 32 ROUNDS * BitVec.ofNat 32 DELTA)
      = some (encSums Spec.Flarm.nRounds 0#32).reverse := by
  decide +kernel

/-- With a four-word key and a non-empty block whose length fits `u32`, `fixk` pads nothing,
    `length - 1` does not underflow, `v[0]` exists and the loop ends. -/
theorem btea_eq (v key : List (BitVec 32)) (hk : key.length = 4) (h0 : 0 < v.length)
    (h32 : v.length < 2 ^ 32) :
    btea v key = rounds key (v.length - 1) (encSums Spec.Flarm.nRounds 0#32).reverse v (v.getD 0 0) := by
  have hfix : fixk key = key := by
    simp only [fixk, hk, Nat.sub_self, List.replicate_zero, List.append_nil]
  simp only [btea, Nat.mod_eq_of_lt h32, subU_ok h0, Outcome.bind_ok, hfix, idx_eq_getD v 0 0 h0,
    sumSeq_eq]

theorem encLoop_length (sum : BitVec 32) (e : Nat) (key : List (BitVec 32)) (cnt : Nat) :
    ∀ p v z, (Spec.Flarm.encLoop sum e key cnt p v z).1.length = v.length := by
  induction cnt with
  | zero => intro p v z; rfl
  | succ cnt ih => intro p v z; rw [Spec.Flarm.encLoop, ih, List.length_set]

theorem encRound_length (key : List (BitVec 32)) (s : BitVec 32) (v : List (BitVec 32)) (z : BitVec 32) :
    (Spec.Flarm.encRound key s v z).1.length = v.length := by
  simp only [Spec.Flarm.encRound, List.length_set, encLoop_length]

theorem encRound_snd (key : List (BitVec 32)) (s : BitVec 32) (v : List (BitVec 32)) (z : BitVec 32)
    (hv : 0 < v.length) :
    (Spec.Flarm.encRound key s v z).2 = (Spec.Flarm.encRound key s v z).1.getD (v.length - 1) 0 := by
  simp only [Spec.Flarm.encRound, List.getD_eq_getElem?_getD]
  rw [List.getElem?_set_self (by rw [encLoop_length]; omega), Option.getD_some]

theorem encRounds_length (key : List (BitVec 32)) (r : Nat) :
    ∀ s v z, (Spec.Flarm.encRounds key r s v z).length = v.length := by
  induction r with
  | zero => intro s v z; rfl
  | succ r ih => intro s v z; rw [Spec.Flarm.encRounds, ih, encRound_length]

theorem bteaEnc_length (v key : List (BitVec 32)) : (Spec.Flarm.bteaEnc v key).length = v.length := by
  unfold Spec.Flarm.bteaEnc
  split
  · rfl
  · exact encRounds_length key _ _ _ _

/-- One decryption round of the model undoes one encryption round of the reference, on a
    5-word block (`z` entering the encryption round is the last word, `y` entering the
    decryption round is the first word): each `v[p] -= mx(..)` meets the `v[p] += MX` with the
    same neighbours. -/
theorem round_encRound (key : List (BitVec 32)) (hk : key.length = 4) (s : BitVec 32)
    (v : List (BitVec 32)) (hv : v.length = 5) :
    round key 4 s (Spec.Flarm.encRound key s v (v.getD 4 0)).1
        ((Spec.Flarm.encRound key s v (v.getD 4 0)).1.getD 0 0)
      = .ok (v, v.getD 0 0) := by
  match v, hv with
  | [a, b, c, d, e], _ =>
    simp only [Spec.Flarm.encRound, Spec.Flarm.encLoop, List.length_cons, List.length_nil,
      List.getD_cons_zero, List.getD_cons_succ, List.set_cons_zero, List.set_cons_succ,
      Nat.reduceAdd, Nat.reduceSub, Nat.zero_add]
    simp only [round, inner, mx_ok key hk, mxVal_eq_MX, idx_cons_zero, idx_cons_succ, Outcome.bind_ok,
      List.set_cons_zero, List.set_cons_succ, BitVec.add_sub_cancel, Nat.reduceAdd]

/-- Decryption rounds over the encryption sums in reverse order undo `r` encryption rounds
    (`ss`: the rounds still to run, so that the induction peels the first encryption round and
    the last decryption round together). -/
theorem rounds_encRounds (key : List (BitVec 32)) (hk : key.length = 4) (r : Nat) :
    ∀ (s : BitVec 32) (v ss : List (BitVec 32)), v.length = 5 →
      rounds key 4 ((encSums r s).reverse ++ ss) (Spec.Flarm.encRounds key r s v (v.getD 4 0))
          ((Spec.Flarm.encRounds key r s v (v.getD 4 0)).getD 0 0)
        = rounds key 4 ss v (v.getD 0 0) := by
  induction r with
  | zero => intro s v ss _; rfl
  | succ r ih =>
    intro s v ss hv
    have hl := encRound_length key (s + Spec.Flarm.delta) v (v.getD 4 0)
    have hz := encRound_snd key (s + Spec.Flarm.delta) v (v.getD 4 0) (by omega)
    rw [hv] at hl hz
    simp only [Spec.Flarm.encRounds, encSums, List.reverse_cons, List.append_assoc, List.singleton_append]
    rw [hz, ih _ _ _ hl, rounds, round_encRound key hk _ v hv, Outcome.bind_ok]

theorem btea_bteaEnc (v key : List (BitVec 32)) (hv : v.length = 5) (hk : key.length = 4) :
    btea (Spec.Flarm.bteaEnc v key) key = .ok v := by
  have henc : Spec.Flarm.bteaEnc v key
      = Spec.Flarm.encRounds key Spec.Flarm.nRounds 0#32 v (v.getD 4 0) := by
    unfold Spec.Flarm.bteaEnc
    rw [if_neg (by omega), hv]
  have hl : (Spec.Flarm.bteaEnc v key).length = 5 := (bteaEnc_length v key).trans hv
  have h := rounds_encRounds key hk Spec.Flarm.nRounds 0#32 v [] hv
  rw [List.append_nil, ← henc] at h
  rw [btea_eq _ key hk (by omega) (by omega), hl]
  exact h

end Rs1090.Proofs.Flarm
