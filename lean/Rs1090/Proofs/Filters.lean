/-
Helper lemmas for C11 (and the table key of C12): the `df` and `icao24` members of an accepted message are
those the header view of the frame (`viewOf`) displays — a projection of the frame decoder's post-condition
(`Proofs/Decode/Message.lean`), *whatever the payload readers do* — lookup in a JSON object (`objGet`), and the
header views of three test frames.
-/
import Rs1090.Proofs.Decode.AllGood
namespace Rs1090.Proofs.Filters
open Rs1090 Rs1090.Model Rs1090.Model.Filters Rs1090.Model.Message

theorem mem_toObj {fs : Fields} {k : Key} {j : Json} (h : (k, some j) ∈ fs) : (k, j) ∈ fs.toObj := by
  unfold Fields.toObj
  rw [List.mem_filterMap]
  exact ⟨(k, some j), h, rfl⟩

theorem head_toObj {fs : Fields} {k : Key} {j : Json} (h : fs.head? = some (k, some j)) :
    fs.toObj.head? = some (k, j) := by
  cases fs with
  | nil => cases h
  | cons x rest =>
    simp only [List.head?_cons, Option.some.injEq] at h
    subst h
    simp [Fields.toObj]

/-- `Message.Shows` of the printed object: the `df` tag first, the address (if the view displays one) a member -/
def ShowsObj (kvs : List (Key × Json)) (v : MsgView) : Prop :=
  (∃ k, kvs.head? = some (key! "df", Json.lit k) ∧ k.name = (display v).1) ∧
  ∀ a, (display v).2 = some a → (key! "icao24", jhex6 a) ∈ kvs

theorem showsObj_of_shows {fs : Fields} {v : MsgView} (h : Shows fs v) : ShowsObj fs.toObj v := by
  obtain ⟨⟨k, hk, hn⟩, ha⟩ := h
  exact ⟨⟨k, head_toObj hk, hn⟩, fun a hda => mem_toObj (ha.mem hda)⟩

theorem viewOf_eq_some {bs : List Nat} {v : MsgView} :
    viewOf bs = some v ↔ ∃ b0 rest crc, bs = b0 :: rest ∧ bs.length = frameBits b0 / 8 ∧
      modesChecksum bs (frameBits b0) = .ok crc ∧ ((b0 >>> 3) == 17 && crc > 0) = false ∧ hdrView crc bs = some v := by
  cases bs with
  | nil => exact ⟨fun h => (by cases h), fun ⟨_, _, _, h, _⟩ => (by cases h)⟩
  | cons b0 rest =>
    simp only [viewOf]
    constructor
    · intro h
      split at h
      · cases h
      · rename_i hl
        split at h
        · rename_i crc hcrc
          split at h
          · cases h
          · rename_i hg
            exact ⟨b0, rest, crc, rfl, by simpa using hl, hcrc, by simpa using hg, h⟩
        · cases h
    · rintro ⟨_, _, crc, e, hl, hcrc, hg, hv⟩
      cases e
      rw [if_neg (by simp [hl]), hcrc]
      simp only []
      rw [hg]
      exact hv

theorem tryFrom_view (bs : List Nat) (d : Decoded) (h : tryFrom bs = .ok d) :
    ∃ v, viewOf bs = some v ∧ ∀ kvs, d = .json (.obj kvs) → ShowsObj kvs v := by
  obtain ⟨b0, rest, r, rfl, hl, hr, rfl⟩ := tryFrom_ok_iff.mp h
  obtain ⟨crc, hcrc, hg, _, v, hv, hs⟩ := decodeBuf_spec hr
  refine ⟨v, viewOf_eq_some.mpr ⟨b0, rest, crc, rfl, hl, hcrc, hg, hv⟩, fun kvs hd => ?_⟩
  cases r with
  | error e => cases hd
  | ok fs =>
    cases hd
    exact showsObj_of_shows (hs fs rfl)


/-- the member a JSON reader finds under key `k` (first match; keys compare by interned id) -/
def objGet (kvs : List (Key × Json)) (k : Key) : Option Json :=
  (kvs.find? fun kv => kv.1 == k).map (·.2)

theorem objGet_of_mem {kvs : List (Key × Json)} {k : Key} {j : Json}
    (hnd : (kvs.map (·.1.id)).Nodup) (hm : (k, j) ∈ kvs) : objGet kvs k = some j := by
  induction kvs with
  | nil => cases hm
  | cons x xs ih =>
    simp only [List.map_cons, List.nodup_cons] at hnd
    unfold objGet
    rw [List.find?_cons]
    by_cases hx : (x.1 == k) = true
    · rw [hx]
      rcases List.mem_cons.mp hm with h | h
      · subst h; rfl
      · exfalso
        apply hnd.1
        have hid : x.1.id = k.id := by
          have : (x.1.id == k.id) = true := hx
          simpa using this
        rw [hid]
        exact List.mem_map.mpr ⟨(k, j), h, rfl⟩
    · have hx' : (x.1 == k) = false := by simpa using hx
      rw [hx']
      rcases List.mem_cons.mp hm with h | h
      · subst h
        exfalso; apply hx
        show (k.id == k.id) = true
        simp
      · exact ih hnd.2 h

theorem objGet_none {kvs : List (Key × Json)} {k : Key} (h : k.id ∉ kvs.map (·.1.id)) : objGet kvs k = none := by
  unfold objGet
  rw [List.find?_eq_none.mpr, Option.map_none]
  intro kv hkv he
  have hid : kv.1.id = k.id := by simpa [BEq.beq] using he
  exact h (hid ▸ List.mem_map_of_mem hkv)

theorem objGet_head {kvs : List (Key × Json)} {k : Key} {j : Json}
    (h : kvs.head? = some (k, j)) : objGet kvs k = some j := by
  cases kvs with
  | nil => cases h
  | cons x xs =>
    simp only [List.head?_cons, Option.some.injEq] at h
    subst h
    unfold objGet
    rw [List.find?_cons]
    have : ((k, j).1 == k) = true := by show (k.id == k.id) = true; simp
    rw [this]; rfl

theorem hdrView_addressCarrying {crc : Nat} {bs : List Nat} {v : MsgView} (h : hdrView crc bs = some v) :
    addressCarrying v = [0, 4, 5, 11, 16, 17, 18, 20, 21].contains (bitsBE bs 0 5) := by
  unfold hdrView at h
  simp only at h
  split at h
  case h_11 =>
    split at h
    · rename_i hcond
      cases h
      simp only [Bool.and_eq_true, decide_eq_true_eq] at hcond
      have : ∀ x, 24 ≤ x → [0, 4, 5, 11, 16, 17, 18, 20, 21].contains x = false := by
        intro x hx; simp; omega
      rw [this _ hcond.1]; rfl
    · cases h
  all_goals
    rename_i hid
    cases h
    rw [hid]; rfl

theorem hdrView_display_lt {crc : Nat} {bs : List Nat} {v : MsgView} {a : Nat} (hc : crc < 2 ^ 24)
    (h : hdrView crc bs = some v) (ha : (display v).2 = some a) : a < 2 ^ 24 := by
  unfold hdrView at h
  simp only at h
  split at h
  case h_11 =>
    split at h
    · cases h; cases ha
    · cases h
  all_goals
    cases h
    first
      | (cases ha; done)
      | (cases ha; exact hc)
      | (cases ha; exact bitsBE_lt _ _ _)

theorem viewOf_display_lt {bs : List Nat} {v : MsgView} {a : Nat} (hb : ∀ b ∈ bs, b < 256)
    (h : viewOf bs = some v) (ha : (display v).2 = some a) : a < 2 ^ 24 := by
  obtain ⟨b0, rest, crc, rfl, _, hcrc, _, hv⟩ := viewOf_eq_some.mp h
  exact hdrView_display_lt (Proofs.Crc.modesChecksum_lt _ _ _ hb hcrc) hv ha

theorem viewOf_addressCarrying {bs : List Nat} {v : MsgView} (h : viewOf bs = some v) :
    addressCarrying v = [0, 4, 5, 11, 16, 17, 18, 20, 21].contains (bitsBE bs 0 5) := by
  obtain ⟨b0, rest, crc, rfl, _, _, _, hv⟩ := viewOf_eq_some.mp h
  exact hdrView_addressCarrying hv

/-- an accepted frame of another format (DF19, DF24‥31) has no `icao24` member -/
theorem tryFrom_noaddr (bs : List Nat) (kvs : List (Key × Json)) (h : tryFrom bs = .ok (.json (.obj kvs)))
    (hdf : [0, 4, 5, 11, 16, 17, 18, 20, 21].contains (bitsBE bs 0 5) = false) :
    objGet kvs (key! "icao24") = none := by
  obtain ⟨b0, rest, r, rfl, _, hr, hd⟩ := tryFrom_ok_iff.mp h
  obtain ⟨crc, _, _, _, v, hv, hs⟩ := decodeBuf_spec hr
  cases r with
  | error e => cases hd
  | ok fs =>
    cases hd
    have hn := (hs fs rfl).2.noaddr (by rw [hdrView_addressCarrying hv]; exact hdf)
    exact objGet_none fun hm => hn ((keyIds_toObj_sublist fs).subset hm)

/-! the two frames of `test_filter` (`filters.rs`) and a DF18 frame -/

theorem viewOf_test17 :
    viewOf [0x8c, 0x48, 0x41, 0x75, 0x3a, 0x9a, 0x15, 0x32, 0x37, 0xae, 0xf0, 0xf2, 0x75, 0xbe] = some (.adsb 0x484175) := by
  decide +kernel

/-- DF0: the address is the checksum remainder -/
theorem viewOf_test0 : viewOf [0x02, 0xc1, 0x8c, 0x3b, 0x32, 0x3e, 0x4f] = some (.shortAirAir 0x471f65) := by
  decide +kernel

/-- DF18, AA = aabbcc, PI = f3d9e5 -/
theorem viewOf_test18 :
    viewOf [0x92, 0xaa, 0xbb, 0xcc, 0x20, 0x15, 0xa6, 0x78, 0xd4, 0xd2, 0x20, 0xf3, 0xd9, 0xe5] = some (.tisb 0xaabbcc) := by
  decide +kernel

end Rs1090.Proofs.Filters
