import Rs1090.Proofs.CprStateSound
import Rs1090.Proofs.CprMetres
import Mathlib.Tactic.FieldSimp
import Mathlib.Tactic.Ring
import Mathlib.Tactic.Positivity
/-!
Degrees and metres around the boxes of `Proofs/CprStateSound.lean`: from bounds in degrees on two TRUE
positions to the safe boxes.  A point within a quantisation step of a true position that is within 2.99° / 0.74°
of latitude and 0.49 (quarter-)zone of longitude of the true position of a report lies in the near box of that
report (`nearBox_of_deg`, instantiated in `Props.C06.near_of_deg`; the margins 0.01°, 0.01 zone absorb the
quantisation of both reports, `lattice_close`: ≤ 360/59/2^18 ° of latitude, ≤ 360/2^18 ° of longitude each).

And the metre clause of C06: a lattice point of a report (`IsLattice`, longitude on ANY turn) is within
9.629 m (airborne) / 2.408 m (surface) great-circle distance of the true position, on the sphere of radius
6 399 594 m (largest radius of curvature of WGS-84).  Nothing new is computed for it:
`Proofs.Metres.air_dist_10m` / `surf_dist_10m` (C04/C05) already allow the recovered longitude to sit on any
turn `k` (the chord depends on the longitude difference through `sin²(Δλ/2)` only).
-/
namespace Rs1090.Proofs.CprState
open Rs1090 Rs1090.Model.Cpr Rs1090.Model.CprState Rs1090.Spec.Cpr Rs1090.Proofs.Cpr

theorem nearBox_of_isLattice {nb i : ℕ} {z lat lon : ℚ} {nb' i' : ℕ} {lat' lon' : ℚ} {lp : Pos}
    (h : NearBox nb i z lat lon ⟨rlat nb' i' lat', rlon nb' i' (rlat nb' i' lat') lon'⟩)
    (hl : IsLattice nb' i' lat' lon' lp) : NearBox nb i z lat lon lp := by
  obtain ⟨h1, k, h2⟩ := h
  obtain ⟨e1, k', e2⟩ := hl
  refine ⟨by rw [e1]; exact h1, k + k', ?_⟩
  rw [e2]
  push_cast
  have e : rlon nb i (rlat nb i lat) lon + 360 * ((k : ℚ) + k')
      - (rlon nb' i' (rlat nb' i' lat') lon' + 360 * k')
      = rlon nb i (rlat nb i lat) lon + 360 * k - rlon nb' i' (rlat nb' i' lat') lon' := by ring
  rw [e]
  exact h2

theorem lattice_close (s i : ℕ) (hi : i ≤ 1) (lat lon : ℚ) :
    |rlat (17 + s) i lat - lat| ≤ 1 / 40000 ∧
      |rlon (17 + s) i (rlat (17 + s) i lat) lon - lon| ≤ 1 / 700 := by
  have hb := (dlat_bounds i hi).2
  have hl := dlon_le i (rlat (17 + s) i lat)
  exact ⟨(recv_err_le s _ lat (dlat_pos i hi)).trans (by linarith),
    (recv_err_le s _ lon (dlon_pos i _)).trans (by linarith)⟩

/-- `q` is within `εa`, `εo` degrees of `(lat', lon')`, which is within `D` degrees of latitude and the
    fraction `c` of a zone of longitude of the true position `(lat, lon)`.  `hD`, `hE` say that the margins
    left by `D` and `c` absorb `εa`, `εo` and the quantisation `d / 2^18` of the report itself, whatever the
    size `d` of the zone (`6 ≤ Dlat ≤ 360/59 ≤ Dlon`); they are linear arithmetic once the parameters are
    numbers.  The proof is the triangle inequality lattice point – true position – `(lat', lon')` – `q`. -/
theorem nearBox_of_deg (s i : ℕ) (hi : i ≤ 1) (z D lat lon : ℚ) (q : Pos)
    (lat' lon' : ℚ) (k : ℤ) {εa εo c : ℚ}
    (hD : ∀ d : ℚ, 6 ≤ d → d ≤ 360 / 59 → d / 262144 + D + εa < d / z / 2)
    (hE : ∀ d : ℚ, 360 / 59 ≤ d → d / 262144 + c * (d / z) + εo < d / z / 2)
    (hq1 : |q.lat - lat'| ≤ εa) (hq2 : |q.lon - lon'| ≤ εo) (hlat : |lat' - lat| ≤ D)
    (hlon : |lon' + 360 * k - lon| ≤ c * (dlon i (rlat (17 + s) i lat) / z)) :
    NearBox (17 + s) i z lat lon q := by
  have a1 : |rlat (17 + s) i lat - lat| ≤ _ := recv_err_le s _ lat (dlat_pos i hi)
  have b1 : |rlon (17 + s) i (rlat (17 + s) i lat) lon - lon| ≤ _ := recv_err_le s _ lon (dlon_pos i _)
  have a4 := hD _ (dlat_bounds i hi).1 (dlat_bounds i hi).2
  have b4 := hE _ (dlon_ge i (rlat (17 + s) i lat))
  rw [abs_le] at a1 b1 hq1 hq2 hlat hlon
  unfold NearBox
  generalize rlon (17 + s) i (rlat (17 + s) i lat) lon = ro at b1 ⊢
  generalize dlon i (rlat (17 + s) i lat) = dn at b1 b4 hlon ⊢
  generalize rlat (17 + s) i lat = rl at a1 ⊢
  generalize dlat i = dl at a1 a4 ⊢
  refine ⟨abs_lt.2 ⟨by linarith only [a1.1, hq1.2, hlat.2, a4], by linarith only [a1.2, hq1.1, hlat.1, a4]⟩,
    -k, ?_⟩
  push_cast
  exact abs_lt.2 ⟨by linarith only [b1.1, hq2.2, hlon.2, b4], by linarith only [b1.2, hq2.1, hlon.1, b4]⟩

theorem pairBox_of_deg (i i' : ℕ) (hi' : i' = 1 - i) (lat lon lat' lon' : ℚ) (hr : -90 ≤ lat' ∧ lat' ≤ 90)
    (h1 : |lat' - lat| ≤ 12 / 295)
    (h2 : NL (rlat 17 i' lat') = NL (rlat 17 i lat) → ∃ k : ℤ,
      (NL (rlat 17 i lat) : ℚ) * ((NL (rlat 17 i lat) : ℚ) - 1) * |lon' + 360 * k - lon| ≤ 144) :
    PairBox i (report 17 i' lat' lon') lat lon := by
  subst hi'
  by_cases hn : NL (rlat 17 (1 - i) lat') = NL (rlat 17 i lat)
  · obtain ⟨k, hk⟩ := h2 hn
    exact ⟨lat', lon' + 360 * k, hr, (report_lon_shift 17 (1 - i) lat' lon' k).symm, h1, fun _ => hk⟩
  · exact ⟨lat', lon', hr, rfl, h1, fun h => absurd h hn⟩

/-- how a concrete history is shown to be outside a box that holds "on a suitable turn" -/
theorem no_int_between {a k : ℤ} (h1 : (a : ℚ) < k) (h2 : (k : ℚ) < a + 1) : False := by
  have h1' : a < k := by exact_mod_cast h1
  have h2' : k < a + 1 := by exact_mod_cast h2
  omega

section Metres
open Rs1090.Proofs.Metres Rs1090.Proofs.Geo

theorem IsLattice.lon_err {nb i : Nat} {lat lon E : ℚ} {p : Pos} (h : IsLattice nb i lat lon p)
    (herr : |recv nb (dlon i (rlat nb i lat)) lon - lon| ≤ E) :
    p.lat = rlat nb i lat ∧ ∃ k : ℤ, |p.lon - (lon + 360 * k)| ≤ E := by
  obtain ⟨h1, k, h2⟩ := h
  refine ⟨h1, k, ?_⟩
  have e : p.lon - (lon + 360 * (k : ℚ)) = rlon nb i (rlat nb i lat) lon - lon := by rw [h2]; ring
  rw [e]
  exact herr

theorem lattice_air_metres (i : Nat) (hi : i ≤ 1) (lat lon : ℚ) (hlat : -90 ≤ lat ∧ lat ≤ 90) (p : Pos)
    (h : IsLattice 17 i lat lon p) :
    gcDist 6399594 (rad lat) (rad lon) (rad p.lat) (rad p.lon) ≤ 9629 / 1000 := by
  obtain ⟨h1, k, hB⟩ := h.lon_err (recv17_err _ _ (dlon_pos i _))
  rw [h1]
  exact (air_dist_10m i hi lat lon hlat p.lon k hB).2.1

theorem lattice_surf_metres (i : Nat) (hi : i ≤ 1) (lat lon : ℚ) (hlat : -90 ≤ lat ∧ lat ≤ 90) (p : Pos)
    (h : IsLattice 19 i lat lon p) :
    gcDist 6399594 (rad lat) (rad lon) (rad p.lat) (rad p.lon) ≤ 2408 / 1000 := by
  obtain ⟨h1, k, hB⟩ := h.lon_err (recv19_err _ _ (dlon_pos i _))
  rw [h1]
  exact surf_dist_10m i hi lat lon hlat p.lon k hB

end Metres

end Rs1090.Proofs.CprState
