/-
The checksum gate of `Message::from_reader_with_ctx`, and the entry points `Message::try_from` /
`Message::from_bytes` in terms of it (`tryFrom_exact`, `tryFrom_ok_iff`, `fromBytes_ok_iff`), on the decoder
model (Model/Decode/Message.lean).  Nothing here looks into the `DF` parser.
-/
import Rs1090.Proofs.CrcModel
import Rs1090.Proofs.Decode.Wp
import Rs1090.Model.Decode.Message
namespace Rs1090.Model.Message
open Rs1090 Rs1090.Model

theorem fromBytes_ok_iff {bs : List Nat} {d : Decoded} :
    fromBytes bs = .ok d ↔ ∃ b0 rest v, bs = b0 :: rest ∧ frameBits b0 / 8 ≤ bs.length ∧
      decodeBuf b0 (bs.take (frameBits b0 / 8)) = .ok v ∧ d = toDecoded v := by
  cases bs with
  | nil => exact ⟨fun h => (by cases h), fun ⟨_, _, _, h, _⟩ => (by cases h)⟩
  | cons b0 rest =>
    simp only [fromBytes]
    constructor
    · intro h
      split at h
      · cases h
      · rename_i hl
        split at h
        · cases h
        · cases h
        · rename_i v hv
          cases h
          exact ⟨b0, rest, v, rfl, by omega, hv, rfl⟩
    · rintro ⟨_, _, v, e, hl, hv, rfl⟩
      cases e
      rw [if_neg (by omega), hv]

/-- `try_from` is `from_bytes` followed by the "Too much data" test -/
theorem tryFrom_eq (bs : List Nat) :
    tryFrom bs = fromBytes bs >>= fun d =>
      if frameBits (bs.headD 0) / 8 != bs.length then .err .parse else .ok d := by
  cases bs with
  | nil => rfl
  | cons b0 rest =>
    simp only [tryFrom, fromBytes, List.headD_cons]
    split
    · rfl
    · split <;> rfl

theorem tryFrom_ok_iff {bs : List Nat} {d : Decoded} :
    tryFrom bs = .ok d ↔ ∃ b0 rest v, bs = b0 :: rest ∧ bs.length = frameBits b0 / 8 ∧
      decodeBuf b0 bs = .ok v ∧ d = toDecoded v := by
  rw [tryFrom_eq]
  constructor
  · intro h
    obtain ⟨d', hd, h⟩ := Outcome.bind_eq_ok h
    obtain ⟨b0, rest, v, rfl, _, hv, rfl⟩ := fromBytes_ok_iff.mp hd
    rw [List.headD_cons] at h
    split at h
    · cases h
    · rename_i hl
      cases h
      have hl' : (b0 :: rest).length = frameBits b0 / 8 := by simpa using Eq.symm (by simpa using hl)
      rw [← hl', List.take_length] at hv
      exact ⟨b0, rest, v, rfl, hl', hv, rfl⟩
  · rintro ⟨b0, rest, v, rfl, hl, hv, rfl⟩
    have : fromBytes (b0 :: rest) = .ok (toDecoded v) :=
      fromBytes_ok_iff.mpr ⟨b0, rest, v, rfl, by omega, by rw [← hl, List.take_length]; exact hv, rfl⟩
    rw [this, Outcome.bind_ok', List.headD_cons, hl]
    simp

end Rs1090.Model.Message

namespace Rs1090.Proofs.Crc
open Rs1090 Rs1090.Spec.Crc Rs1090.Model Rs1090.Model.Message

theorem frameBits_long (b0 : Nat) (h : (b0 >>> 3) &&& 0x10 ≠ 0) : frameBits b0 = 112 := by
  simp [frameBits, h]

theorem frameBits_short (b0 : Nat) (h : (b0 >>> 3) &&& 0x10 = 0) : frameBits b0 = 56 := by
  simp [frameBits, h]

/-- the `DF` parser run on the buffered bytes with context `crc`, state dropped
    (the last step of `decodeBuf`) -/
def parseDF (crc : Nat) (buf : List Nat) : Outcome SerFields :=
  match (df crc).run buf with
  | .err e => .err e
  | .panic x => .panic x
  | .ok (v, _) => .ok v

/-- `decodeBuf` in three steps: the checksum, the DF 17 gate on it, the parser with the checksum as context -/
theorem decodeBuf_eq_bind (b0 : Nat) (buf : List Nat) :
    decodeBuf b0 buf = modesChecksum buf (frameBits b0) >>= fun crc =>
      if b0 >>> 3 == 17 && crc > 0 then .err .assertion else parseDF crc buf := by
  unfold decodeBuf
  cases modesChecksum buf (frameBits b0) <;> rfl

theorem decodeBuf_of_checksum (b0 : Nat) (buf : List Nat) (crc : Nat)
    (h : modesChecksum buf (frameBits b0) = .ok crc) :
    decodeBuf b0 buf = if b0 >>> 3 == 17 && crc > 0 then .err .assertion else parseDF crc buf := by
  rw [decodeBuf_eq_bind, h]
  rfl

theorem decodeBuf_exact (b0 : Nat) (buf : List Nat) (hlen : 8 * buf.length = frameBits b0) (hb : Bytes buf) :
    decodeBuf b0 buf =
      if b0 >>> 3 = 17 ∧ polyMod (bits buf) ≠ 0#24 then .err .assertion
      else parseDF (polyMod (bits buf)).toNat buf := by
  have h3 : 3 ≤ buf.length := by
    unfold frameBits at hlen; split at hlen <;> omega
  have hz : (polyMod (bits buf)).toNat > 0 ↔ polyMod (bits buf) ≠ 0#24 := by
    rw [gt_iff_lt, Nat.pos_iff_ne_zero, ne_eq, ne_eq, ← BitVec.toNat_inj]
    rfl
  rw [decodeBuf_of_checksum b0 buf _ (by rw [← hlen]; exact modesChecksum_eq buf h3 hb)]
  simp only [Bool.and_eq_true, beq_iff_eq, decide_eq_true_eq, hz]

/-- the tail of `tryFrom`: an accepted parse is wrapped into the serialised message -/
def wrap : Outcome SerFields → Outcome Decoded
  | .err e => .err e
  | .panic x => .panic x
  | .ok v => .ok (toDecoded v)

theorem tryFrom_exact (b0 : Nat) (rest : List Nat) (hl : 8 * (b0 :: rest).length = frameBits b0) :
    tryFrom (b0 :: rest) = wrap (decodeBuf b0 (b0 :: rest)) := by
  have h8 : frameBits b0 / 8 = (b0 :: rest).length := by omega
  unfold tryFrom
  simp only [h8, Nat.lt_irrefl, ↓reduceIte, List.take_length, bne_self_eq_false, Bool.false_eq_true]
  cases decodeBuf b0 (b0 :: rest) <;> rfl

theorem tryFrom_ok_length (b0 : Nat) (rest : List Nat) (d : Decoded)
    (h : tryFrom (b0 :: rest) = .ok d) : 8 * (b0 :: rest).length = frameBits b0 := by
  obtain ⟨_, _, _, e, hl, _⟩ := tryFrom_ok_iff.mp h
  cases e
  have hf : frameBits b0 = 112 ∨ frameBits b0 = 56 := by
    unfold frameBits; split <;> simp
  rcases hf with hf | hf <;> rw [hf] at hl ⊢ <;> omega

/-- downlink format: the top five bits of the first byte -/
def dfField (frame : List Nat) : Nat := frame.headD 0 >>> 3

/-- complete description of `Message::try_from` on a 14-byte frame announcing DF 17:
    rejected with the CRC assertion unless the remainder is zero, and then exactly the `DF`
    parser's outcome (with context 0) -/
theorem tryFrom_df17 (frame : List Nat) (hl : frame.length = 14) (hb : Bytes frame)
    (hdf : dfField frame = 17) :
    tryFrom frame = if polyMod (bits frame) = 0#24 then wrap (parseDF 0 frame) else .err .assertion := by
  match frame, hl with
  | b0 :: rest, hl =>
    simp only [dfField, List.headD_cons] at hdf
    have hfb : 8 * (b0 :: rest).length = frameBits b0 := by
      rw [frameBits_long b0 (by rw [hdf]; decide), hl]
    rw [tryFrom_exact b0 rest hfb, decodeBuf_exact b0 _ hfb hb]
    by_cases hz : polyMod (bits (b0 :: rest)) = 0#24
    · rw [if_pos hz, if_neg (fun h => h.2 hz), hz]
      rfl
    · rw [if_neg hz, if_pos ⟨hdf, hz⟩]
      rfl

end Rs1090.Proofs.Crc
