/-
For the frame-level clauses of Props/C12.lean: the *displayed address* of a record of
`Model/SnapshotView.lean` (`viewOfJson`, `recordOfFrame`, `runFrames`) is literally the `icao24` member of the
JSON that the decoder model returns for the frame; the clauses over `List Record` carry over to histories of
received frames (`List Rx`).  At the end: that member is the six hex digits of the decoded address (`hex6`,
`icao24Of_frame`), and `hex6` is injective on 24 bits, so equal displayed addresses are equal addresses.
-/
import Rs1090.Model.SnapshotView
import Rs1090.Proofs.SnapshotWriters
import Rs1090.Props.C07
namespace Rs1090.Proofs.SnapshotView
open Rs1090 Rs1090.Model Rs1090.Model.Message Rs1090.Model.Snapshot Rs1090.Model.SnapshotView
open Rs1090.Spec.Snapshot Rs1090.Proofs.Snapshot Rs1090.Proofs.SnapshotWriters Rs1090.Proofs.Filters

theorem member_eq_objGet (kvs : List (Key × Json)) (k : Key) : member kvs k = objGet kvs k := rfl

/-- the text of the `icao24` member of the JSON the decoder model returns for `frame`
    (`none`: the frame is refused, or its JSON has no — or a `null` — `icao24` member) -/
def icao24Of (frame : List Nat) : Option Addr :=
  match Message.tryFrom frame with
  | .ok (.json (.obj kvs)) => (objGet kvs (key! "icao24")).bind valText
  | _ => none

def ShowsIcao24 (frame : List Nat) (k : Addr) : Prop :=
  ∃ kvs j, Message.tryFrom frame = .ok (.json (.obj kvs)) ∧
    objGet kvs (key! "icao24") = some j ∧ valText j = some k

theorem showsIcao24_iff (frame : List Nat) (k : Addr) : ShowsIcao24 frame k ↔ icao24Of frame = some k := by
  unfold ShowsIcao24 icao24Of
  constructor
  · rintro ⟨kvs, j, h, hj, hv⟩
    rw [h]; simp only []; rw [hj]; exact hv
  · intro h
    split at h
    · rename_i kvs heq
      cases hj : objGet kvs (key! "icao24") with
      | none => rw [hj] at h; cases h
      | some j => rw [hj] at h; exact ⟨kvs, j, heq, hj, h⟩
    · cases h

theorem view_addr (ts : Nat) (frame : List Nat) (kvs : List (Key × Json)) (pos : Option (Val × Val)) :
    (viewOfJson ts frame (.obj kvs) pos).addr = (objGet kvs (key! "icao24")).bind valText := rfl

theorem record_cases (x : Rx) :
    (∃ kvs, Message.tryFrom x.frame = .ok (.json (.obj kvs)) ∧
      x.record = ⟨x.ts, fldV kvs (key! "icao24"), bodyView x.frame kvs x.pos⟩) ∨
    x.record = undecoded x.ts := by
  unfold Rx.record recordOfFrame
  split
  · next j heq =>
    cases j with
    | obj kvs => exact .inl ⟨kvs, heq, rfl⟩
    | _ => exact .inr rfl
  · exact .inr rfl

theorem record_ts (x : Rx) : x.record.ts = x.ts := by
  rcases record_cases x with ⟨kvs, _, h⟩ | h
  · rw [h]
  · rw [h]; rfl

theorem record_addr (x : Rx) : x.record.addr = icao24Of x.frame := by
  unfold Rx.record recordOfFrame icao24Of
  cases h : Message.tryFrom x.frame with
  | err e => rfl
  | panic s => rfl
  | ok d =>
    cases d with
    | serErr e => rfl
    | json j =>
      cases j <;> rfl

theorem runFrames_eq (h : List Rx) : runFrames h = run (h.map Rx.record) := by
  unfold runFrames run
  rw [List.foldl_map]

def ownFrames (k : Addr) (h : List Rx) : List Rx := h.filter fun x => icao24Of x.frame = some k

theorem mem_ownFrames {k : Addr} {h : List Rx} {x : Rx} :
    x ∈ ownFrames k h ↔ x ∈ h ∧ ShowsIcao24 x.frame k := by
  unfold ownFrames
  rw [List.mem_filter, showsIcao24_iff]
  simp

theorem ownFrames_cons (k : Addr) (x : Rx) (h : List Rx) :
    ownFrames k (x :: h) = if icao24Of x.frame = some k then x :: ownFrames k h else ownFrames k h := by
  unfold ownFrames; rw [List.filter_cons]; simp only [decide_eq_true_eq]

theorem own_map (k : Addr) (h : List Rx) : own k (h.map Rx.record) = (ownFrames k h).map Rx.record := by
  unfold own ownFrames
  rw [List.filter_map]
  congr 1
  apply List.filter_congr
  intro x _
  simp only [Function.comp, record_addr]

theorem entryOf_runFrames (k : Addr) (h : List Rx) :
    entryOf k (runFrames h) = ((ownFrames k h).map Rx.record).foldl (stepK k) none := by
  rw [runFrames_eq, ← own_map]; exact entryOf_foldl_update k _ []

/-! `l : List Rx` is a history `h : List α` (receptions with time stamp `tm` and frame `fr`) with positions attached:
`l.map (ts, frame) = h.map (tm, fr)`.  Whatever does not look at the positions transports from `l` to `h`. -/

section Forget
variable {α : Type} (tm : α → Nat) (fr : α → List Nat)

theorem exists_frame_iff (P : List Nat → Prop) (l : List Rx) (h : List α)
    (e : l.map (fun y => (y.ts, y.frame)) = h.map (fun x => (tm x, fr x))) :
    (∃ y, y ∈ l ∧ P y.frame) ↔ (∃ x, x ∈ h ∧ P (fr x)) := by
  have hmap : ∀ {β : Type} (f : β → List Nat) (l : List β), (∃ b, b ∈ l ∧ P (f b)) ↔ ∃ c, c ∈ l.map f ∧ P c :=
    fun f l => ⟨fun ⟨b, hb, hp⟩ => ⟨_, List.mem_map_of_mem hb, hp⟩,
      fun ⟨c, hc, hp⟩ => let ⟨b, hb, hbc⟩ := List.mem_map.mp hc; ⟨b, hb, hbc ▸ hp⟩⟩
  have e' : l.map (·.frame) = h.map fr := by
    have := congrArg (List.map Prod.snd) e
    rwa [List.map_map, List.map_map] at this
  calc (∃ y, y ∈ l ∧ P y.frame) ↔ ∃ c, c ∈ l.map (·.frame) ∧ P c := hmap (·.frame) l
    _ ↔ ∃ c, c ∈ h.map fr ∧ P c := by rw [e']
    _ ↔ _ := (hmap fr h).symm

theorem ownFrames_forget (k : Addr) (l : List Rx) (h : List α)
    (e : l.map (fun y => (y.ts, y.frame)) = h.map (fun x => (tm x, fr x))) :
    (ownFrames k l).map (fun y => (y.ts, y.frame))
      = (h.filter fun x => icao24Of (fr x) = some k).map (fun x => (tm x, fr x)) := by
  have hmap : ∀ {β : Type} (f : β → Nat × List Nat) (l : List β),
      (l.filter fun b => icao24Of (f b).2 = some k).map f = (l.map f).filter fun p => icao24Of p.2 = some k :=
    fun f l => by rw [List.filter_map]; rfl
  exact (hmap _ l).trans (e ▸ (hmap _ h).symm)

theorem seen_of_forget (k : Addr) (l : List Rx) (h : List α)
    (e : l.map (fun y => (y.ts, y.frame)) = h.map (fun x => (tm x, fr x)))
    (en : Entry) (he : entryOf k (runFrames l) = some en) :
    en.count = (h.filter fun x => icao24Of (fr x) = some k).length ∧
    (h.filter fun x => icao24Of (fr x) = some k).head?.map tm = some en.firstseen ∧
    (h.filter fun x => icao24Of (fr x) = some k).getLast?.map tm = some en.lastseen := by
  rw [entryOf_runFrames] at he
  obtain ⟨hc, h1, h2⟩ := fold_seen k _ en he
  have hts : ((ownFrames k l).map Rx.record).map (·.ts) = (h.filter fun x => icao24Of (fr x) = some k).map tm := by
    have := congrArg (List.map Prod.fst) (ownFrames_forget tm fr k l h e)
    rw [List.map_map, List.map_map] at this
    rw [List.map_map]
    exact (List.map_congr_left fun x _ => record_ts x).trans this
  rw [← List.length_map (f := (·.ts)), hts, List.length_map] at hc
  rw [← List.head?_map, hts, List.head?_map] at h1
  rw [← List.getLast?_map, hts, List.getLast?_map] at h2
  exact ⟨hc, h1, h2⟩

end Forget

theorem hexDigit_ne_space : ∀ n, n < 16 → hexDigit n ≠ ' ' := by decide

theorem noSpace_hexChars (d v : Nat) : noSpace (hexChars d v) = String.ofList (hexChars d v) := by
  unfold noSpace
  congr 1
  conv => rhs; rw [← List.map_id (hexChars d v)]
  apply List.map_congr_left
  intro c hc
  unfold hexChars at hc
  rw [List.mem_map] at hc
  obtain ⟨i, _, rfl⟩ := hc
  have := hexDigit_ne_space (v / 16 ^ i % 16) (Nat.mod_lt _ (by decide))
  simp [this]

def hex6 (a : Nat) : Addr := String.ofList (hexChars 6 a)

theorem valText_jhex6 (a : Nat) : valText (jhex6 a) = some (hex6 a) := by
  unfold jhex6 hex6
  simp only [valText, noSpace_hexChars]

theorem hexDigit_inj : ∀ m, m < 16 → ∀ n, n < 16 → hexDigit m = hexDigit n → m = n := by decide

theorem hexChars_inj (d a b : Nat) (h : hexChars d a = hexChars d b) : a % 16 ^ d = b % 16 ^ d := by
  induction d with
  | zero => rw [Nat.pow_zero, Nat.mod_one, Nat.mod_one]
  | succ d ih =>
    have hc : ∀ v, hexChars (d + 1) v = hexDigit (v / 16 ^ d % 16) :: hexChars d v := fun v => by
      simp [hexChars, List.range_succ]
    rw [hc, hc, List.cons.injEq] at h
    have hd := hexDigit_inj _ (Nat.mod_lt _ (by decide)) _ (Nat.mod_lt _ (by decide)) h.1
    rw [Nat.pow_succ, Nat.mod_mul, Nat.mod_mul, ih h.2, hd]

theorem hex6_inj (a b : Nat) (ha : a < 2 ^ 24) (hb : b < 2 ^ 24) (h : hex6 a = hex6 b) : a = b := by
  have := hexChars_inj 6 a b (String.ofList_injective h)
  rwa [Nat.mod_eq_of_lt (show a < 16 ^ 6 from ha), Nat.mod_eq_of_lt (show b < 16 ^ 6 from hb)] at this

/-- for the nine address-carrying formats the displayed address is the address the frame carries:
    the announced address field (bits 8..32) for DF 11, 17, 18, the checksum remainder
    (address/parity overlay) for DF 0, 4, 5, 16, 20, 21 -/
theorem icao24Of_frame (bs : List Nat) (d : Decoded) (h : tryFrom bs = .ok d)
    (hdf : [0, 4, 5, 11, 16, 17, 18, 20, 21].contains (bitsBE bs 0 5) = true) :
    ∃ a, icao24Of bs = some (hex6 a) ∧
      ([11, 17, 18].contains (bitsBE bs 0 5) = true → a = bitsBE bs 8 24) ∧
      ([0, 4, 5, 16, 20, 21].contains (bitsBE bs 0 5) = true →
        modesChecksum bs (frameBits (bs.headD 0)) = .ok a) := by
  obtain ⟨kvs, rfl, _⟩ := tryFrom_good bs d h
  obtain ⟨_, a, _, _, ha, h1, h2⟩ := Rs1090.Props.C07.df_icao_consistent bs kvs h hdf
  refine ⟨a, ?_, h1, h2⟩
  unfold icao24Of
  rw [h]; simp only []; rw [ha]
  exact valText_jhex6 a

/-- a frame of another format (DF19, DF24‥31) displays no address, accepted or not -/
theorem icao24Of_none (bs : List Nat)
    (hdf : [0, 4, 5, 11, 16, 17, 18, 20, 21].contains (bitsBE bs 0 5) = false) :
    icao24Of bs = none := by
  unfold icao24Of
  split
  · rename_i kvs h
    rw [tryFrom_noaddr bs kvs h hdf]; rfl
  · rfl

end Rs1090.Proofs.SnapshotView
