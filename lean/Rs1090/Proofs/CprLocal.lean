import Rs1090.Proofs.CprEnc
/-!
Single-report decoding against a reference (`Model.Cpr.withRef`): a normal form without the `Outcome`
plumbing (the checked `nl(lat) − 1` never underflows because `nl ≥ 1`), the "near the reference" clause
for arbitrary inputs, and exact recovery of an encoded position.
-/
namespace Rs1090.Proofs.Cpr
open Rs1090 Rs1090.Model.Cpr

def fmt (m : Msg) : ℕ := if m.parity = .even then 0 else 1

def dLatOf (full : ℚ) (m : Msg) : ℚ := if m.parity = .even then full / 60 else full / 59

def niOf (i : ℕ) (lat : ℚ) : ℕ := max (nl lat - i) 1

def latOf (full : ℚ) (m : Msg) (latRef : ℚ) : ℚ :=
  dLatOf full m * ((⌊1 / 2 + latRef / dLatOf full m - (m.lat : ℚ) / cprMax⌋ : ℚ) + (m.lat : ℚ) / cprMax)

def dLonOf (full : ℚ) (m : Msg) (lat : ℚ) : ℚ := full / (niOf (fmt m) lat : ℚ)

def lonOf (full : ℚ) (m : Msg) (lat lonRef : ℚ) : ℚ :=
  dLonOf full m lat *
    ((⌊1 / 2 + lonRef / dLonOf full m lat - (m.lon : ℚ) / cprMax⌋ : ℚ) + (m.lon : ℚ) / cprMax)

/-- in particular `withRef` never panics and never divides by zero -/
theorem withRef_eq (full : ℚ) (m : Msg) (latRef lonRef : ℚ) :
    withRef full m latRef lonRef =
      if inLatRange (latOf full m latRef) = false then .ok none
      else if |latOf full m latRef - latRef| > dLatOf full m / 2 then .ok none
      else if |lonOf full m (latOf full m latRef) lonRef - lonRef|
                > dLonOf full m (latOf full m latRef) / 2 then .ok none
      else .ok (some ⟨latOf full m latRef, lonOf full m (latOf full m latRef) lonRef⟩) := by
  -- the checked `nl(lat) − 1` of an odd report succeeds: `ni = nl(lat) − fmt m`
  have hni : ∀ lat, (if m.parity = .even then Outcome.ok (nl lat) else subU (nl lat) 1)
      = .ok (nl lat - fmt m) := by
    intro lat
    unfold fmt
    split
    · rfl
    · exact subU_ok (nl_pos lat)
  -- and whether `ni > 0` or not, the longitude zone is `full / max ni 1`
  have hdl : ∀ lat, (if nl lat - fmt m > 0 then full / ((nl lat - fmt m : ℕ) : ℚ) else full)
      = dLonOf full m lat := by
    intro lat
    unfold dLonOf niOf
    split
    · rw [max_eq_left (by omega)]
    · rw [max_eq_right (by omega)]; simp
  unfold withRef
  simp only [fabs_eq_abs, ratFloor, hni, Outcome.bind_ok, hdl]
  unfold latOf lonOf dLatOf
  cases inLatRange _ <;> simp

theorem dLatOf_pos (full : ℚ) (hf : 0 < full) (m : Msg) : 0 < dLatOf full m := by
  unfold dLatOf; split <;> positivity

theorem dLonOf_pos (full : ℚ) (hf : 0 < full) (m : Msg) (lat : ℚ) : 0 < dLonOf full m lat := by
  have : (0 : ℚ) < (niOf (fmt m) lat : ℚ) := by exact_mod_cast (le_max_right _ _ : 1 ≤ niOf (fmt m) lat)
  unfold dLonOf
  positivity

theorem withRef_ne_panic (full : ℚ) (m : Msg) (latRef lonRef : ℚ) (s : Site) :
    withRef full m latRef lonRef ≠ .panic s := by
  rw [withRef_eq]
  split_ifs <;> simp

theorem inLatRange_iff (x : ℚ) : inLatRange x = true ↔ -90 ≤ x ∧ x ≤ 90 := by
  simp [inLatRange]

theorem withRef_none_or_near (full : ℚ) (m : Msg) (latRef lonRef : ℚ) :
    withRef full m latRef lonRef = .ok none ∨
    ∃ p, withRef full m latRef lonRef = .ok (some p) ∧ -90 ≤ p.lat ∧ p.lat ≤ 90 ∧
      |p.lat - latRef| ≤ dLatOf full m / 2 ∧ |p.lon - lonRef| ≤ dLonOf full m p.lat / 2 := by
  rw [withRef_eq]
  split_ifs with h1 h2 h3
  · exact Or.inl rfl
  · exact Or.inl rfl
  · exact Or.inl rfl
  · have hr := (inLatRange_iff _).1 (by simpa using h1)
    exact Or.inr ⟨_, rfl, hr.1, hr.2, not_lt.mp h2, not_lt.mp h3⟩

/-- `T`, `V` the lattice indices the report carries: latitude (zone size `dLat`) and longitude (zone size `dLon`
    at the lattice latitude) -/
theorem withRef_exact (full : ℚ) (hf : 0 < full) (m : Msg) (latRef lonRef : ℚ) (T V : ℤ)
    (hlatf : (m.lat : ℚ) / cprMax = frac17 T) (hlonf : (m.lon : ℚ) / cprMax = frac17 V)
    (hrange : -90 ≤ dLatOf full m * ((T : ℚ) / 131072) ∧ dLatOf full m * ((T : ℚ) / 131072) ≤ 90)
    (hlat : |dLatOf full m * ((T : ℚ) / 131072) - latRef| < dLatOf full m / 2)
    (hlon : |dLonOf full m (dLatOf full m * ((T : ℚ) / 131072)) * ((V : ℚ) / 131072) - lonRef|
              < dLonOf full m (dLatOf full m * ((T : ℚ) / 131072)) / 2) :
    withRef full m latRef lonRef =
      .ok (some ⟨dLatOf full m * ((T : ℚ) / 131072),
                 dLonOf full m (dLatOf full m * ((T : ℚ) / 131072)) * ((V : ℚ) / 131072)⟩) := by
  have hd := dLatOf_pos full hf m
  have e1 : latOf full m latRef = dLatOf full m * ((T : ℚ) / 131072) := by
    unfold latOf
    rw [hlatf, local_zone _ hd T latRef hlat, zone_add_frac17]
  have hdl := dLonOf_pos full hf m (dLatOf full m * ((T : ℚ) / 131072))
  have e2 : lonOf full m (dLatOf full m * ((T : ℚ) / 131072)) lonRef
      = dLonOf full m (dLatOf full m * ((T : ℚ) / 131072)) * ((V : ℚ) / 131072) := by
    unfold lonOf
    rw [hlonf, local_zone _ hdl V lonRef hlon, zone_add_frac17]
  rw [withRef_eq, e1, e2]
  have r : inLatRange (dLatOf full m * ((T : ℚ) / 131072)) = true := (inLatRange_iff _).2 hrange
  rw [if_neg (by simp [r]), if_neg (not_lt.mpr (le_of_lt hlat)), if_neg (not_lt.mpr (le_of_lt hlon))]

end Rs1090.Proofs.Cpr
