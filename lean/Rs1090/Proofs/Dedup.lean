/-
For Props/C10.lean: the byte order of frames, the heap minimum, the cache
operations, the invariant tying heap to cache, and what the expiry loop does under it (`Expires`).
-/
import Rs1090.Model.Dedup
import Rs1090.Spec.Dedup
namespace Rs1090.Dedup
open Rs1090.Spec.Dedup (firstT closes WellFormed before)

/-! ### What the proofs need of the operators generated from dedup.rs (`Gen/Dedup.lean`)

These three lemmas are where a changed operator or constant of `deduplicate_messages` stops the proofs
(they are restated as `Props/C10.lean: jet_loop_as_modelled`). -/

theorem notExpired_eq (curtime t : Nat) : Gen.Dedup.Jet.notExpired curtime t = decide (t < curtime) := by
  simp [Gen.Dedup.Jet.notExpired]

theorem expiry_eq (t w : Nat) : Gen.Dedup.Jet.expiry t w = t + w := rfl

theorem isFirst_eq (len : Nat) : Gen.Dedup.Jet.isFirst len = decide (len = 1) := rfl

theorem frameLt_irrefl : ∀ a : Frame, frameLt a a = false
  | [] => rfl
  | x :: xs => by simp [frameLt, frameLt_irrefl xs]

theorem frameLt_trans : ∀ a b c : Frame, frameLt a b = true → frameLt b c = true → frameLt a c = true
  | [], [], _ | [], _ :: _, [] | [], _ :: _, _ :: _ | _ :: _, [], _ | _ :: _, _ :: _, [] => by
    simp [frameLt]
  | x :: xs, y :: ys, z :: zs => by
    simp only [frameLt, Bool.or_eq_true, Bool.and_eq_true, decide_eq_true_eq, beq_iff_eq]
    intro h1 h2
    rcases h1 with h1 | ⟨rfl, h1⟩ <;> rcases h2 with h2 | ⟨rfl, h2⟩
    · left; omega
    · left; exact h1
    · left; exact h2
    · right; exact ⟨rfl, frameLt_trans xs ys zs h1 h2⟩

theorem frameLt_tri : ∀ a b : Frame, frameLt a b = false → frameLt b a = false → a = b
  | [], [] => by simp
  | [], _ :: _ => by simp [frameLt]
  | _ :: _, [] => by simp [frameLt]
  | x :: xs, y :: ys => by
    simp only [frameLt, Bool.or_eq_false_iff, Bool.and_eq_false_imp, decide_eq_false_iff_not,
      beq_iff_eq]
    intro ⟨h1, h2⟩ ⟨h3, h4⟩
    have : x = y := by omega
    subst this
    rw [frameLt_tri xs ys (h2 rfl) (h4 rfl)]

theorem keyLt_irrefl (a : Key) : keyLt a a = false := by
  simp [keyLt, frameLt_irrefl]

theorem keyLt_trans {a b c : Key} (h1 : keyLt a b = true) (h2 : keyLt b c = true) :
    keyLt a c = true := by
  simp only [keyLt, Bool.or_eq_true, Bool.and_eq_true, decide_eq_true_eq, beq_iff_eq] at *
  rcases h1 with h1 | ⟨e1, h1⟩ <;> rcases h2 with h2 | ⟨e2, h2⟩
  · left; omega
  · left; omega
  · left; omega
  · right; exact ⟨by omega, frameLt_trans _ _ _ h1 h2⟩

theorem keyLt_tri {a b : Key} (h1 : keyLt a b = false) (h2 : keyLt b a = false) : a = b := by
  simp only [keyLt, Bool.or_eq_false_iff, Bool.and_eq_false_imp, decide_eq_false_iff_not,
    beq_iff_eq] at *
  have e : a.1 = b.1 := by omega
  exact Prod.ext e (frameLt_tri _ _ (h1.2 e) (h2.2 e.symm))

theorem keyLt_asymm {a b : Key} (h : keyLt a b = true) : keyLt b a = false := by
  cases h' : keyLt b a
  · rfl
  · have := keyLt_trans h h'; rw [keyLt_irrefl] at this; cases this

theorem keyLt_of_lt_of_not_lt {a b c : Key} (h1 : keyLt a b = true) (h2 : keyLt c b = false) :
    keyLt a c = true := by
  cases h3 : keyLt b c
  · have := keyLt_tri h3 h2; subst this; exact h1
  · exact keyLt_trans h1 h3

theorem keyLt_fst_le {a b : Key} (h : keyLt a b = false) : b.1 ≤ a.1 := by
  simp only [keyLt, Bool.or_eq_false_iff, decide_eq_false_iff_not] at h
  omega

theorem keyLt_le_trans {a b c : Key} (h1 : keyLt b a = false) (h2 : keyLt c b = false) :
    keyLt c a = false := by
  cases h : keyLt c a
  · rfl
  · rw [keyLt_of_lt_of_not_lt h h1] at h2; cases h2

theorem minKey_spec : ∀ (xs : List Key) (m : Key),
    minKey m xs ∈ m :: xs ∧ ∀ x ∈ m :: xs, keyLt x (minKey m xs) = false
  | [], m => by simp [minKey, keyLt_irrefl]
  | x :: xs, m => by
    obtain ⟨m', hm', hmem, hm, hx⟩ : ∃ m', (if keyLt x m = true then x else m) = m' ∧
        m' ∈ m :: x :: xs ∧ keyLt m m' = false ∧ keyLt x m' = false := by
      cases h : keyLt x m
      · exact ⟨m, by simp, by simp, keyLt_irrefl m, h⟩
      · exact ⟨x, by simp, by simp, keyLt_asymm h, keyLt_irrefl x⟩
    obtain ⟨ih1, ih2⟩ := minKey_spec xs m'
    rw [minKey, hm']
    have hr := ih2 m' List.mem_cons_self
    refine ⟨?_, fun y hy => ?_⟩
    · rcases List.mem_cons.mp ih1 with h | h
      · rw [h]; exact hmem
      · exact List.mem_cons_of_mem _ (List.mem_cons_of_mem _ h)
    · simp only [List.mem_cons] at hy
      rcases hy with rfl | rfl | hy
      · exact keyLt_le_trans hr hm
      · exact keyLt_le_trans hr hx
      · exact ih2 y (List.mem_cons_of_mem _ hy)

theorem popMin_none {h : Heap} : popMin h = none ↔ h = [] := by
  cases h <;> simp [popMin]

theorem popMin_some {h h' : Heap} {k : Key} (e : popMin h = some (k, h')) :
    k ∈ h ∧ h' = h.erase k ∧ ∀ x ∈ h, keyLt x k = false := by
  cases h with
  | nil => simp [popMin] at e
  | cons x xs =>
    simp only [popMin, Option.some.injEq, Prod.mk.injEq] at e
    obtain ⟨rfl, rfl⟩ := e
    exact ⟨(minKey_spec xs x).1, rfl, (minKey_spec xs x).2⟩

theorem popMin_length {h h' : Heap} {k : Key} (e : popMin h = some (k, h')) :
    h'.length + 1 = h.length := by
  obtain ⟨hk, rfl, -⟩ := popMin_some e
  have := List.length_pos_of_mem hk
  rw [List.length_erase_of_mem hk]
  omega

def keys (c : Cache) : List Frame := c.map (·.1)

theorem keys_cons (g : Group) (c : Cache) : keys (g :: c) = g.1 :: keys c := rfl

theorem keys_append (l r : Cache) : keys (l ++ r) = keys l ++ keys r := List.map_append

theorem mem_keys {g : Group} {c : Cache} (h : g ∈ c) : g.1 ∈ keys c := List.mem_map_of_mem h

theorem not_mem_keys_cons {k f : Frame} {ms : List Arrival} {c : Cache}
    (h : k ∉ keys ((f, ms) :: c)) : ¬ f = k ∧ k ∉ keys c := by
  rw [keys_cons, List.mem_cons, not_or] at h
  exact ⟨fun e => h.1 e.symm, h.2⟩

theorem push_eq_join : ∀ (c : Cache) (a : Arrival), push c a = Spec.Dedup.join c a
  | [], a => rfl
  | (f, ms) :: rest, a => by
    simp only [push, Spec.Dedup.join]
    split
    · rfl
    · rw [push_eq_join rest a]

theorem split_first {c : Cache} {k : Frame} (h : k ∈ keys c) :
    ∃ l ms r, c = l ++ (k, ms) :: r ∧ k ∉ keys l := by
  induction c with
  | nil => cases h
  | cons g c ih =>
    obtain ⟨f, ms⟩ := g
    by_cases e : f = k
    · subst e; exact ⟨[], ms, c, rfl, List.not_mem_nil⟩
    · obtain ⟨l, ms', r, rfl, hl⟩ := ih ((List.mem_cons.mp h).resolve_left (fun h' => e h'.symm))
      exact ⟨(f, ms) :: l, ms', r, rfl, fun h' => (List.mem_cons.mp h').elim (fun h' => e h'.symm) hl⟩

theorem get_split : ∀ (l : Cache) {k : Frame} {ms : List Arrival} {r : Cache}, k ∉ keys l →
    get (l ++ (k, ms) :: r) k = some ms
  | [], k, ms, r, _ => by simp [get]
  | (f, m) :: l, k, ms, r, h => by
    obtain ⟨hf, hl⟩ := not_mem_keys_cons h
    simp only [List.cons_append, get, if_neg hf, get_split l hl]

theorem get_none : ∀ (c : Cache) {k : Frame}, k ∉ keys c → get c k = none
  | [], _, _ => rfl
  | (f, m) :: c, k, h => by
    obtain ⟨hf, hl⟩ := not_mem_keys_cons h
    simp only [get, if_neg hf, get_none c hl]

theorem remove_split : ∀ (l : Cache) {k : Frame} {ms : List Arrival} {r : Cache}, k ∉ keys l →
    remove (l ++ (k, ms) :: r) k = some (ms, l ++ r)
  | [], k, ms, r, _ => by simp [remove]
  | (f, m) :: l, k, ms, r, h => by
    obtain ⟨hf, hl⟩ := not_mem_keys_cons h
    simp only [List.cons_append, remove, if_neg hf, remove_split l hl]

theorem remove_none : ∀ (c : Cache) {k : Frame}, k ∉ keys c → remove c k = none
  | [], _, _ => rfl
  | (f, m) :: c, k, h => by
    obtain ⟨hf, hl⟩ := not_mem_keys_cons h
    simp only [remove, if_neg hf, remove_none c hl]

theorem push_new : ∀ (c : Cache) {a : Arrival}, a.frame ∉ keys c →
    push c a = c ++ [(a.frame, [a])]
  | [], _, _ => rfl
  | (f, m) :: c, a, h => by
    obtain ⟨hf, hl⟩ := not_mem_keys_cons h
    simp only [push, if_neg hf, List.cons_append, push_new c hl]

theorem push_split : ∀ (l : Cache) {a : Arrival} {ms : List Arrival} {r : Cache}, a.frame ∉ keys l →
    push (l ++ (a.frame, ms) :: r) a = l ++ (a.frame, ms ++ [a]) :: r
  | [], a, ms, r, _ => by simp [push]
  | (f, m) :: l, a, ms, r, h => by
    obtain ⟨hf, hl⟩ := not_mem_keys_cons h
    simp only [List.cons_append, push, if_neg hf, push_split l hl]

/-- `cache.entry(frame).or_default().push(msg)` in closed form: the arrival is appended to the first
    (under `Inv`: the only) group of its frame, or opens a new group at the end -/
theorem push_cases (c : Cache) (a : Arrival) :
    (∃ l ms r, c = l ++ (a.frame, ms) :: r ∧ a.frame ∉ keys l ∧
      push c a = l ++ (a.frame, ms ++ [a]) :: r) ∨
    (a.frame ∉ keys c ∧ push c a = c ++ [(a.frame, [a])]) := by
  by_cases hk : a.frame ∈ keys c
  · obtain ⟨l, ms, r, rfl, hl⟩ := split_first hk
    exact .inl ⟨l, ms, r, rfl, hl, push_split l hl⟩
  · exact .inr ⟨hk, push_new c hk⟩

theorem mem_push {c : Cache} {a : Arrival} {g : Group} (h : g ∈ push c a) :
    g ∈ c ∨ (∃ ms, (a.frame, ms) ∈ c ∧ g = (a.frame, ms ++ [a])) ∨ g = (a.frame, [a]) := by
  rcases push_cases c a with ⟨l, ms, r, rfl, _, hp⟩ | ⟨_, hp⟩
  · simp only [hp, List.mem_append, List.mem_cons] at h ⊢
    rcases h with h | rfl | h
    · exact .inl (.inl h)
    · exact .inr (.inl ⟨ms, .inr (.inl rfl), rfl⟩)
    · exact .inl (.inr (.inr h))
  · simp only [hp, List.mem_append, List.mem_singleton] at h
    exact h.elim .inl (fun h => .inr (.inr h))

/-- `cache[&frame]` right after the push finds the arrival (dedup.rs:35) -/
theorem get_push (c : Cache) (a : Arrival) : ∃ ms, get (push c a) a.frame = some (ms ++ [a]) := by
  rcases push_cases c a with ⟨l, ms, r, rfl, hl, hp⟩ | ⟨hk, hp⟩
  · exact ⟨ms, by rw [hp, get_split l hl]⟩
  · exact ⟨[], by rw [hp, get_split c hk]; rfl⟩

theorem eq_of_key_eq : ∀ {c : Cache}, (keys c).Nodup → ∀ {g h : Group}, g ∈ c → h ∈ c → g.1 = h.1 → g = h
  | [], _, _, _, hg, _, _ => by cases hg
  | x :: c, hn, g, h, hg, hh, e => by
    rw [keys_cons, List.nodup_cons] at hn
    simp only [List.mem_cons] at hg hh
    rcases hg with rfl | hg <;> rcases hh with rfl | hh
    · rfl
    · exact absurd (e ▸ mem_keys hh) hn.1
    · exact absurd (e ▸ mem_keys hg) hn.1
    · exact eq_of_key_eq hn.2 hg hh e

theorem firstT_snoc {f : Frame} {ms : List Arrival} (a : Arrival) (h : ms ≠ []) :
    firstT (f, ms ++ [a]) = firstT (f, ms) := by
  cases ms with
  | nil => exact absurd rfl h
  | cons m ms => rfl

theorem push_wf {c : Cache} (a : Arrival) (h : ∀ g ∈ c, WellFormed g) :
    ∀ g ∈ push c a, WellFormed g := by
  intro g hg
  rcases mem_push hg with h1 | ⟨ms, h1, rfl⟩ | rfl
  · exact h g h1
  · refine ⟨by simp, fun m hm => ?_⟩
    rcases List.mem_append.mp hm with hm | hm
    · exact (h _ h1).2 m hm
    · rw [List.mem_singleton.mp hm]
  · exact ⟨by simp, fun m hm => by rw [List.mem_singleton.mp hm]⟩

def keyOf (w : Nat) (g : Group) : Key := (firstT g + w, g.1)

theorem keyLt_keyOf (w : Nat) (g h : Group) : keyLt (keyOf w g) (keyOf w h) = before g h := by
  have : (firstT g + w == firstT h + w) = (firstT g == firstT h) := by
    rw [Bool.eq_iff_iff]; simp
  simp only [keyLt, keyOf, before, Nat.add_lt_add_iff_right, this]

theorem closes_iff {w t : Nat} {g : Group} : closes w t g = true ↔ firstT g + w ≤ t := by
  simp [closes]

theorem closes_false_iff {w t : Nat} {g : Group} : closes w t g = false ↔ t < firstT g + w := by
  simp [closes]

/-- Heap entries and open groups correspond one to one (`heap` is a permutation of the keys of the
    cache entries, expiry = first member's time + w); there is one open group per frame; every
    group is non-empty and its members carry the frame it is filed under. -/
structure Inv (w : Nat) (s : State) : Prop where
  heap : s.heap.Perm (s.cache.map (keyOf w))
  nodup : (keys s.cache).Nodup
  wf : ∀ g ∈ s.cache, WellFormed g

theorem inv_init (w : Nat) : Inv w init :=
  ⟨.nil, .nil, fun _ h => nomatch h⟩

theorem Inv.cache_nil {w : Nat} {s : State} (hinv : Inv w s) (h : s.heap = []) : s.cache = [] :=
  List.map_eq_nil_iff.mp (h ▸ hinv.heap).symm.eq_nil

theorem Inv.mem_heap {w : Nat} {s : State} (hinv : Inv w s) {g : Group} (hg : g ∈ s.cache) :
    keyOf w g ∈ s.heap := hinv.heap.mem_iff.mpr (List.mem_map_of_mem hg)

/-- Popping the heap under the invariant: the least key is the key of exactly one open group; that
    group is non-empty, every other open group has a strictly greater key, and without the group
    and its key the invariant still holds. -/
theorem pop_spec {w : Nat} {c : Cache} {h h' : Heap} {k : Key} (hinv : Inv w ⟨c, h⟩)
    (hp : popMin h = some (k, h')) :
    ∃ l m ms r, c = l ++ (k.2, m :: ms) :: r ∧ k.2 ∉ keys l ∧ firstT (k.2, m :: ms) + w = k.1 ∧
      Inv w ⟨l ++ r, h'⟩ ∧ h'.length + 1 = h.length ∧
      ∀ x ∈ l ++ r, keyLt k (keyOf w x) = true := by
  have hlen := popMin_length hp
  obtain ⟨hk, rfl, hmin⟩ := popMin_some hp
  obtain ⟨g, hg, rfl⟩ := List.mem_map.mp (hinv.heap.mem_iff.mp hk)
  obtain ⟨l, r, rfl⟩ := List.append_of_mem hg
  have hnd : g.1 ∉ keys (l ++ r) ∧ (keys (l ++ r)).Nodup := by
    have := hinv.nodup
    rw [keys_append, keys_cons, List.perm_middle.nodup_iff, ← keys_append] at this
    exact List.nodup_cons.mp this
  have hsub : l ++ r ⊆ l ++ g :: r :=
    (List.Sublist.append_left (List.sublist_cons_self _ _) _).subset
  obtain ⟨f, ms⟩ := g
  cases ms with
  | nil => exact absurd rfl (hinv.wf _ hg).1
  | cons m ms =>
    refine ⟨l, m, ms, r, rfl, fun hl => hnd.1 (by rw [keys_append]; exact List.mem_append_left _ hl),
      rfl, ⟨?_, hnd.2, fun x hx => hinv.wf x (hsub hx)⟩, hlen, fun x hx => ?_⟩
    · have h1 := (List.perm_cons_erase hk).symm.trans hinv.heap
      rw [List.map_append, List.map_cons] at h1
      rw [List.map_append]
      exact (h1.trans List.perm_middle).cons_inv
    · cases hlt : keyLt (keyOf w (f, m :: ms)) (keyOf w x)
      · -- same key, hence same frame: there is one group per frame
        have e := keyLt_tri hlt (hmin _ (hinv.mem_heap (hsub hx)))
        have e' : f = x.1 := congrArg Prod.snd e
        exact absurd (show f ∈ keys (l ++ r) by rw [e']; exact mem_keys hx) hnd.1
      · rfl

/-- What the expiry loop at time `t` makes of a state with cache `c`: the groups that stay are the
    open groups that `t` does not close, in their order; the groups that leave are exactly those it
    closes, and they leave in strictly increasing (first arrival, frame) order. -/
structure Expires (w t : Nat) (c : Cache) (r : State × List Group) : Prop where
  inv : Inv w r.1
  cache : r.1.cache = c.filter (fun g => !closes w t g)
  closed : r.2.Perm (c.filter (closes w t))
  sorted : r.2.Pairwise (fun g h => before g h = true)

theorem expire_spec (w t : Nat) : ∀ (n : Nat) (s : State), Inv w s → s.heap.length ≤ n →
    Expires w t s.cache (expire t n s) := by
  intro n
  induction n with
  | zero =>
    intro ⟨c, h⟩ hinv hlen
    obtain rfl := List.length_eq_zero_iff.mp (Nat.le_zero.mp hlen)
    obtain rfl : c = [] := hinv.cache_nil rfl
    exact ⟨hinv, rfl, .nil, .nil⟩
  | succ n ih =>
    intro ⟨c, h⟩ hinv hlen
    simp only [expire, notExpired_eq, decide_eq_true_eq]
    cases hp : popMin h with
    | none =>
      obtain rfl := popMin_none.mp hp
      obtain rfl : c = [] := hinv.cache_nil rfl
      exact ⟨hinv, rfl, .nil, .nil⟩
    | some kh =>
      obtain ⟨k, h'⟩ := kh
      simp only
      by_cases ht : t < k.1
      · -- the least expiry is in the future: nothing closes
        obtain ⟨hk, rfl, hmin⟩ := popMin_some hp
        have hall : ∀ g ∈ c, closes w t g = false := fun g hg =>
          closes_false_iff.mpr (Nat.lt_of_lt_of_le ht (keyLt_fst_le (hmin _ (hinv.mem_heap hg))))
        rw [if_pos ht]
        refine ⟨⟨(List.perm_cons_erase hk).symm.trans hinv.heap, hinv.nodup, hinv.wf⟩, ?_, ?_, .nil⟩
        · exact (List.filter_eq_self.mpr fun g hg => by rw [hall g hg]; rfl).symm
        · rw [List.filter_eq_nil_iff.mpr fun g hg => by rw [hall g hg]; exact Bool.false_ne_true]
      · obtain ⟨l, m, ms, r, rfl, hl, hkey, hinv', hlen', hmin⟩ := pop_spec hinv hp
        have hcl : closes w t (k.2, m :: ms) = true := closes_iff.mpr (by omega)
        obtain ⟨i1, i2, i3, i4⟩ := ih ⟨l ++ r, h'⟩ hinv' (by simp only at hlen ⊢; omega)
        rw [if_neg ht, remove_split l hl]
        refine ⟨i1, ?_, ?_, List.pairwise_cons.mpr ⟨fun x hx => ?_, i4⟩⟩
        · rw [i2]; simp only [List.filter_append, List.filter_cons, hcl, Bool.not_true, Bool.false_eq_true, if_false]
        · simp only [List.filter_append, List.filter_cons, hcl, if_true] at i3 ⊢
          exact (i3.cons _).trans List.perm_middle.symm
        · have := hmin x (List.mem_filter.mp (i3.subset hx)).1
          rwa [← keyLt_keyOf w, show keyOf w (k.2, m :: ms) = k from Prod.ext hkey rfl]

/-- lines 32-40 of dedup.rs keep the invariant -/
theorem push_inv {w : Nat} {s : State} (a : Arrival) (hinv : Inv w s) :
    Inv w ⟨push s.cache a,
      if ((get (push s.cache a) a.frame).getD []).length = 1 then (a.t + w, a.frame) :: s.heap
      else s.heap⟩ := by
  obtain ⟨c, h⟩ := s
  refine ⟨?_, ?_, push_wf a hinv.wf⟩
  · -- the arrival that joins a group leaves its key as it is; the one that opens a group adds its key
    rcases push_cases c a with ⟨l, ms, r, rfl, hl, hp⟩ | ⟨hk, hp⟩
    · have hne : ms ≠ [] := (hinv.wf (a.frame, ms) (by simp)).1
      have hlen : ¬ (ms ++ [a]).length = 1 := by
        have := List.length_pos_iff.mpr hne
        simp only [List.length_append, List.length_cons, List.length_nil]; omega
      have hkey : keyOf w (a.frame, ms ++ [a]) = keyOf w (a.frame, ms) := by
        simp only [keyOf, firstT_snoc a hne]
      simp only [hp, get_split l hl, Option.getD_some, hlen, if_false, List.map_append, List.map_cons, hkey]
      simpa only [List.map_append, List.map_cons] using hinv.heap
    · simp only [hp, get_split c hk, Option.getD_some, List.length_cons, List.length_nil, if_true,
        List.map_append, List.map_cons, List.map_nil]
      exact ((List.perm_append_singleton _ _).trans (hinv.heap.symm.cons _)).symm
  · rcases push_cases c a with ⟨l, ms, r, rfl, _, hp⟩ | ⟨hk, hp⟩
    · simpa only [hp, keys_append, keys_cons] using hinv.nodup
    · show (keys (push c a)).Nodup
      rw [hp, keys_append, show keys [(a.frame, [a])] = [a.frame] from rfl,
        (List.perm_append_singleton _ _).nodup_iff]
      exact List.nodup_cons.mpr ⟨hk, hinv.nodup⟩

/-- One arrival, everything the later theorems need: the invariant is kept, and the expiry loop
    sorts the open groups (after the arrival joined) into those the arrival closes and the rest. -/
theorem stepG_spec {w : Nat} {s : State} (a : Arrival) (hinv : Inv w s) :
    Expires w a.t (push s.cache a) (stepG w s a) := by
  simp only [stepG, isFirst_eq, expiry_eq, decide_eq_true_eq]
  exact expire_spec w a.t _ _ (push_inv a hinv) (Nat.le_succ _)

theorem mem_stepG_closed {w : Nat} {s : State} (a : Arrival) (hinv : Inv w s) {g : Group} :
    g ∈ (stepG w s a).2 ↔ g ∈ push s.cache a ∧ firstT g + w ≤ a.t := by
  rw [(stepG_spec a hinv).closed.mem_iff, List.mem_filter, closes_iff]

theorem mem_stepG_cache {w : Nat} {s : State} (a : Arrival) (hinv : Inv w s) {g : Group} :
    g ∈ (stepG w s a).1.cache ↔ g ∈ push s.cache a ∧ a.t < firstT g + w := by
  rw [(stepG_spec a hinv).cache, List.mem_filter, Bool.not_eq_true', closes_false_iff]

theorem stepG_partition {w : Nat} {s : State} (a : Arrival) (hinv : Inv w s) :
    ((stepG w s a).2 ++ (stepG w s a).1.cache).Perm (push s.cache a) := by
  rw [(stepG_spec a hinv).cache]
  exact ((stepG_spec a hinv).closed.append_right _).trans (List.filter_append_perm _ _)

end Rs1090.Dedup
