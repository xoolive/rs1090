/-
C15 helper lemmas: the track estimate lies in [0, 360), on exact rationals, for arbitrary
`sqrt` / `atan2`.
-/
import Rs1090.Model.Flarm
import Mathlib.Data.Rat.Floor
import Mathlib.Tactic.Linarith
namespace Rs1090.Proofs.Flarm
open Rs1090 Rs1090.Model.Flarm Rs1090.Gen.Flarm

theorem remEuclid_range (x m : Rat) (hm : 0 < m) : 0 ≤ remEuclid x m ∧ remEuclid x m < m := by
  unfold remEuclid
  have h1 : ((x / m).floor : Rat) ≤ x / m := Rat.floor_le _
  have h2 : x / m < (((x / m).floor + 1 : Int) : Rat) := Rat.lt_floor_add_one _
  rw [le_div_iff₀ hm] at h1
  rw [div_lt_iff₀ hm] at h2
  push_cast at h2
  constructor <;> nlinarith

/-- On exact numbers the corner arm of `wrapTrack` is never taken: the range does not rely on it. -/
theorem wrapTrack_arm_dead (t4 t8 : Rat) :
    wrapTrack t4 t8 =
      remEuclid (t4 - (EXTRAP_MUL : Rat) * turningRate t4 t8 / (EXTRAP_DIV : Rat)) 360 := by
  unfold wrapTrack
  simp only [WRAP_FULL, WRAP_CORNER, WRAP_CORNER_VALUE, Nat.cast_ofNat, Nat.cast_zero]
  have h := remEuclid_range (t4 - (EXTRAP_MUL : Rat) * turningRate t4 t8 / (EXTRAP_DIV : Rat)) 360 (by norm_num)
  rw [if_neg (not_le.mpr h.2)]

theorem wrapTrack_range (t4 t8 : Rat) : 0 ≤ wrapTrack t4 t8 ∧ wrapTrack t4 t8 < 360 := by
  rw [wrapTrack_arm_dead]
  exact remEuclid_range _ 360 (by norm_num)

theorem fmodPos_range (x m : Rat) (hm : 0 < m) : -m < fmodPos x m ∧ fmodPos x m < m := by
  unfold fmodPos
  split
  · have := remEuclid_range x m hm
    constructor <;> linarith [this.1, this.2]
  · have := remEuclid_range (-x) m hm
    constructor <;> linarith [this.1, this.2]

theorem remEuclidR_range (rnd : Rat → Rat) (hmono : ∀ a b, a ≤ b → rnd a ≤ rnd b)
    (x m : Rat) (hm : 0 < m) (h0 : rnd 0 = 0) (hmm : rnd m = m) :
    0 ≤ remEuclidR rnd x m ∧ remEuclidR rnd x m ≤ m := by
  unfold remEuclidR
  have h := fmodPos_range x m hm
  simp only
  split
  · rename_i hneg
    constructor
    · have := hmono 0 (fmodPos x m + m) (by linarith [h.1])
      rw [h0] at this; exact this
    · have := hmono (fmodPos x m + m) m (by linarith)
      rw [hmm] at this; exact this
  · rename_i hpos
    exact ⟨not_lt.mp hpos, le_of_lt h.2⟩

theorem wrapR_range (rnd : Rat → Rat) (hmono : ∀ a b, a ≤ b → rnd a ≤ rnd b)
    (h0 : rnd 0 = 0) (h360 : rnd 360 = 360) (t : Rat) : 0 ≤ wrapR rnd t ∧ wrapR rnd t < 360 := by
  unfold wrapR
  simp only [WRAP_FULL, WRAP_CORNER, WRAP_CORNER_VALUE, Nat.cast_ofNat, Nat.cast_zero]
  have h := remEuclidR_range rnd hmono t 360 (by norm_num) h0 h360
  split
  · constructor <;> norm_num
  · rename_i hlt
    exact ⟨h.1, not_le.mp hlt⟩

/-- a monotone rounding fixing 0 and 360 (everything above 359 goes up to 360) -/
def coarse (x : Rat) : Rat := if 359 < x then max x 360 else x

theorem coarse_mono (a b : Rat) (h : a ≤ b) : coarse a ≤ coarse b := by
  unfold coarse
  split <;> split
  · exact max_le_max h (le_refl _)
  · rename_i h1 h2; exact absurd (lt_of_lt_of_le h1 h) h2
  · rename_i h1 h2
    exact le_trans h (le_max_left _ _)
  · exact h

/-- … under which the rounded `rem_euclid` of a tiny negative angle IS 360: without the arm the
    range `[0, 360)` would be left. -/
theorem remEuclidR_reaches_corner :
    coarse 0 = 0 ∧ coarse 360 = 360 ∧ remEuclidR coarse (-1 / 2) 360 = 360 ∧ wrapR coarse (-1 / 2) = 0 := by
  decide +kernel

/-- the formula before the repair (`track4 − turning_rate`) does leave the range -/
theorem unrepaired_track_leaves_range :
    (10 : Rat) - turningRate 10 100 < 0 ∧ (350 : Rat) - turningRate 350 260 ≥ 360 := by
  decide +kernel


theorem trackDivisor_pos (v : Rat) : 0 < trackDivisor v := by
  unfold trackDivisor
  simp only [V_EPS_NUM, V_EPS_DEN, V_FLOOR, Nat.cast_ofNat, Nat.cast_one]
  split
  · norm_num
  · rename_i h
    have : (1 : Rat) / 1000000 ≤ v := not_lt.mp h
    have : (0 : Rat) < 1 / 1000000 := by norm_num
    linarith

end Rs1090.Proofs.Flarm
