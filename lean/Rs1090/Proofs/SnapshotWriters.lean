/-
The table under all its writers — `update_snapshot`, `store_history` and the expiry task
(`Model/SnapshotWriters.lean`) — for Props/C12.lean.  The entry of `k` is the fold of `k`'s own steps since the
last pass that removed it (`sinceRemoval`, characterised by what appending one step does to it); count,
first / last seen and provenance are facts about such folds, and the table of `update_snapshot` alone is the
case where every step is a `record`.
-/
import Rs1090.Model.SnapshotWriters
import Rs1090.Proofs.Snapshot
namespace Rs1090.Proofs.SnapshotWriters
open Rs1090 Rs1090.Model.Snapshot Rs1090.Model.SnapshotWriters Rs1090.Spec.Snapshot Rs1090.Proofs.Snapshot

/-- the address shown by the record a writer was called on; an expiry pass is called on none -/
def stepAddr : Step → Option Addr
  | .record r => r.addr
  | .history r => r.addr
  | .expire _ => none

/-- the time stamp of that record (`0` for an expiry pass, where it is never looked at) -/
def stepTs : Step → Nat
  | .record r => r.ts
  | .history r => r.ts
  | .expire _ => 0

def isRecord : Step → Bool
  | .record _ => true
  | _ => false

def isExpire : Step → Bool
  | .expire _ => true
  | _ => false

/-- `k`'s own steps: the `update_snapshot` / `store_history` calls on records showing address `k` -/
def ownSteps (k : Addr) (s : List Step) : List Step := s.filter fun x => stepAddr x = some k

/-- the records `update_snapshot` was called on -/
def recordsOf (s : List Step) : List Record :=
  s.filterMap fun x => match x with
    | .record r => some r
    | _ => none

/-- what one of `k`'s own steps does to `k`'s entry: `update_snapshot` creates it if need be and touches it,
    `store_history` only creates it; on an expiry pass it is what a pass that keeps the entry does -/
def stepOwn (k : Addr) (oe : Option Entry) : Step → Option Entry
  | .record r => some (touch r (oe.getD (Entry.new r.ts k)))
  | .history r => some (oe.getD (Entry.new r.ts k))
  | .expire _ => oe

/-- the expiry pass at `now` takes `k`'s entry out of `t` -/
def removesK (minutes : Nat) (k : Addr) (t : Table) (now : Nat) : Bool :=
  (entryOf k t).isSome && (entryOf k (expireStep now minutes t)).isNone

/-- fold state of `sinceRemoval`: the table so far, and the steps since `k`'s entry was last removed -/
def sinceStep (minutes : Nat) (k : Addr) (st : Table × List Step) (x : Step) : Table × List Step :=
  match x with
  | .expire now =>
    if removesK minutes k st.1 now then (stepLive minutes st.1 x, [])
    else (stepLive minutes st.1 x, st.2 ++ [x])
  | _ => (stepLive minutes st.1 x, st.2 ++ [x])

/-- the steps after the last expiry pass that removed `k`'s entry (all steps when none did) -/
def sinceRemoval (minutes : Nat) (k : Addr) (s : List Step) : List Step :=
  (s.foldl (sinceStep minutes k) ([], [])).2

/-- no evaluation of the removal test overflows: every time stamp plus the expiry delay fits `u64` -/
def NoOverflow (minutes : Nat) (s : List Step) : Prop :=
  ∀ x ∈ s, isExpire x = false → stepTs x + minutes * 60 < 2 ^ 64

/-- the `retain` predicate of the pass at `now`: an entry goes only where the test evaluates to `true` -/
def keeps (now minutes : Nat) (e : Entry) : Bool :=
  match expired now minutes e with
  | .ok true => false
  | _ => true

theorem expire_ok_filter (now m : Nat) : ∀ (t t' : Table), expire now m t = .ok t' →
    t' = t.filter (keeps now m) := by
  intro t
  induction t with
  | nil => intro t' h; cases h; rfl
  | cons e t ih =>
    intro t' h
    unfold expire at h
    cases he : expired now m e with
    | err x => rw [he, Outcome.bind_err] at h; cases h
    | panic x => rw [he, Outcome.bind_panic] at h; cases h
    | ok b =>
      rw [he, Outcome.bind_ok] at h
      cases ht : expire now m t with
      | err x => rw [ht, Outcome.bind_err] at h; cases h
      | panic x => rw [ht, Outcome.bind_panic] at h; cases h
      | ok t'' =>
        rw [ht, Outcome.bind_ok] at h
        cases h
        rw [List.filter_cons, ← ih t'' ht]
        cases b <;> simp [keeps, he]

/- Without `Bounded` a pass may stop on an overflow and leave the table as it was: `expireStep_cases` and
   `entryOf_expireStep_cases` hold of every table, `expireStep_of_bounded` and `entryOf_expireStep` say which
   case it is when nothing overflows. -/
theorem expireStep_cases (now m : Nat) (t : Table) :
    expireStep now m t = t ∨ expireStep now m t = t.filter (keeps now m) := by
  unfold expireStep
  cases h : expire now m t with
  | ok t' => right; exact expire_ok_filter now m t t' h
  | err x => left; rfl
  | panic x => left; rfl

theorem keys_filter_sublist (p : Entry → Bool) (t : Table) : (keys (t.filter p)).Sublist (keys t) :=
  (List.filter_sublist).map _

theorem entryOf_filter (k : Addr) (p : Entry → Bool) : ∀ t : Table, (keys t).Nodup →
    entryOf k (t.filter p) = (entryOf k t).filter p := by
  intro t
  induction t with
  | nil => intro _; rfl
  | cons e t ih =>
    intro hn
    obtain ⟨hk, hn'⟩ := List.nodup_cons.mp hn
    rw [List.filter_cons, entryOf_cons]
    by_cases he : e.icao24 = k
    · rw [if_pos he, Option.filter_some]
      split
      · exact if_pos he
      · -- `e` is the only entry under `k`: once it is dropped there is none
        rw [ih hn']
        have : entryOf k t = none := by
          cases h : entryOf k t with
          | none => rfl
          | some e' => exact absurd ((mem_keys_iff_entryOf k t).mpr (by rw [h]; rfl)) (he ▸ hk)
        rw [this]; rfl
    · rw [if_neg he, ← ih hn']
      split
      · exact if_neg he
      · rfl

/-- `update_snapshot` and `store_history` as one `upsertAt`: what each does to the entry it found or made -/
def stepFn : Step → Entry → Entry
  | .record r => touch r
  | _ => id

theorem stepFn_icao24 (x : Step) (e : Entry) : (stepFn x e).icao24 = e.icao24 := by
  cases x <;> first | exact touch_icao24 _ e | rfl

theorem stepLive_eq (m : Nat) (t : Table) (x : Step) (hx : isExpire x = false) :
    stepLive m t x = upsertAt (stepAddr x) (stepTs x) (stepFn x) t := by
  cases x <;> first | rfl | cases hx

theorem keys_stepLive_nodup (m : Nat) (t : Table) (x : Step) (ht : (keys t).Nodup) :
    (keys (stepLive m t x)).Nodup := by
  cases x with
  | expire now =>
    rcases expireStep_cases now m t with h | h <;> rw [stepLive, h]
    · exact ht
    · exact ht.sublist (keys_filter_sublist _ t)
  | record r => exact stepLive_eq m t (.record r) rfl ▸ keys_upsertAt_nodup _ _ _ (stepFn_icao24 _) t ht
  | history r => exact stepLive_eq m t (.history r) rfl ▸ keys_upsertAt_nodup _ _ _ (stepFn_icao24 _) t ht

theorem keys_foldl_nodup (m : Nat) (s : List Step) : ∀ t : Table, (keys t).Nodup →
    (keys (s.foldl (stepLive m) t)).Nodup := by
  induction s with
  | nil => intro t ht; exact ht
  | cons x s ih => intro t ht; exact ih _ (keys_stepLive_nodup m t x ht)

theorem keys_runLive_nodup (m : Nat) (s : List Step) : (keys (runLive m s)).Nodup :=
  keys_foldl_nodup m s [] List.nodup_nil

theorem entryOf_stepLive (m : Nat) (t : Table) {x : Step} (hx : isExpire x = false) (k : Addr) :
    entryOf k (stepLive m t x) = if stepAddr x = some k then stepOwn k (entryOf k t) x else entryOf k t := by
  rw [stepLive_eq m t x hx, entryOf_upsertAt _ _ _ (stepFn_icao24 x)]
  cases x <;> first | rfl | cases hx

theorem entryOf_expireStep_cases (now m : Nat) (t : Table) (k : Addr) (ht : (keys t).Nodup) :
    entryOf k (expireStep now m t) = entryOf k t ∨ entryOf k (expireStep now m t) = none := by
  rcases expireStep_cases now m t with h | h <;> rw [h]
  · left; rfl
  · rw [entryOf_filter k _ t ht]
    cases entryOf k t with
    | none => left; rfl
    | some e =>
      rw [Option.filter_some]
      split
      · left; rfl
      · right; rfl

theorem snoc_induction {α : Type} {motive : List α → Prop} (nil : motive [])
    (snoc : ∀ l x, motive l → motive (l ++ [x])) (l : List α) : motive l := by
  have : ∀ l : List α, motive l.reverse := by
    intro l
    induction l with
    | nil => exact nil
    | cons a l ih => rw [List.reverse_cons]; exact snoc _ a ih
  rw [← List.reverse_reverse l]; exact this _

theorem ownSteps_snoc (k : Addr) (s : List Step) (x : Step) :
    ownSteps k (s ++ [x]) = if stepAddr x = some k then ownSteps k s ++ [x] else ownSteps k s := by
  unfold ownSteps
  rw [List.filter_append, List.filter_cons, List.filter_nil]
  simp only [decide_eq_true_eq]
  split
  · rfl
  · exact List.append_nil _

theorem runLive_snoc (m : Nat) (s : List Step) (x : Step) : runLive m (s ++ [x]) = stepLive m (runLive m s) x := by
  unfold runLive; rw [List.foldl_append]; rfl

theorem sinceStep_fst (m : Nat) (k : Addr) (st : Table × List Step) (x : Step) :
    (sinceStep m k st x).1 = stepLive m st.1 x := by
  cases x with
  | expire now => simp only [sinceStep]; split <;> rfl
  | _ => rfl

theorem foldl_sinceStep_fst (m : Nat) (k : Addr) (s : List Step) : ∀ st : Table × List Step,
    (s.foldl (sinceStep m k) st).1 = s.foldl (stepLive m) st.1 := by
  induction s with
  | nil => intro st; rfl
  | cons x s ih => intro st; rw [List.foldl_cons, List.foldl_cons, ih, sinceStep_fst]

theorem since_fst (m : Nat) (k : Addr) (s : List Step) :
    (s.foldl (sinceStep m k) ([], [])).1 = runLive m s :=
  foldl_sinceStep_fst m k s ([], [])

theorem sinceRemoval_snoc (m : Nat) (k : Addr) (s : List Step) (x : Step) :
    sinceRemoval m k (s ++ [x]) = (sinceStep m k (runLive m s, sinceRemoval m k s) x).2 := by
  unfold sinceRemoval
  rw [List.foldl_append, ← since_fst m k s]
  rfl

theorem sinceRemoval_snoc_removed {m : Nat} {k : Addr} {s : List Step} {now : Nat}
    (h : removesK m k (runLive m s) now = true) : sinceRemoval m k (s ++ [.expire now]) = [] := by
  rw [sinceRemoval_snoc]; simp only [sinceStep, h, if_true]

theorem sinceRemoval_snoc_kept {m : Nat} {k : Addr} {s : List Step} {x : Step}
    (h : ∀ now, x = .expire now → removesK m k (runLive m s) now = false) :
    sinceRemoval m k (s ++ [x]) = sinceRemoval m k s ++ [x] := by
  rw [sinceRemoval_snoc]
  cases x with
  | expire now => simp only [sinceStep, h now rfl, Bool.false_eq_true, if_false]
  | _ => rfl

theorem entry_since (m : Nat) (k : Addr) (s : List Step) :
    entryOf k (runLive m s) = (ownSteps k (sinceRemoval m k s)).foldl (stepOwn k) none := by
  induction s using snoc_induction with
  | nil => rfl
  | snoc s x ih =>
    rw [runLive_snoc]
    by_cases hr : ∃ now, x = .expire now ∧ removesK m k (runLive m s) now = true
    · obtain ⟨now, rfl, hr⟩ := hr
      rw [sinceRemoval_snoc_removed hr]
      simp only [removesK, Bool.and_eq_true, Option.isNone_iff_eq_none] at hr
      exact hr.2
    · have hk : ∀ now, x = .expire now → removesK m k (runLive m s) now = false := fun now hx =>
        Bool.eq_false_iff.mpr fun h => hr ⟨now, hx, h⟩
      rw [sinceRemoval_snoc_kept hk, ownSteps_snoc]
      cases x with
      | expire now =>
        -- a pass that does not remove `k`'s entry keeps it, or there was none
        rw [if_neg (fun h => by cases h), ← ih]
        rcases entryOf_expireStep_cases now m (runLive m s) k (keys_runLive_nodup m s) with h | h
        · exact h
        · have := hk now rfl
          simp only [removesK, stepLive, h, Option.isNone_none, Bool.and_true, Option.isSome_eq_false_iff,
            Option.isNone_iff_eq_none] at this ⊢
          exact this.symm
      | _ =>
        rw [entryOf_stepLive m _ rfl k, ih]
        split
        · rw [List.foldl_append]; rfl
        · rfl

theorem mem_ownSteps {k : Addr} {s : List Step} {x : Step} : x ∈ ownSteps k s ↔ x ∈ s ∧ stepAddr x = some k := by
  simp [ownSteps]

theorem recordsOf_cons (x : Step) (l : List Step) :
    recordsOf (x :: l) = match x with
      | .record r => r :: recordsOf l
      | _ => recordsOf l := by
  cases x <;> rfl

theorem mem_recordsOf {s : List Step} {r : Record} : r ∈ recordsOf s ↔ Step.record r ∈ s := by
  unfold recordsOf
  rw [List.mem_filterMap]
  constructor
  · rintro ⟨x, hx, h⟩
    cases x <;> cases h
    exact hx
  · intro h; exact ⟨_, h, rfl⟩

theorem recordsOf_append (a b : List Step) : recordsOf (a ++ b) = recordsOf a ++ recordsOf b :=
  List.filterMap_append

theorem recordsOf_map_record (l : List Record) : recordsOf (l.map .record) = l := by
  induction l with
  | nil => rfl
  | cons r l ih => exact congrArg (r :: ·) ih

theorem foldl_stepK (k : Addr) (l : List Record) (oe : Option Entry) :
    l.foldl (stepK k) oe = (l.map .record).foldl (stepOwn k) oe := by
  rw [List.foldl_map]; rfl

/-- on an existing entry `store_history` changes nothing -/
theorem foldOwn_some (k : Addr) (l : List Step) : ∀ e : Entry,
    l.foldl (stepOwn k) (some e) = (recordsOf l).foldl (stepK k) (some e) := by
  induction l with
  | nil => intro e; rfl
  | cons x l ih => intro e; cases x <;> exact ih _

theorem foldOwn_record_first (k : Addr) (r : Record) (l : List Step) :
    (Step.record r :: l).foldl (stepOwn k) none = (recordsOf (Step.record r :: l)).foldl (stepK k) none :=
  foldOwn_some k l _

/-- the `count` of an entry that may not be there yet -/
def cnt (oe : Option Entry) : Nat := (oe.map (·.count)).getD 0

theorem foldOwn_count (k : Addr) (l : List Step) : ∀ oe : Option Entry,
    cnt (l.foldl (stepOwn k) oe) = cnt oe + (recordsOf l).length := by
  induction l with
  | nil => intro oe; rfl
  | cons x l ih =>
    intro oe
    rw [List.foldl_cons, ih, recordsOf_cons]
    cases x with
    | record r =>
      have : cnt (stepOwn k oe (.record r)) = cnt oe + 1 := by
        cases oe <;> simp [cnt, stepOwn, touch_count, Entry.new]
      rw [this, List.length_cons]; omega
    | history r => cases oe <;> rfl
    | expire n => rfl

theorem lastRecord_cons (r : Record) (l : List Step) (d : Nat) :
    ((((Step.record r :: l).filter isRecord).getLast?).map stepTs).getD d
      = (((l.filter isRecord).getLast?).map stepTs).getD r.ts := by
  rw [List.filter_cons_of_pos rfl, List.getLast?_cons]
  cases (l.filter isRecord).getLast? <;> rfl

theorem foldOwn_seen (k : Addr) (l : List Step) : ∀ e e' : Entry, l.foldl (stepOwn k) (some e) = some e' →
    e'.firstseen = e.firstseen ∧
    e'.lastseen = (((l.filter isRecord).getLast?).map stepTs).getD e.lastseen := by
  induction l with
  | nil => intro e e' h; cases h; exact ⟨rfl, rfl⟩
  | cons x l ih =>
    intro e e' h
    cases x with
    | record r =>
      obtain ⟨h1, h2⟩ := ih (touch r e) e' h
      rw [touch_firstseen] at h1
      rw [touch_lastseen] at h2
      exact ⟨h1, h2.trans (lastRecord_cons r l _).symm⟩
    | history r => exact ih e e' h
    | expire n => exact ih e e' h

theorem foldOwn_seen_none (k : Addr) (l : List Step) (hl : ∀ x ∈ l, isExpire x = false) (e : Entry)
    (h : l.foldl (stepOwn k) none = some e) :
    l.head?.map stepTs = some e.firstseen ∧
    e.lastseen = (((l.filter isRecord).getLast?).map stepTs).getD e.firstseen := by
  cases l with
  | nil => cases h
  | cons x l =>
    cases x with
    | record r =>
      obtain ⟨h1, h2⟩ := foldOwn_seen k l _ e h
      rw [touch_firstseen] at h1
      rw [touch_lastseen] at h2
      exact ⟨congrArg some h1.symm, h2.trans (lastRecord_cons r l _).symm⟩
    | history r =>
      obtain ⟨h1, h2⟩ := foldOwn_seen k l _ e h
      exact ⟨congrArg some h1.symm, by rw [h2, h1]; rfl⟩
    | expire n => cases hl _ (List.mem_cons_self ..)

/-- a held value is carried by a record an `update_snapshot` step of the fold was called on:
    `store_history` and the expiry pass copy nothing -/
theorem foldOwn_prov (k : Addr) (l : List Step) : ∀ (oe : Option Entry) (seen : List Record),
    Prov seen oe → Prov (seen ++ recordsOf l) (l.foldl (stepOwn k) oe) := by
  induction l with
  | nil => intro oe seen h; exact h.mono (List.subset_append_left ..)
  | cons x l ih =>
    intro oe seen h
    rw [List.foldl_cons, recordsOf_cons]
    cases x with
    | record r =>
      have := ih _ _ (h.touch r k)
      rwa [List.append_assoc] at this
    | history r => exact ih _ _ (h.getD_new r.ts k)
    | expire n => exact ih _ _ h

/- `fold_seen` and `fold_prov`: the table of `update_snapshot` alone.  Its fold over records is the own fold over
   steps that are all `record`s (`foldl_stepK`), so both are read off the `foldOwn_*` lemmas. -/
theorem fold_seen (k : Addr) (l : List Record) (e : Entry) (h : l.foldl (stepK k) none = some e) :
    e.count = l.length ∧ l.head?.map (·.ts) = some e.firstseen ∧ l.getLast?.map (·.ts) = some e.lastseen := by
  rw [foldl_stepK] at h
  have hrec : ∀ x ∈ l.map Step.record, isRecord x = true := by
    intro x hx; obtain ⟨r, _, rfl⟩ := List.mem_map.mp hx; rfl
  have hc := foldOwn_count k (l.map .record) none
  obtain ⟨h1, h2⟩ := foldOwn_seen_none k _ (fun x hx => by cases x <;> first | rfl | cases hrec _ hx) e h
  rw [h, recordsOf_map_record] at hc
  rw [List.head?_map, Option.map_map] at h1
  rw [List.filter_eq_self.mpr hrec, List.getLast?_map, Option.map_map] at h2
  refine ⟨by simpa [cnt] using hc, h1, ?_⟩
  cases hl : l.getLast? with
  | none => rw [List.getLast?_eq_none_iff.mp hl] at h; cases h
  | some r => rw [hl] at h2; exact congrArg some h2.symm

theorem fold_prov (k : Addr) (l : List Record) (e : Entry) (h : l.foldl (stepK k) none = some e)
    (f : Field) (v : Val) (hv : entryField e f = some v) : ∃ r, r ∈ l ∧ v ∈ carried r f := by
  rw [foldl_stepK] at h
  have := foldOwn_prov k (l.map .record) none [] (fun _ _ _ h => by cases h) e f v h hv
  rwa [List.nil_append, recordsOf_map_record] at this

/-- `pre` is empty or ends with a pass that removes `k`'s entry -/
def EndsWithRemoval (m : Nat) (k : Addr) (pre : List Step) : Prop :=
  pre = [] ∨ ∃ p now, pre = p ++ [Step.expire now] ∧ removesK m k (runLive m p) now = true

/-- no pass inside `seg` (run after `pre`) removes `k`'s entry -/
def NoRemovalIn (m : Nat) (k : Addr) (pre seg : List Step) : Prop :=
  ∀ p1 now p2, seg = p1 ++ Step.expire now :: p2 → removesK m k (runLive m (pre ++ p1)) now = false

theorem NoRemovalIn.nil (m : Nat) (k : Addr) (pre : List Step) : NoRemovalIn m k pre [] := by
  intro p1 now p2 h; cases p1 <;> cases h

theorem NoRemovalIn.snoc {m : Nat} {k : Addr} {pre seg : List Step} {x : Step} (h : NoRemovalIn m k pre seg)
    (hx : ∀ now, x = .expire now → removesK m k (runLive m (pre ++ seg)) now = false) :
    NoRemovalIn m k pre (seg ++ [x]) := by
  intro p1 now p2 hsplit
  -- the pass is the appended step, or it lies inside `seg`
  rcases List.eq_nil_or_concat p2 with rfl | ⟨q, y, rfl⟩
  · obtain ⟨ha, hb⟩ := List.append_inj' hsplit rfl
    rw [← ha]; exact hx now (List.cons.inj hb).1
  · rw [List.concat_eq_append, ← List.cons_append, ← List.append_assoc] at hsplit
    exact h p1 now q (List.append_inj' hsplit rfl).1

theorem since_spec (m : Nat) (k : Addr) (s : List Step) :
    ∃ pre, s = pre ++ sinceRemoval m k s ∧ EndsWithRemoval m k pre ∧ NoRemovalIn m k pre (sinceRemoval m k s) := by
  induction s using snoc_induction with
  | nil => exact ⟨[], rfl, .inl rfl, .nil m k []⟩
  | snoc s x ih =>
    obtain ⟨pre, hs, hend, hno⟩ := ih
    by_cases hr : ∃ now, x = .expire now ∧ removesK m k (runLive m s) now = true
    · obtain ⟨now, rfl, hr⟩ := hr
      rw [sinceRemoval_snoc_removed hr]
      exact ⟨_, (List.append_nil _).symm, .inr ⟨s, now, rfl, hr⟩, .nil m k _⟩
    · have hk : ∀ now, x = .expire now → removesK m k (runLive m s) now = false := fun now hx =>
        Bool.eq_false_iff.mpr fun h => hr ⟨now, hx, h⟩
      rw [sinceRemoval_snoc_kept hk]
      exact ⟨pre, by rw [← List.append_assoc, ← hs], hend, hno.snoc (by rw [← hs]; exact hk)⟩

/-- the removal test overflows on no entry of `t`; under it the pass is a plain `filter` on `lastseen` -/
def Bounded (m : Nat) (t : Table) : Prop := ∀ e ∈ t, e.lastseen + m * 60 < 2 ^ 64

theorem expired_of_bounded (now m : Nat) (e : Entry) (h : e.lastseen + m * 60 < 2 ^ 64) :
    expired now m e = .ok (decide (now > e.lastseen + m * 60)) := by
  have hm : m * 60 < 2 ^ 64 := by omega
  unfold expired
  rw [mulU_ok hm, Outcome.bind_ok, addU_ok h, Outcome.bind_ok]

theorem expire_of_bounded (now m : Nat) : ∀ t : Table, Bounded m t →
    expire now m t = .ok (t.filter fun e => !decide (now > e.lastseen + m * 60)) := by
  intro t
  induction t with
  | nil => intro _; rfl
  | cons e t ih =>
    intro hb
    have he := expired_of_bounded now m e (hb e (List.mem_cons_self ..))
    have ht := ih (fun e' he' => hb e' (List.mem_cons_of_mem _ he'))
    unfold expire
    rw [he, Outcome.bind_ok, ht, Outcome.bind_ok, List.filter_cons]
    by_cases hn : now > e.lastseen + m * 60 <;> simp [hn]

theorem expireStep_of_bounded (now m : Nat) (t : Table) (hb : Bounded m t) :
    expireStep now m t = t.filter fun e => !decide (now > e.lastseen + m * 60) := by
  unfold expireStep; rw [expire_of_bounded now m t hb]

theorem entryOf_expireStep (now m : Nat) (k : Addr) (t : Table) (hn : (keys t).Nodup) (hb : Bounded m t) :
    entryOf k (expireStep now m t) = (entryOf k t).bind fun e => if now > e.lastseen + m * 60 then none else some e := by
  rw [expireStep_of_bounded now m t hb, entryOf_filter k _ t hn]
  cases entryOf k t with
  | none => rfl
  | some e => by_cases h : now > e.lastseen + m * 60 <;> simp [Option.filter, h]

theorem removesK_iff (m : Nat) (k : Addr) (t : Table) (now : Nat) (hn : (keys t).Nodup) (hb : Bounded m t) :
    removesK m k t now = true ↔ ∃ e, entryOf k t = some e ∧ now > e.lastseen + m * 60 := by
  unfold removesK
  rw [entryOf_expireStep now m k t hn hb]
  cases entryOf k t with
  | none => simp
  | some e => by_cases h : now > e.lastseen + m * 60 <;> simp [h]

theorem mem_upsert (k : Addr) (ts : Nat) (f : Entry → Entry) : ∀ (t : Table) (e' : Entry),
    e' ∈ upsert k ts f t → e' ∈ t ∨ (∃ e, e ∈ t ∧ e' = f e) ∨ e' = f (Entry.new ts k) := by
  intro t
  induction t with
  | nil => intro e' h; exact .inr (.inr (List.mem_singleton.mp h))
  | cons x t ih =>
    intro e' h
    rw [upsert_cons] at h
    split at h
    · rcases List.mem_cons.mp h with h | h
      · exact .inr (.inl ⟨x, List.mem_cons_self .., h⟩)
      · exact .inl (List.mem_cons_of_mem _ h)
    · rcases List.mem_cons.mp h with h | h
      · exact .inl (h ▸ List.mem_cons_self ..)
      · rcases ih e' h with h | ⟨e, he, h⟩ | h
        · exact .inl (List.mem_cons_of_mem _ h)
        · exact .inr (.inl ⟨e, List.mem_cons_of_mem _ he, h⟩)
        · exact .inr (.inr h)

theorem bounded_upsertAt (m : Nat) (a : Option Addr) (ts : Nat) (f : Entry → Entry) (t : Table) (hb : Bounded m t)
    (hts : ts + m * 60 < 2 ^ 64)
    (hf : ∀ e, e.lastseen + m * 60 < 2 ^ 64 → (f e).lastseen + m * 60 < 2 ^ 64) :
    Bounded m (upsertAt a ts f t) := by
  cases a with
  | none => exact hb
  | some k =>
    intro e' he'
    rcases mem_upsert k ts f t e' he' with h | ⟨e, he, h⟩ | h
    · exact hb e' h
    · rw [h]; exact hf e (hb e he)
    · rw [h]; exact hf _ hts

theorem bounded_stepLive (m : Nat) (t : Table) (x : Step) (hb : Bounded m t)
    (hx : isExpire x = false → stepTs x + m * 60 < 2 ^ 64) : Bounded m (stepLive m t x) := by
  cases x with
  | expire now =>
    rw [stepLive, expireStep_of_bounded now m t hb]
    exact fun e' he' => hb e' (List.mem_filter.mp he').1
  | record r =>
    exact stepLive_eq m t (.record r) rfl ▸ bounded_upsertAt m _ _ _ t hb (hx rfl) fun e _ => by
      rw [stepFn, touch_lastseen]; exact hx rfl
  | history r => exact stepLive_eq m t (.history r) rfl ▸ bounded_upsertAt m _ _ _ t hb (hx rfl) fun _ h => h

theorem bounded_foldl (m : Nat) (s : List Step) : ∀ t : Table, Bounded m t → NoOverflow m s →
    Bounded m (s.foldl (stepLive m) t) := by
  induction s with
  | nil => intro t hb _; exact hb
  | cons x s ih =>
    intro t hb hno
    exact ih _ (bounded_stepLive m t x hb (hno x (List.mem_cons_self ..)))
      (fun y hy => hno y (List.mem_cons_of_mem _ hy))

theorem bounded_runLive (m : Nat) (s : List Step) (hno : NoOverflow m s) : Bounded m (runLive m s) :=
  bounded_foldl m s [] (by intro e he; cases he) hno

/-- `k`'s entry as a machine of its own: its own steps, and the removal test on its own `lastseen` -/
def stepEntry (minutes : Nat) (k : Addr) (oe : Option Entry) (x : Step) : Option Entry :=
  match x with
  | .expire now => oe.bind fun e => if now > e.lastseen + minutes * 60 then none else some e
  | _ => if stepAddr x = some k then stepOwn k oe x else oe

theorem live_fold (m : Nat) (k : Addr) (s : List Step) : ∀ t : Table, (keys t).Nodup → Bounded m t →
    NoOverflow m s → entryOf k (s.foldl (stepLive m) t) = s.foldl (stepEntry m k) (entryOf k t) := by
  induction s with
  | nil => intro t _ _ _; rfl
  | cons x s ih =>
    intro t hn hb hno
    have hx : isExpire x = false → stepTs x + m * 60 < 2 ^ 64 := hno x (List.mem_cons_self ..)
    rw [List.foldl_cons, List.foldl_cons,
      ih _ (keys_stepLive_nodup m t x hn) (bounded_stepLive m t x hb hx)
        (fun y hy => hno y (List.mem_cons_of_mem _ hy))]
    congr 1
    cases x with
    | expire now => exact entryOf_expireStep now m k t hn hb
    | _ => exact entryOf_stepLive m t rfl k

/-- the steps `stepEntry m k` looks at: `k`'s own and the expiry passes -/
def relevant (k : Addr) (s : List Step) : List Step :=
  s.filter fun x => decide (stepAddr x = some k) || isExpire x

theorem stepEntry_relevant (m : Nat) (k : Addr) (s : List Step) : ∀ oe : Option Entry,
    s.foldl (stepEntry m k) oe = (relevant k s).foldl (stepEntry m k) oe := by
  induction s with
  | nil => intro oe; rfl
  | cons x s ih =>
    intro oe
    unfold relevant
    rw [List.foldl_cons, List.filter_cons]
    split
    · rw [List.foldl_cons]; exact ih _
    · next hrel =>
      simp only [Bool.or_eq_true, decide_eq_true_eq, not_or, Bool.not_eq_true] at hrel
      have : stepEntry m k oe x = oe := by
        cases x with
        | expire now => cases hrel.2
        | record r => simp only [stepEntry, hrel.1, if_false]
        | history r => simp only [stepEntry, hrel.1, if_false]
      rw [this]; exact ih oe

theorem noOverflow_relevant (m : Nat) (k : Addr) (s : List Step) (h : NoOverflow m s) :
    NoOverflow m (relevant k s) :=
  fun x hx => h x (List.mem_filter.mp hx).1

theorem upsert_id_present (k : Addr) (ts : Nat) : ∀ t : Table, (entryOf k t).isSome = true →
    upsert k ts id t = t := by
  intro t
  induction t with
  | nil => intro h; cases h
  | cons x t ih =>
    intro h
    rw [upsert_cons]
    rw [entryOf_cons] at h
    split
    · rfl
    · next hx => rw [if_neg hx] at h; rw [ih h]

theorem storeHistory_after_update (t : Table) (r : Record) : storeHistory (update t r) r = update t r := by
  unfold storeHistory
  cases ha : r.addr with
  | none => rfl
  | some k =>
    apply upsert_id_present
    rw [show update t r = upsertAt r.addr r.ts (touch r) t from rfl, entryOf_upsertAt _ _ _ (touch_icao24 r), if_pos ha]
    rfl

theorem loopSteps_fold (m : Nat) (t : Table) (r : Record) (keep : Bool) :
    (loopSteps r keep).foldl (stepLive m) t = update t r := by
  cases keep
  · rfl
  · exact storeHistory_after_update t r

theorem liveOfHistory_cons (x : Record × Bool) (h : List (Record × Bool)) :
    liveOfHistory (x :: h) = loopSteps x.1 x.2 ++ liveOfHistory h := List.flatMap_cons

theorem liveOfHistory_fold (m : Nat) (h : List (Record × Bool)) : ∀ t : Table,
    (liveOfHistory h).foldl (stepLive m) t = (h.map (·.1)).foldl update t := by
  induction h with
  | nil => intro t; rfl
  | cons x h ih =>
    intro t
    rw [liveOfHistory_cons, List.foldl_append, loopSteps_fold, ih]
    rfl

theorem recordsOf_liveOfHistory (h : List (Record × Bool)) : recordsOf (liveOfHistory h) = h.map (·.1) := by
  induction h with
  | nil => rfl
  | cons x h ih =>
    rw [liveOfHistory_cons, recordsOf_append, ih]
    cases x.2 <;> rfl

theorem run_eq_runLive (m : Nat) (h : List Record) : run h = runLive m (h.map .record) := by
  unfold run runLive; rw [List.foldl_map]; rfl

theorem own_recordsOf (k : Addr) (s : List Step) : own k (recordsOf s) = recordsOf (ownSteps k s) := by
  unfold own recordsOf ownSteps
  rw [List.filter_filterMap, List.filterMap_filter]
  congr 1
  funext x
  cases x with
  | record r => exact Option.filter_some
  | _ => exact (ite_self _).symm

end Rs1090.Proofs.SnapshotWriters
