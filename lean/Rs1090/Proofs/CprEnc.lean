import Rs1090.Proofs.CprZone
import Rs1090.Proofs.CprNl
/-!
Closed forms of the DO-260B encoder (`Spec/Cpr.lean`) in terms of the lattice index `rnd`.  With `Nb = 17 + s`
bits (`s = 0` airborne, `s = 2` surface, of which the 17 low-order bits are transmitted), a zone size `d` and
a coordinate `v`, the encoder works on the `2^17` lattice of the zone `d / 2^s`:

    YZ               = rnd (v/(d/2^s)) − 2^(17+s) ⌊v/d⌋
    R (= Rlat, Rlon) = (d/2^s) · rnd (v/(d/2^s)) / 2^17
    transmitted      = YZ mod 2^17 = rnd (v/(d/2^s)) mod 2^17

so that a receiver that knows the zone recovers `R` exactly, and `|R − v| ≤ d/2^(18+s)`.  The last section
defines `report`, the encoder's output as a message of the decoder, which the C04–C06 statements are about.
-/
namespace Rs1090.Proofs.Cpr
open Rs1090 Rs1090.Spec.Cpr

theorem ratFloor (q : ℚ) : q.floor = ⌊q⌋ := rfl

/-- the encoder's field before truncation, for zone size `d`: `floor(2^nb · MOD(v,d)/d + 1/2)`;
    `yz nb i lat` is `fld nb (dlat i) lat` and `xz nb i rl lon` is `fld nb (dlon i rl) lon`, by definition -/
def fld (nb : Nat) (d v : ℚ) : ℤ := ((2 : ℚ) ^ nb * (fmod v d / d) + 1 / 2).floor

/-- the value the encoder expects the receiver to recover: `d · (fld / 2^nb + floor(v/d))` -/
def recv (nb : Nat) (d v : ℚ) : ℚ := d * ((fld nb d v : ℚ) / (2 : ℚ) ^ nb + ((v / d).floor : ℤ))

theorem rlat_eq_recv (nb i : Nat) (lat : ℚ) : rlat nb i lat = recv nb (dlat i) lat := rfl
theorem rlon_eq_recv (nb i : Nat) (rl lon : ℚ) : rlon nb i rl lon = recv nb (dlon i rl) lon := rfl

theorem fmod_div (v d : ℚ) (hd : d ≠ 0) : fmod v d / d = v / d - (⌊v / d⌋ : ℚ) := by
  unfold fmod
  rw [ratFloor]
  field_simp

theorem fld_eq (s : ℕ) (d v : ℚ) (hd : d ≠ 0) :
    fld (17 + s) d v = rnd (v / (d / 2 ^ s)) - 2 ^ (17 + s) * ⌊v / d⌋ := by
  unfold fld rnd
  rw [ratFloor, fmod_div v d hd]
  have : (2 : ℚ) ^ (17 + s) * (v / d - (⌊v / d⌋ : ℚ)) + 1 / 2
      = (131072 * (v / (d / 2 ^ s)) + 1 / 2) - ((2 ^ (17 + s) * ⌊v / d⌋ : ℤ) : ℚ) := by
    push_cast; rw [pow_add]; field_simp; ring
  rw [this, Int.floor_sub_intCast]

theorem recv_eq (s : ℕ) (d v : ℚ) (hd : d ≠ 0) :
    recv (17 + s) d v = d / 2 ^ s * ((rnd (v / (d / 2 ^ s)) : ℚ) / 131072) := by
  unfold recv
  rw [fld_eq s d v hd, ratFloor]
  push_cast
  rw [pow_add]
  field_simp
  ring

theorem recv17 (d v : ℚ) (hd : d ≠ 0) : recv 17 d v = d * ((rnd (v / d) : ℚ) / 131072) := by
  simpa using recv_eq 0 d v hd

/-- the transmitted 17 bits, as the fraction the decoder forms (the `s` high-order bits are dropped) -/
theorem field_eq (s : ℕ) (d v : ℚ) (hd : d ≠ 0) :
    (((fld (17 + s) d v % 131072).toNat : ℕ) : ℚ) / Model.Cpr.cprMax
      = frac17 (rnd (v / (d / 2 ^ s))) := by
  have h : fld (17 + s) d v % 131072 = rnd (v / (d / 2 ^ s)) % 131072 := by
    rw [fld_eq s d v hd, pow_add, mul_assoc]
    exact Int.sub_mul_emod_self_left ..
  have hnn : 0 ≤ rnd (v / (d / 2 ^ s)) % 131072 := by omega
  unfold frac17 Model.Cpr.cprMax Gen.Cpr.CPR_MAX
  rw [h, ← Int.cast_natCast, Int.toNat_of_nonneg hnn]
  norm_num

theorem recv_err (s : ℕ) (d v : ℚ) (hd : 0 < d) : |recv (17 + s) d v - v| ≤ d / 2 ^ (18 + s) := by
  have hz : 0 < d / 2 ^ s := by positivity
  rw [recv_eq s d v hd.ne']
  have e : d / 2 ^ s * ((rnd (v / (d / 2 ^ s)) : ℚ) / 131072) - v
      = d / 2 ^ s * ((rnd (v / (d / 2 ^ s)) : ℚ) / 131072 - v / (d / 2 ^ s)) := by
    field_simp
  rw [e, abs_mul, abs_of_pos hz]
  calc d / 2 ^ s * |(rnd (v / (d / 2 ^ s)) : ℚ) / 131072 - v / (d / 2 ^ s)|
      ≤ d / 2 ^ s * (1 / 262144) := mul_le_mul_of_nonneg_left (rnd_err _) hz.le
    _ = d / 2 ^ (18 + s) := by rw [pow_add]; field_simp; norm_num

theorem recv_err_le (s : ℕ) (d v : ℚ) (hd : 0 < d) : |recv (17 + s) d v - v| ≤ d / 262144 := by
  refine (recv_err s d v hd).trans (div_le_div_of_nonneg_left hd.le (by norm_num) ?_)
  have : (1 : ℚ) ≤ 2 ^ s := one_le_pow₀ one_le_two
  rw [pow_add]
  linarith

theorem recv17_err (d v : ℚ) (hd : 0 < d) : |recv 17 d v - v| ≤ d / 262144 := by
  have h := recv_err 0 d v hd; norm_num at h; exact h

theorem recv19_err (d v : ℚ) (hd : 0 < d) : |recv 19 d v - v| ≤ d / 1048576 := by
  have h := recv_err 2 d v hd; norm_num at h; exact h

theorem dlat0 : dlat 0 = 6 := by unfold dlat NZ; norm_num
theorem dlat1 : dlat 1 = 360 / 59 := by unfold dlat NZ; norm_num

theorem dlat_eq (i : Nat) : dlat i = 360 / (60 - (i : ℚ)) := by unfold dlat NZ; push_cast; norm_num

theorem dlat_bounds (i : ℕ) (hi : i ≤ 1) : 6 ≤ dlat i ∧ dlat i ≤ 360 / 59 := by
  obtain rfl | rfl : i = 0 ∨ i = 1 := by omega
  · rw [dlat0]; norm_num
  · rw [dlat1]; norm_num

theorem dlat_pos (i : Nat) (hi : i ≤ 1) : 0 < dlat i := by linarith [(dlat_bounds i hi).1]

/-- `Dlon_i = 360 / max(NL − i, 1)` (the standard's case distinction, with truncated subtraction) -/
theorem dlon_eq (i : Nat) (rl : ℚ) : dlon i rl = 360 / (((max (NL rl - i) 1 : ℕ)) : ℚ) := by
  unfold dlon
  by_cases h : i < NL rl
  · have h1 : ((NL rl : ℤ) - (i : ℤ) > 0) := by omega
    have h2 : max (NL rl - i) 1 = NL rl - i := by omega
    rw [if_pos h1, h2]
    congr 1
    have : ((NL rl - i : ℕ) : ℤ) = (NL rl : ℤ) - (i : ℤ) := by omega
    exact_mod_cast congrArg (Int.cast (R := ℚ)) this.symm
  · have h1 : ¬ ((NL rl : ℤ) - (i : ℤ) > 0) := by omega
    have h2 : max (NL rl - i) 1 = 1 := by omega
    rw [if_neg h1, h2]
    norm_num

theorem one_le_zones (n i : ℕ) : (1 : ℚ) ≤ ((max (n - i) 1 : ℕ) : ℚ) := by
  exact_mod_cast le_max_right _ _

theorem dlon_pos (i : Nat) (rl : ℚ) : 0 < dlon i rl := by
  rw [dlon_eq]
  exact div_pos (by norm_num) (lt_of_lt_of_le one_pos (one_le_zones _ _))

theorem dlon_le (i : ℕ) (rl : ℚ) : dlon i rl ≤ 360 := by
  rw [dlon_eq]
  exact div_le_self (by norm_num) (one_le_zones _ _)

theorem dlon_ge (i : ℕ) (rl : ℚ) : 360 / 59 ≤ dlon i rl := by
  rw [dlon_eq]
  have h : ((max (NL rl - i) 1 : ℕ) : ℚ) ≤ 59 := by
    have := (NL_range rl).2
    exact_mod_cast (by omega : max (NL rl - i) 1 ≤ 59)
  exact div_le_div_of_nonneg_left (by norm_num) (lt_of_lt_of_le one_pos (one_le_zones _ _)) h

/-! ### Reports
The message the encoder produces for a position, as the decoder's `Msg`; its two fields as lattice fractions;
its latitude `Rlat` within ±90°; and its indifference to whole turns of longitude. -/
section Report
open Rs1090.Model.Cpr

/-- the format-`i` report of `(lat, lon)`: `nb = 17` airborne (BDS 0,5), `nb = 19` surface (BDS 0,6) -/
def report (nb i : Nat) (lat lon : ℚ) : Msg :=
  ⟨if i = 0 then .even else .odd, (encode nb i lat lon).1, (encode nb i lat lon).2⟩

theorem report_parity (nb i : ℕ) (lat lon : ℚ) :
    (report nb i lat lon).parity = if i = 0 then .even else .odd := rfl

theorem report_fields_lt (nb i : ℕ) (lat lon : ℚ) :
    (report nb i lat lon).lat < 131072 ∧ (report nb i lat lon).lon < 131072 := by
  unfold report Spec.Cpr.encode
  constructor
  · show (Spec.Cpr.yz nb i lat % 131072).toNat < 131072
    omega
  · show (Spec.Cpr.xz nb i (Spec.Cpr.rlat nb i lat) lon % 131072).toNat < 131072
    omega

theorem report_lat (s i : Nat) (hi : i ≤ 1) (lat lon : ℚ) :
    ((report (17 + s) i lat lon).lat : ℚ) / cprMax = frac17 (rnd (lat / (dlat i / 2 ^ s))) :=
  field_eq s _ _ (dlat_pos i hi).ne'

theorem report_lon (s i : Nat) (lat lon : ℚ) :
    ((report (17 + s) i lat lon).lon : ℚ) / cprMax
      = frac17 (rnd (lon / (dlon i (rlat (17 + s) i lat) / 2 ^ s))) :=
  field_eq s _ _ (dlon_pos i _).ne'

theorem report_lat17 (i : Nat) (hi : i ≤ 1) (lat lon : ℚ) :
    ((report 17 i lat lon).lat : ℚ) / cprMax = frac17 (rnd (lat / dlat i)) := by
  simpa using report_lat 0 i hi lat lon

theorem report_lon17 (i : Nat) (lat lon : ℚ) :
    ((report 17 i lat lon).lon : ℚ) / cprMax = frac17 (rnd (lon / dlon i (rlat 17 i lat))) := by
  simpa using report_lon 0 i lat lon

/-- `±90 / Dlat_0 = ±15` are lattice points (the instance `i = 0`, `s = 0` of `hK` in `recv_range`) -/
theorem rnd_neg15 : rnd (-15) = -1966080 := by
  have := rnd_lattice (-1966080); norm_num at this; exact this
theorem rnd_pos15 : rnd 15 = 1966080 := by
  have := rnd_lattice 1966080; norm_num at this; exact this

/-- if `±90/d` are lattice points (index `±K`), the recovered value of any `v ∈ [-90, 90]` is in `[-90, 90]` -/
theorem recv_range (d : ℚ) (hd : 0 < d) (K : ℤ) (hK : (90 : ℚ) / d = (K : ℚ) / 131072) (v : ℚ)
    (hv : -90 ≤ v ∧ v ≤ 90) :
    -90 ≤ d * ((rnd (v / d) : ℚ) / 131072) ∧ d * ((rnd (v / d) : ℚ) / 131072) ≤ 90 := by
  have hup : rnd (v / d) ≤ K := by
    have : v / d ≤ (K : ℚ) / 131072 := by rw [← hK]; exact div_le_div_of_nonneg_right hv.2 hd.le
    calc rnd (v / d) ≤ rnd ((K : ℚ) / 131072) := rnd_mono this
      _ = K := rnd_lattice K
  have hlo : -K ≤ rnd (v / d) := by
    have : ((-K : ℤ) : ℚ) / 131072 ≤ v / d := by
      have e : ((-K : ℤ) : ℚ) / 131072 = -90 / d := by push_cast; rw [neg_div, ← hK, neg_div]
      rw [e]; exact div_le_div_of_nonneg_right hv.1 hd.le
    calc -K = rnd (((-K : ℤ) : ℚ) / 131072) := (rnd_lattice (-K)).symm
      _ ≤ rnd (v / d) := rnd_mono this
  have h90 : d * ((K : ℚ) / 131072) = 90 := by rw [← hK]; field_simp
  have hupq : (rnd (v / d) : ℚ) ≤ K := by exact_mod_cast hup
  have hloq : -(K : ℚ) ≤ (rnd (v / d) : ℚ) := by exact_mod_cast hlo
  have h0 : (0 : ℚ) ≤ 131072 := by norm_num
  constructor
  · have := mul_le_mul_of_nonneg_left (div_le_div_of_nonneg_right hloq h0) hd.le
    rwa [neg_div, mul_neg, h90] at this
  · have := mul_le_mul_of_nonneg_left (div_le_div_of_nonneg_right hupq h0) hd.le
    rwa [h90] at this

/-- the latitude the encoder expects the receiver to recover stays within ±90°, because ±90° are lattice
    points of every latitude grid: `90 / (Dlat_i / 2^s) = (60 − i)·2^s / 4` -/
theorem rlat_range (s i : Nat) (hi : i ≤ 1) (lat : ℚ) (h : -90 ≤ lat ∧ lat ≤ 90) :
    -90 ≤ rlat (17 + s) i lat ∧ rlat (17 + s) i lat ≤ 90 := by
  have hd := dlat_pos i hi
  have hi' : (i : ℚ) ≤ 1 := by exact_mod_cast hi
  rw [rlat_eq_recv, recv_eq _ _ _ hd.ne']
  refine recv_range _ (by positivity) ((60 - i) * 32768 * 2 ^ s) ?_ lat h
  rw [dlat_eq]
  push_cast
  field_simp
  ring

theorem rlat_range_air (i : Nat) (hi : i ≤ 1) (lat : ℚ) (h : -90 ≤ lat ∧ lat ≤ 90) :
    -90 ≤ rlat 17 i lat ∧ rlat 17 i lat ≤ 90 := rlat_range 0 i hi lat h

theorem rlat_range_surf (i : Nat) (hi : i ≤ 1) (lat : ℚ) (h : -90 ≤ lat ∧ lat ≤ 90) :
    -90 ≤ rlat 19 i lat ∧ rlat 19 i lat ≤ 90 := rlat_range 2 i hi lat h

theorem fmod_add_mul (x d : ℚ) (m : ℤ) (hd : d ≠ 0) : fmod (x + d * m) d = fmod x d := by
  unfold fmod
  rw [ratFloor, ratFloor]
  have e : (x + d * m) / d = x / d + m := by field_simp
  rw [e, Int.floor_add_intCast]
  push_cast
  ring

theorem xz_lon_shift (nb i : ℕ) (rl lon : ℚ) (k : ℤ) : xz nb i rl (lon + 360 * k) = xz nb i rl lon := by
  unfold xz
  have e : (360 : ℚ) * k = dlon i rl * (((max (NL rl - i) 1 : ℕ) : ℤ) * k : ℤ) := by
    rw [dlon_eq]; push_cast; field_simp
  rw [e, fmod_add_mul _ _ _ (dlon_pos i rl).ne']

theorem report_lon_shift (nb i : ℕ) (lat lon : ℚ) (k : ℤ) :
    report nb i lat (lon + 360 * k) = report nb i lat lon := by
  unfold report encode
  rw [xz_lon_shift]

end Report

end Rs1090.Proofs.Cpr
