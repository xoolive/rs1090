/-
For each longitude-zone band NL = n of DO-260B: `lowThr n` = the lower edge of the band in degrees (the
transition latitude of the row n+1 of `Spec.Cpr.nlTable`; 0 for n = 59, 87 for n = 1), `cosUB n` = a rational
upper bound of `cos(lowThr n)`: the polynomial bound of `CosBound` there, rounded up to 7 decimals.  Since cos
decreases on [0°, 90°], `cosUB n` bounds the cosine of every latitude of the band.  Neither table is trusted:
`cos_table` checks each `cosUB n`, and `lowThr_table` (`Proofs/CprMetres.lean`) compares `lowThr` with the
standard's table.
-/
import Rs1090.Proofs.CprMetresGeo
namespace Rs1090.Proofs.Metres
open Real Rs1090.Proofs.Geo

/-- cos is antitone on [0, π]; `Real.cos_bound` at `a` -/
theorem cos_le_of_lo {a x : ℝ} (ha0 : 0 ≤ a) (ha1 : a ≤ 1) (hax : a ≤ x) (hx : x ≤ π) :
    cos x ≤ 1 - a ^ 2 / 2 + 5 / 96 * a ^ 4 := by
  have h1 : cos x ≤ cos a := cos_le_cos_of_nonneg_of_le_pi ha0 hx hax
  have h2 := cos_bound (x := a) (by rw [abs_of_nonneg ha0]; exact ha1)
  rw [abs_of_nonneg ha0] at h2
  have := (abs_le.mp h2).2
  linarith

/-- `cos x = sin(π/2 − x)`; sin is monotone on [−π/2, π/2]; `Real.sin_bound` at `b` -/
theorem cos_le_of_hi {b x : ℝ} (hb1 : b ≤ 1) (hx : x ≤ π / 2) (hxb : π / 2 - x ≤ b) :
    cos x ≤ b - b ^ 3 / 6 + b ^ 5 / 100 := by
  have hb0 : 0 ≤ b := by linarith
  have e : cos x = sin (π / 2 - x) := (sin_pi_div_two_sub x).symm
  have h1 : sin (π / 2 - x) ≤ sin b := by
    apply sin_le_sin_of_le_of_le_pi_div_two _ _ hxb
    · linarith [pi_pos]
    · have := pi_gt_d4; linarith
  have h2 := sin_bound (x := b) (by rw [abs_of_nonneg hb0]; exact hb1)
  rw [abs_of_nonneg hb0] at h2
  have := (abs_le.mp h2).2
  linarith

/-- a lower bound for `t°` in radians (`3.141592 < π`) -/
def radLo (t : ℚ) : ℚ := 3141592 / 1000000 / 180 * t

/-- an upper bound for `(90 − t)°` in radians (`π < 3.141593`) -/
def coRadHi (t : ℚ) : ℚ := 3141593 / 1000000 / 180 * (90 - t)

/-- `c` bounds the cosine on `[t°, 90°]`, certified in ℚ: one of the two polynomial bounds above, evaluated
    at `t°` in radians with `π` replaced by its 6-decimal bound on the safe side, is at most `c` -/
def CosBound (t c : ℚ) : Prop :=
  0 ≤ t ∧ t ≤ 90 ∧
    ((radLo t ≤ 1 ∧ 1 - radLo t ^ 2 / 2 + 5 / 96 * radLo t ^ 4 ≤ c) ∨
      (coRadHi t ≤ 1 ∧ coRadHi t - coRadHi t ^ 3 / 6 + coRadHi t ^ 5 / 100 ≤ c))

instance (t c : ℚ) : Decidable (CosBound t c) := by unfold CosBound; infer_instance

/-- a certified bound holds on all of `[t°, 90°]`: `radLo t ≤ x°` in radians `≤ π/2` and
    `π/2 − x° ≤ coRadHi t`, because `3.141592 < π < 3.141593` -/
theorem cos_le_of_cosBound {t c : ℚ} (h : CosBound t c) {x : ℝ} (htx : (t : ℝ) ≤ x) (hx : x ≤ 90) :
    cos (rad x) ≤ (c : ℝ) := by
  obtain ⟨h0, -, h⟩ := h
  have h0' : (0 : ℝ) ≤ t := by exact_mod_cast h0
  have hp := pi_pos
  have hpi : rad x ≤ π / 2 := rad_90 ▸ rad_le_rad hx
  rcases h with ⟨h1, hc⟩ | ⟨h1, hc⟩
  · have hc' := (Rat.cast_le (K := ℝ)).2 hc
    push_cast at hc'
    have hlo : ((radLo t : ℚ) : ℝ) ≤ rad x := by
      unfold radLo rad; push_cast
      linarith [mul_nonneg (sub_nonneg.2 pi_gt_d6.le) h0', mul_nonneg hp.le (sub_nonneg.2 htx)]
    refine le_trans (cos_le_of_lo ?_ (by exact_mod_cast h1) hlo (by linarith)) hc'
    unfold radLo; push_cast; positivity
  · have hc' := (Rat.cast_le (K := ℝ)).2 hc
    push_cast at hc'
    have hhi : π / 2 - rad x ≤ ((coRadHi t : ℚ) : ℝ) := by
      unfold coRadHi rad; push_cast
      linarith [mul_nonneg (sub_nonneg.2 pi_lt_d6.le) (sub_nonneg.2 (htx.trans hx)),
        mul_nonneg hp.le (sub_nonneg.2 htx)]
    exact le_trans (cos_le_of_hi (by exact_mod_cast h1) hpi hhi) hc'

theorem CosBound.nonneg {t c : ℚ} (h : CosBound t c) : 0 ≤ c := by
  have h90 : ((t : ℚ) : ℝ) ≤ 90 := by exact_mod_cast h.2.1
  have h0 : (0 : ℝ) ≤ t := by exact_mod_cast h.1
  have := le_trans (cos_rad_nonneg (abs_le.2 ⟨by linarith, h90⟩)) (cos_le_of_cosBound h le_rfl h90)
  exact_mod_cast this

def lowThr : Nat → ℚ
  | 59 => 0 / 100000000
  | 58 => 1047047130 / 100000000
  | 57 => 1482817437 / 100000000
  | 56 => 1818626357 / 100000000
  | 55 => 2102939493 / 100000000
  | 54 => 2354504487 / 100000000
  | 53 => 2582924707 / 100000000
  | 52 => 2793898710 / 100000000
  | 51 => 2991135686 / 100000000
  | 50 => 3177209708 / 100000000
  | 49 => 3353993436 / 100000000
  | 48 => 3522899598 / 100000000
  | 47 => 3685025108 / 100000000
  | 46 => 3841241892 / 100000000
  | 45 => 3992256684 / 100000000
  | 44 => 4138651832 / 100000000
  | 43 => 4280914012 / 100000000
  | 42 => 4419454951 / 100000000
  | 41 => 4554626723 / 100000000
  | 40 => 4686733252 / 100000000
  | 39 => 4816039128 / 100000000
  | 38 => 4942776439 / 100000000
  | 37 => 5067150166 / 100000000
  | 36 => 5189342469 / 100000000
  | 35 => 5309516153 / 100000000
  | 34 => 5427817472 / 100000000
  | 33 => 5544378444 / 100000000
  | 32 => 5659318756 / 100000000
  | 31 => 5772747354 / 100000000
  | 30 => 5884763776 / 100000000
  | 29 => 5995459277 / 100000000
  | 28 => 6104917774 / 100000000
  | 27 => 6213216659 / 100000000
  | 26 => 6320427479 / 100000000
  | 25 => 6426616523 / 100000000
  | 24 => 6531845310 / 100000000
  | 23 => 6636171008 / 100000000
  | 22 => 6739646774 / 100000000
  | 21 => 6842322022 / 100000000
  | 20 => 6944242631 / 100000000
  | 19 => 7045451075 / 100000000
  | 18 => 7145986473 / 100000000
  | 17 => 7245884545 / 100000000
  | 16 => 7345177442 / 100000000
  | 15 => 7443893416 / 100000000
  | 14 => 7542056257 / 100000000
  | 13 => 7639684391 / 100000000
  | 12 => 7736789461 / 100000000
  | 11 => 7833374083 / 100000000
  | 10 => 7929428225 / 100000000
  | 9 => 8024923213 / 100000000
  | 8 => 8119801349 / 100000000
  | 7 => 8213956981 / 100000000
  | 6 => 8307199445 / 100000000
  | 5 => 8399173563 / 100000000
  | 4 => 8489166191 / 100000000
  | 3 => 8575541621 / 100000000
  | 2 => 8653536998 / 100000000
  | 1 => 8700000000 / 100000000
  | _ => 0

def cosUB : Nat → ℚ
  | 59 => 10000000 / 10000000
  | 58 => 9833604 / 10000000
  | 57 => 9667449 / 10000000
  | 56 => 9501541 / 10000000
  | 55 => 9335889 / 10000000
  | 54 => 9170501 / 10000000
  | 53 => 9005384 / 10000000
  | 52 => 8840547 / 10000000
  | 51 => 8675997 / 10000000
  | 50 => 8511745 / 10000000
  | 49 => 8347798 / 10000000
  | 48 => 8184166 / 10000000
  | 47 => 8020858 / 10000000
  | 46 => 7857884 / 10000000
  | 45 => 7695255 / 10000000
  | 44 => 7532980 / 10000000
  | 43 => 7371071 / 10000000
  | 42 => 7209538 / 10000000
  | 41 => 7008351 / 10000000
  | 40 => 6841200 / 10000000
  | 39 => 6674157 / 10000000
  | 38 => 6507207 / 10000000
  | 37 => 6340339 / 10000000
  | 36 => 6173545 / 10000000
  | 35 => 6006817 / 10000000
  | 34 => 5840148 / 10000000
  | 33 => 5673534 / 10000000
  | 32 => 5506969 / 10000000
  | 31 => 5340451 / 10000000
  | 30 => 5173977 / 10000000
  | 29 => 5007545 / 10000000
  | 28 => 4841154 / 10000000
  | 27 => 4674803 / 10000000
  | 26 => 4508493 / 10000000
  | 25 => 4342224 / 10000000
  | 24 => 4175998 / 10000000
  | 23 => 4009818 / 10000000
  | 22 => 3843685 / 10000000
  | 21 => 3677606 / 10000000
  | 20 => 3511586 / 10000000
  | 19 => 3345630 / 10000000
  | 18 => 3179749 / 10000000
  | 17 => 3013954 / 10000000
  | 16 => 2848257 / 10000000
  | 15 => 2682678 / 10000000
  | 14 => 2517239 / 10000000
  | 13 => 2351970 / 10000000
  | 12 => 2186910 / 10000000
  | 11 => 2022113 / 10000000
  | 10 => 1857651 / 10000000
  | 9 => 1693630 / 10000000
  | 8 => 1530203 / 10000000
  | 7 => 1367606 / 10000000
  | 6 => 1206222 / 10000000
  | 5 => 1046720 / 10000000
  | 4 => 890393 / 10000000
  | 3 => 740143 / 10000000
  | 2 => 604324 / 10000000
  | 1 => 523360 / 10000000
  | _ => 1

theorem cos_table : ∀ n ∈ List.range' 1 59, CosBound (lowThr n) (cosUB n) := by decide +kernel

theorem cosBound_band (n : Nat) (h1 : 1 ≤ n) (h59 : n ≤ 59) : CosBound (lowThr n) (cosUB n) :=
  cos_table n (List.mem_range'_1.2 ⟨h1, by omega⟩)

theorem lowThr_59 : lowThr 59 = 0 := by decide +kernel
theorem lowThr_1 : lowThr 1 = 87 := by decide +kernel

end Rs1090.Proofs.Metres
