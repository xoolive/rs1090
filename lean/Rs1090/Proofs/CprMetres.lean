/-
"Within 10 m" for CPR decoding (C04, C05): from the half-quantisation-step bounds in degrees
(`recv17_err`, `recv19_err`) to metres on the sphere of radius `R_MAX = 6 399 594 m` (the largest radius of
curvature of the WGS-84 ellipsoid, a²/b at the poles, rounded up — the radius the harness oracle uses).
-/
import Rs1090.Proofs.CprMetresCos
import Rs1090.Proofs.CprMetresGeo
import Rs1090.Proofs.CprEnc
namespace Rs1090.Proofs.Metres
open Rs1090 Rs1090.Spec.Cpr Rs1090.Proofs.Cpr

/-- `f` gives the lower edge of every band of a table that is entered in band `m`: the next row carries the
    value `m`, its transition latitude is `f (m - 1)`, and after the last row the band is 1 -/
def edgesOk (f : Nat → ℚ) : Nat → List (Nat × Nat) → Bool
  | m, [] => m == 1
  | m, (t, v) :: rest => v == m && f (m - 1) == (t : ℚ) / nlUnit && edgesOk f (m - 1) rest

/-- a row is passed only if `a` is at or above its transition latitude, which is the lower edge of the next band:
    so `a` stays at or above the lower edge of the band the lookup is in, up to the one it ends in -/
theorem findNL_edge (f : Nat → ℚ) (a : ℚ) :
    ∀ (l : List (Nat × Nat)) (m : Nat), edgesOk f m l = true → f m ≤ a → f (findNL a l) ≤ a := by
  intro l
  induction l with
  | nil =>
    intro m h hm
    rw [edgesOk, beq_iff_eq] at h
    rw [h] at hm; exact hm
  | cons r rest ih =>
    intro m h hm
    obtain ⟨t, v⟩ := r
    simp only [edgesOk, Bool.and_eq_true, beq_iff_eq] at h
    obtain ⟨⟨hv, ht⟩, hrest⟩ := h
    by_cases hh : a < (t : ℚ) / nlUnit
    · have e : findNL a ((t, v) :: rest) = v := by simp [findNL, hh]
      rw [e, hv]; exact hm
    · have e : findNL a ((t, v) :: rest) = findNL a rest := by simp [findNL, hh]
      rw [e]
      exact ih (m - 1) hrest (by rw [ht]; exact not_lt.mp hh)

theorem lowThr_table : edgesOk lowThr 59 nlTable = true := by decide +kernel

theorem lowThr_le (rl : ℚ) : lowThr (NL rl) ≤ |rl| := by
  unfold NL
  simp only [absR_eq_abs]
  split_ifs with h87 hgt
  · rw [h87]; decide +kernel
  · rw [lowThr_1]; exact hgt.le
  · exact findNL_edge lowThr |rl| nlTable 59 lowThr_table (by rw [lowThr_59]; exact abs_nonneg rl)

open Real Rs1090.Proofs.Geo in
theorem cos_band (rl : ℚ) (h90 : |rl| ≤ 90) : cos (rad (rl : ℝ)) ≤ ((cosUB (NL rl) : ℚ) : ℝ) := by
  obtain ⟨h1, h59⟩ := NL_range rl
  rw [← cos_rad_abs]
  exact cos_le_of_cosBound (cosBound_band _ h1 h59) (by exact_mod_cast lowThr_le rl) (by exact_mod_cast h90)

/-- metres per degree of arc on the sphere of radius `R_MAX = 6 399 594 m`, rounded up:
    `R_MAX · 3.141593 / 180 ≥ R_MAX · π / 180` (≈ 111 694.0 m) -/
def mPerDeg : ℚ := 6399594 * 3141593 / 1000000 / 180

def nsM (d : ℚ) : ℚ := mPerDeg * |d|

/-- upper bound of the east-west distance in metres of `d` degrees of longitude along the parallel of a
    latitude in the band NL = n (`cosUB n ≥` the cosine of every latitude of the band) -/
def ewM (n : Nat) (d : ℚ) : ℚ := mPerDeg * cosUB n * |d|

def dlonOf (n i : Nat) : ℚ := 360 / ((max (n - i) 1 : ℕ) : ℚ)

/-- the quantity that bounds `R²·chord²` (see `close_sphere`): `NS² + (1 + a/c)·EW²` for half a step of
    `1/s` of a zone on each axis; the factor `cosUB + 1/2000000` accounts for the cosine of the TRUE latitude
    (`cos` is 1-Lipschitz and half a latitude step is < 1/2000000 rad) -/
def budget (n i : Nat) (s : ℚ) : ℚ :=
  (mPerDeg * (dlat i / s)) ^ 2 + (cosUB n + 1 / 2000000) * cosUB n * (mPerDeg * (dlonOf n i / s)) ^ 2

/-- bound of the chord (and, + 1 mm, of the great-circle distance) in metres: 9.628 m in the two polar bands
    (NL ≤ 2, |lat| ≥ 86.535°, a single or two longitude zones), 6.25 m elsewhere -/
def chordMax (n : Nat) : ℚ := if 3 ≤ n then 625 / 100 else 9628 / 1000

theorem chordMax_le (n : Nat) : chordMax n ≤ 9628 / 1000 := by
  unfold chordMax; split <;> norm_num

theorem chordMax_pos (n : Nat) : 0 < chordMax n := by
  unfold chordMax; split <;> norm_num

/-- per-axis east-west budget: 9.27 m in the two polar bands (NL ≤ 2, |lat| ≥ 86.535°), 5.68 m elsewhere -/
def ewMax (n : Nat) : ℚ := if 3 ≤ n then 568 / 100 else 927 / 100

theorem mPerDeg_pos : 0 < mPerDeg := by unfold mPerDeg; norm_num

theorem dlonOf_pos (n i : Nat) : 0 < dlonOf n i :=
  div_pos (by norm_num) (lt_of_lt_of_le one_pos (one_le_zones n i))

theorem dlonOf_le (n i : Nat) : dlonOf n i ≤ 360 :=
  div_le_self (by norm_num) (one_le_zones n i)

theorem dlon_eq_dlonOf (i : Nat) (rl : ℚ) : dlon i rl = dlonOf (NL rl) i := by
  rw [dlon_eq]; rfl

theorem ns_air (i : Nat) (hi : i ≤ 1) : mPerDeg * (dlat i / 262144) ≤ 26 / 10 := by
  have := mul_le_mul_of_nonneg_left (div_le_div_of_nonneg_right (dlat_bounds i hi).2 (by norm_num : (0 : ℚ) ≤ 262144))
    mPerDeg_pos.le
  refine this.trans ?_
  unfold mPerDeg; norm_num

theorem ew_table : ∀ n ∈ List.range' 1 59, ∀ i ∈ List.range 2,
    mPerDeg * cosUB n * (dlonOf n i / 262144) ≤ ewMax n := by decide +kernel

theorem ew_air (n : Nat) (h1 : 1 ≤ n) (h59 : n ≤ 59) (i : Nat) (hi : i ≤ 1) :
    mPerDeg * cosUB n * (dlonOf n i / 262144) ≤ ewMax n :=
  ew_table n (List.mem_range'_1.2 ⟨h1, by omega⟩) i (List.mem_range.2 (by omega))

theorem cosUB_nonneg (n : Nat) (h1 : 1 ≤ n) (h59 : n ≤ 59) : 0 ≤ cosUB n :=
  (cosBound_band n h1 h59).nonneg

theorem budget_eq (n i : Nat) (s : ℚ) :
    budget n i s = (mPerDeg * (dlat i / s)) ^ 2 + (mPerDeg * cosUB n * (dlonOf n i / s)) ^ 2
      + mPerDeg * cosUB n * (dlonOf n i / s) * (mPerDeg * (dlonOf n i / s)) / 2000000 := by
  unfold budget; ring

theorem budget_le_of_axes {n i : Nat} {s N E : ℚ} (hs : 0 < s) (hc : 0 ≤ cosUB n) (hd : 0 ≤ dlat i)
    (hN : mPerDeg * (dlat i / s) ≤ N) (hE : mPerDeg * cosUB n * (dlonOf n i / s) ≤ E) :
    budget n i s ≤ N ^ 2 + E ^ 2 + E * (mPerDeg * (360 / s)) / 2000000 := by
  have hm := mPerDeg_pos
  have hD := dlonOf_pos n i
  have hW0 : 0 ≤ mPerDeg * (dlonOf n i / s) := mul_nonneg hm.le (div_nonneg hD.le hs.le)
  have hW : mPerDeg * (dlonOf n i / s) ≤ mPerDeg * (360 / s) :=
    mul_le_mul_of_nonneg_left (div_le_div_of_nonneg_right (dlonOf_le n i) hs.le) hm.le
  have hE0 : 0 ≤ mPerDeg * cosUB n * (dlonOf n i / s) :=
    mul_nonneg (mul_nonneg hm.le hc) (div_nonneg hD.le hs.le)
  have h1 : (mPerDeg * (dlat i / s)) ^ 2 ≤ N ^ 2 :=
    pow_le_pow_left₀ (mul_nonneg hm.le (div_nonneg hd hs.le)) hN 2
  have h2 : (mPerDeg * cosUB n * (dlonOf n i / s)) ^ 2 ≤ E ^ 2 := pow_le_pow_left₀ hE0 hE 2
  have h3 := mul_le_mul hE hW hW0 (hE0.trans hE)
  rw [budget_eq]; linarith only [h1, h2, h3]

/-- `2.6² + 5.68² ≤ 6.25²` and `2.6² + 9.27² ≤ 9.628²` with room for the cross term (below 10⁻³) -/
theorem budget_air (n : Nat) (h1 : 1 ≤ n) (h59 : n ≤ 59) (i : Nat) (hi : i ≤ 1) :
    budget n i 262144 ≤ chordMax n ^ 2 := by
  refine le_trans (budget_le_of_axes (by norm_num) (cosUB_nonneg n h1 h59) (dlat_pos i hi).le
    (ns_air i hi) (ew_air n h1 h59 i hi)) ?_
  unfold ewMax chordMax mPerDeg
  split <;> norm_num

/-- surface (half a step = 1/2^20 of the airborne zone): a quarter of the airborne lengths, a sixteenth of their squares -/
theorem budget_surf (n i : Nat) : budget n i 1048576 = budget n i 262144 / 16 := by
  unfold budget; ring

open Real Rs1090.Proofs.Geo in
/-- `(lat, lon)` the true point, `(rl, ro)` the recovered one, in degrees; the chord is taken on the unit sphere. -/
theorem close_sphere (i : Nat) (hi : i ≤ 1) (s : ℚ) (hs : 262144 ≤ s) (lat lon rl ro : ℚ) (k : ℤ)
    (hlat : |lat| ≤ 90) (hrl : |rl| ≤ 90) (hA : |rl - lat| ≤ dlat i / s)
    (hB : |ro - (lon + 360 * k)| ≤ dlonOf (NL rl) i / s) :
    (6399594 : ℝ) ^ 2 * chordSq (rad lat) (rad lon) (rad rl) (rad ro)
      ≤ ((budget (NL rl) i s : ℚ) : ℝ) := by
  have hA' : |(lat : ℝ) - rl| ≤ ((dlat i / s : ℚ) : ℝ) := by
    rw [abs_sub_comm]; exact_mod_cast hA
  have hB' : |(lon : ℝ) + 360 * k - ro| ≤ ((dlonOf (NL rl) i / s : ℚ) : ℝ) := by
    rw [abs_sub_comm]; exact_mod_cast hB
  have hK : (6399594 : ℝ) * (π / 180) ≤ ((mPerDeg : ℚ) : ℝ) := by
    unfold mPerDeg; push_cast; linarith [pi_lt_d6]
  have hε : rad ((dlat i / s : ℚ) : ℝ) ≤ 1 / 2000000 := by
    have h : dlat i / s ≤ 360 / 59 / 262144 :=
      div_le_div₀ (by norm_num) (dlat_bounds i hi).2 (by norm_num) hs
    refine (rad_le_rad (Rat.cast_le.2 h)).trans ?_
    unfold rad; push_cast; linarith [pi_lt_d6]
  refine (chordSq_metres 6399594 _ _ _ _ _ _ _ _ _ k (by norm_num) hK (by exact_mod_cast hlat)
    (by exact_mod_cast hrl) hA' hB' (cos_band rl hrl) hε).trans (le_of_eq ?_)
  unfold budget; push_cast; ring

open Real Rs1090.Proofs.Geo in
theorem sphere_dist (i : Nat) (hi : i ≤ 1) (s : ℚ) (hs : 262144 ≤ s) (lat lon rl ro : ℚ) (k : ℤ)
    (hlat : |lat| ≤ 90) (hrl : |rl| ≤ 90) (hA : |rl - lat| ≤ dlat i / s)
    (hB : |ro - (lon + 360 * k)| ≤ dlonOf (NL rl) i / s)
    (S : ℚ) (hS0 : 0 ≤ S) (hS10 : S ≤ 10) (hbud : budget (NL rl) i s ≤ S ^ 2) :
    chordDist 6399594 (rad lat) (rad lon) (rad rl) (rad ro) ≤ (S : ℝ) ∧
    gcDist 6399594 (rad lat) (rad lon) (rad rl) (rad ro) ≤ (S : ℝ) + 1 / 1000 := by
  have h := close_sphere i hi s hs lat lon rl ro k hlat hrl hA hB
  have hb : ((budget (NL rl) i s : ℚ) : ℝ) ≤ (S : ℝ) ^ 2 := by exact_mod_cast hbud
  have hS : (6399594 : ℝ) ^ 2 * chordSq (rad lat) (rad lon) (rad rl) (rad ro) ≤ (S : ℝ) ^ 2 :=
    le_trans h hb
  have hS0' : (0 : ℝ) ≤ S := by exact_mod_cast hS0
  have hS10' : (S : ℝ) ≤ 10 := by exact_mod_cast hS10
  refine ⟨chordDist_le _ _ _ _ _ _ (by norm_num) hS0' hS, ?_⟩
  apply gcDist_le 6399594 ((S : ℝ) + 1 / 1000) S _ _ _ _ (by norm_num) (by linarith only [hS0'])
    (by linarith only [hS10']) hS0' hS
  have h3 : ((S : ℝ) + 1 / 1000) ^ 3 ≤ 11 ^ 3 :=
    pow_le_pow_left₀ (by linarith only [hS0']) (by linarith only [hS10']) 3
  have h4 : ((S : ℝ) + 1 / 1000) ^ 3 / (24 * 6399594 ^ 2) ≤ 11 ^ 3 / (24 * 6399594 ^ 2) :=
    div_le_div_of_nonneg_right h3 (by norm_num)
  have h5 : (11 : ℝ) ^ 3 / (24 * 6399594 ^ 2) ≤ 1 / 1000 := by norm_num
  linarith only [h4, h5]

theorem axes_le (n i : Nat) (h1 : 1 ≤ n) (h59 : n ≤ 59) (s dA dB : ℚ)
    (hA : |dA| ≤ dlat i / s) (hB : |dB| ≤ dlonOf n i / s) :
    nsM dA ≤ mPerDeg * (dlat i / s) ∧ ewM n dB ≤ mPerDeg * cosUB n * (dlonOf n i / s) ∧
    nsM dA ^ 2 + ewM n dB ^ 2 ≤ budget n i s := by
  have hK := mPerDeg_pos
  have hc := cosUB_nonneg n h1 h59
  have hB0 : 0 ≤ dlonOf n i / s := (abs_nonneg dB).trans hB
  have e1 : nsM dA ≤ mPerDeg * (dlat i / s) := mul_le_mul_of_nonneg_left hA hK.le
  have e2 : ewM n dB ≤ mPerDeg * cosUB n * (dlonOf n i / s) :=
    mul_le_mul_of_nonneg_left hB (mul_nonneg hK.le hc)
  refine ⟨e1, e2, ?_⟩
  have s1 : nsM dA ^ 2 ≤ (mPerDeg * (dlat i / s)) ^ 2 :=
    pow_le_pow_left₀ (mul_nonneg hK.le (abs_nonneg dA)) e1 2
  have s2 : ewM n dB ^ 2 ≤ (mPerDeg * cosUB n * (dlonOf n i / s)) ^ 2 :=
    pow_le_pow_left₀ (mul_nonneg (mul_nonneg hK.le hc) (abs_nonneg dB)) e2 2
  have s3 : 0 ≤ mPerDeg * cosUB n * (dlonOf n i / s) * (mPerDeg * (dlonOf n i / s)) / 2000000 :=
    div_nonneg (mul_nonneg (mul_nonneg (mul_nonneg hK.le hc) hB0) (mul_nonneg hK.le hB0)) (by norm_num)
  rw [budget_eq]; linarith only [s1, s2, s3]

theorem axes_air (n i : Nat) (h1 : 1 ≤ n) (h59 : n ≤ 59) (hi : i ≤ 1) (dA dB : ℚ)
    (hA : |dA| ≤ dlat i / 262144) (hB : |dB| ≤ dlonOf n i / 262144) :
    nsM dA ≤ 26 / 10 ∧ ewM n dB ≤ ewMax n ∧ nsM dA ^ 2 + ewM n dB ^ 2 ≤ chordMax n ^ 2 := by
  obtain ⟨a, b, c⟩ := axes_le n i h1 h59 262144 dA dB hA hB
  exact ⟨a.trans (ns_air i hi), b.trans (ew_air n h1 h59 i hi), c.trans (budget_air n h1 h59 i hi)⟩

/-- surface: a quarter of the airborne step, hence a quarter of each length -/
theorem axes_surf (n i : Nat) (h1 : 1 ≤ n) (h59 : n ≤ 59) (hi : i ≤ 1) (dA dB : ℚ)
    (hA : |dA| ≤ dlat i / 1048576) (hB : |dB| ≤ dlonOf n i / 1048576) :
    nsM dA ≤ 26 / 10 / 4 ∧ ewM n dB ≤ ewMax n / 4 ∧ nsM dA ^ 2 + ewM n dB ^ 2 ≤ (chordMax n / 4) ^ 2 := by
  have e4 : ∀ d : ℚ, |4 * d| = 4 * |d| := fun d => by rw [abs_mul, abs_of_pos (by norm_num : (0 : ℚ) < 4)]
  obtain ⟨a, b, c⟩ := axes_air n i h1 h59 hi (4 * dA) (4 * dB) (by rw [e4]; linarith only [hA])
    (by rw [e4]; linarith only [hB])
  simp only [nsM, ewM, e4] at a b c ⊢
  exact ⟨by linarith only [a], by linarith only [b], by linarith only [c]⟩

open Real Rs1090.Proofs.Geo in
theorem air_dist (i : Nat) (hi : i ≤ 1) (lat lon : ℚ) (hlat : -90 ≤ lat ∧ lat ≤ 90) (ro : ℚ) (k : ℤ)
    (hro : |ro - (lon + 360 * k)| ≤ dlon i (rlat 17 i lat) / 262144) :
    chordDist 6399594 (rad lat) (rad lon) (rad (rlat 17 i lat)) (rad ro)
      ≤ ((chordMax (NL (rlat 17 i lat)) : ℚ) : ℝ) ∧
    gcDist 6399594 (rad lat) (rad lon) (rad (rlat 17 i lat)) (rad ro)
      ≤ ((chordMax (NL (rlat 17 i lat)) : ℚ) : ℝ) + 1 / 1000 := by
  obtain ⟨h1, h59⟩ := NL_range (rlat 17 i lat)
  have hA : |rlat 17 i lat - lat| ≤ dlat i / 262144 := by
    rw [rlat_eq_recv]; exact recv17_err _ _ (dlat_pos i hi)
  rw [dlon_eq_dlonOf] at hro
  exact sphere_dist i hi 262144 le_rfl lat lon _ ro k (abs_le.mpr hlat)
    (abs_le.mpr (rlat_range_air i hi lat hlat)) hA hro _ (chordMax_pos _).le
    (le_trans (chordMax_le _) (by norm_num)) (budget_air _ h1 h59 i hi)

open Real Rs1090.Proofs.Geo in
theorem surf_dist (i : Nat) (hi : i ≤ 1) (lat lon : ℚ) (hlat : -90 ≤ lat ∧ lat ≤ 90) (ro : ℚ) (k : ℤ)
    (hro : |ro - (lon + 360 * k)| ≤ dlon i (rlat 19 i lat) / 1048576) :
    chordDist 6399594 (rad lat) (rad lon) (rad (rlat 19 i lat)) (rad ro)
      ≤ ((chordMax (NL (rlat 19 i lat)) / 4 : ℚ) : ℝ) ∧
    gcDist 6399594 (rad lat) (rad lon) (rad (rlat 19 i lat)) (rad ro)
      ≤ ((chordMax (NL (rlat 19 i lat)) / 4 : ℚ) : ℝ) + 1 / 1000 := by
  obtain ⟨h1, h59⟩ := NL_range (rlat 19 i lat)
  have hA : |rlat 19 i lat - lat| ≤ dlat i / 1048576 := by
    rw [rlat_eq_recv]; exact recv19_err _ _ (dlat_pos i hi)
  rw [dlon_eq_dlonOf] at hro
  have hc := chordMax_pos (NL (rlat 19 i lat))
  have hc' := chordMax_le (NL (rlat 19 i lat))
  refine sphere_dist i hi 1048576 (by norm_num) lat lon _ ro k (abs_le.mpr hlat)
    (abs_le.mpr (rlat_range_surf i hi lat hlat)) hA hro _ (by linarith) (by linarith) ?_
  rw [budget_surf]
  have := budget_air _ h1 h59 i hi
  calc budget (NL (rlat 19 i lat)) i 262144 / 16 ≤ chordMax (NL (rlat 19 i lat)) ^ 2 / 16 :=
        div_le_div_of_nonneg_right this (by norm_num)
    _ = (chordMax (NL (rlat 19 i lat)) / 4) ^ 2 := by ring

open Real Rs1090.Proofs.Geo in
theorem air_dist_10m (i : Nat) (hi : i ≤ 1) (lat lon : ℚ) (hlat : -90 ≤ lat ∧ lat ≤ 90) (ro : ℚ) (k : ℤ)
    (hro : |ro - (lon + 360 * k)| ≤ dlon i (rlat 17 i lat) / 262144) :
    chordDist 6399594 (rad lat) (rad lon) (rad (rlat 17 i lat)) (rad ro) ≤ 9628 / 1000 ∧
    gcDist 6399594 (rad lat) (rad lon) (rad (rlat 17 i lat)) (rad ro) ≤ 9629 / 1000 ∧
    (3 ≤ NL (rlat 17 i lat) →
      gcDist 6399594 (rad lat) (rad lon) (rad (rlat 17 i lat)) (rad ro) ≤ 6251 / 1000) := by
  obtain ⟨hc, hg⟩ := air_dist i hi lat lon hlat ro k hro
  have hm := (Rat.cast_le (K := ℝ)).2 (chordMax_le (NL (rlat 17 i lat)))
  push_cast at hm
  refine ⟨hc.trans hm, by linarith, fun h3 => ?_⟩
  rw [chordMax, if_pos h3] at hg
  push_cast at hg
  linarith

open Real Rs1090.Proofs.Geo in
theorem surf_dist_10m (i : Nat) (hi : i ≤ 1) (lat lon : ℚ) (hlat : -90 ≤ lat ∧ lat ≤ 90) (ro : ℚ) (k : ℤ)
    (hro : |ro - (lon + 360 * k)| ≤ dlon i (rlat 19 i lat) / 1048576) :
    gcDist 6399594 (rad lat) (rad lon) (rad (rlat 19 i lat)) (rad ro) ≤ 2408 / 1000 := by
  obtain ⟨_, hg⟩ := surf_dist i hi lat lon hlat ro k hro
  have hm := (Rat.cast_le (K := ℝ)).2 (chordMax_le (NL (rlat 19 i lat)))
  push_cast at hm hg
  linarith

end Rs1090.Proofs.Metres
