/-
Facts about the serde_json text of a `Json` value (`Json.text`, Model/JsonText.lean): it contains no
control character — so no line feed and no carriage return: the text is ONE LINE — and the text of an
object starts with `{` and ends with `}`.

No hypothesis about key names is needed: serde_json escapes keys and unit-variant names like any other
string (`MapKeySerializer::serialize_str`), and so does `Json.text`.  `escape_of_clean` is the converse
fact that keeps the runtime printer honest: on a name made of characters ≥ 0x20 other than `"` and `\`
(every Rust identifier / renamed field of the decoder) the escaping is the identity.
-/
import Rs1090.Model.JsonText
namespace Rs1090.Model

/-- what `ryu` prints for a finite `f64` (`0-9 + - . e E`), and `null`, which serde_json writes for a
    non-finite one (that this does not happen is `json_wellformed`, C07) -/
def numChars : List Char :=
  ['0', '1', '2', '3', '4', '5', '6', '7', '8', '9', '+', '-', '.', 'e', 'E', 'n', 'u', 'l']

/-- the only assumption on the float printer: its output is made of `numChars` -/
def NumClean (numText : Json → List Char) : Prop := ∀ j, ∀ c ∈ numText j, c ∈ numChars

def NoCtl (l : List Char) : Prop := ∀ c ∈ l, 0x20 ≤ c.toNat

instance (l : List Char) : Decidable (NoCtl l) := by unfold NoCtl; infer_instance

theorem NoCtl.nil : NoCtl [] := by intro c h; cases h

theorem NoCtl.cons {c : Char} {l : List Char} (hc : 0x20 ≤ c.toNat) (hl : NoCtl l) : NoCtl (c :: l) := by
  intro x hx
  rcases List.mem_cons.mp hx with rfl | hx
  · exact hc
  · exact hl x hx

theorem NoCtl.append {a b : List Char} (ha : NoCtl a) (hb : NoCtl b) : NoCtl (a ++ b) := by
  intro x hx
  rcases List.mem_append.mp hx with hx | hx
  · exact ha x hx
  · exact hb x hx

theorem hexDigit_noCtl : ∀ n, n < 16 → 0x20 ≤ (hexDigit n).toNat := by decide

theorem escapeCharL_noCtl (c : Char) : NoCtl (escapeCharL c) := by
  unfold escapeCharL
  have h16 : ∀ n, n < 16 → 0x20 ≤ (hexDigit n).toNat := hexDigit_noCtl
  split
  · decide
  · split
    · decide
    · split
      · rename_i hlt
        split; · decide
        split; · decide
        split; · decide
        split; · decide
        split; · decide
        intro x hx
        simp only [List.mem_cons, List.not_mem_nil, or_false] at hx
        rcases hx with rfl | rfl | rfl | rfl | rfl | rfl
        · decide
        · decide
        · decide
        · decide
        · exact h16 _ (by omega)
        · exact h16 _ (by omega)
      · rename_i hge
        intro x hx
        simp only [List.mem_cons, List.not_mem_nil, or_false] at hx
        subst hx
        omega

theorem escape_no_control (cs : List Char) : NoCtl (escape cs) := by
  induction cs with
  | nil => exact NoCtl.nil
  | cons c r ih => exact NoCtl.append (escapeCharL_noCtl c) ih

theorem quoted_noCtl (cs : List Char) : NoCtl (quoted cs) :=
  NoCtl.cons (by decide) (NoCtl.append (escape_no_control cs) (NoCtl.cons (by decide) NoCtl.nil))

theorem toDigits_noCtl (n : Nat) : NoCtl (Nat.toDigits 10 n) := by
  intro c hc
  have := Char.isDigit_iff_toNat.mp (Nat.isDigit_of_mem_toDigits (by decide) (by decide) hc)
  have h0 : '0'.toNat = 48 := by decide
  omega

theorem intText_noCtl (i : Int) : NoCtl (intText i) := by
  cases i with
  | ofNat n => exact toDigits_noCtl n
  | negSucc n => exact NoCtl.cons (by decide) (toDigits_noCtl _)

theorem numClean_noCtl {numText : Json → List Char} (hn : NumClean numText) (j : Json) : NoCtl (numText j) := by
  intro c hc
  have h : ∀ c ∈ numChars, 0x20 ≤ c.toNat := by decide
  exact h c (hn j c hc)

mutual
theorem text_no_control {numText : Json → List Char} (hn : NumClean numText) :
    (j : Json) → NoCtl (j.text numText)
  | .null => by unfold Json.text; decide
  | .bool true => by unfold Json.text; decide
  | .bool false => by unfold Json.text; decide
  | .int i => by unfold Json.text; exact intText_noCtl i
  | .num n d => by unfold Json.text; exact numClean_noCtl hn _
  | .hypot a b => by unfold Json.text; exact numClean_noCtl hn _
  | .atan2deg y x => by unfold Json.text; exact numClean_noCtl hn _
  | .lit k => by unfold Json.text; exact quoted_noCtl _
  | .chars cs => by unfold Json.text; exact quoted_noCtl _
  | .arr [] => by unfold Json.text; decide
  | .arr (x :: xs) => by
    unfold Json.text
    exact NoCtl.cons (by decide) (NoCtl.append (text_no_control hn x)
      (NoCtl.append (textTail_no_control hn xs) (NoCtl.cons (by decide) NoCtl.nil)))
  | .obj [] => by unfold Json.text; decide
  | .obj ((k, v) :: kvs) => by
    unfold Json.text
    exact NoCtl.cons (by decide) (NoCtl.append (quoted_noCtl _) (NoCtl.cons (by decide)
      (NoCtl.append (text_no_control hn v)
        (NoCtl.append (textFieldsTail_no_control hn kvs) (NoCtl.cons (by decide) NoCtl.nil)))))
theorem textTail_no_control {numText : Json → List Char} (hn : NumClean numText) :
    (xs : List Json) → NoCtl (Json.textTail numText xs)
  | [] => by unfold Json.textTail; exact NoCtl.nil
  | x :: xs => by
    unfold Json.textTail
    exact NoCtl.cons (by decide) (NoCtl.append (text_no_control hn x) (textTail_no_control hn xs))
theorem textFieldsTail_no_control {numText : Json → List Char} (hn : NumClean numText) :
    (kvs : List (Key × Json)) → NoCtl (Json.textFieldsTail numText kvs)
  | [] => by unfold Json.textFieldsTail; exact NoCtl.nil
  | (k, v) :: kvs => by
    unfold Json.textFieldsTail
    exact NoCtl.cons (by decide) (NoCtl.append (quoted_noCtl _) (NoCtl.cons (by decide)
      (NoCtl.append (text_no_control hn v) (textFieldsTail_no_control hn kvs))))
end

theorem text_one_line {numText : Json → List Char} (hn : NumClean numText) (j : Json) :
    ∀ c ∈ j.text numText, c ≠ '\n' ∧ c ≠ '\r' := by
  intro c hc
  have h := text_no_control hn j c hc
  constructor
  · intro e; subst e; exact absurd h (by decide)
  · intro e; subst e; exact absurd h (by decide)

theorem getLast?_cons_append_singleton (a z : Char) (l : List Char) : (a :: (l ++ [z])).getLast? = some z := by
  rw [← List.cons_append, List.getLast?_append]
  rfl

theorem text_obj_shape (numText : Json → List Char) (kvs : List (Key × Json)) :
    ((Json.obj kvs).text numText).head? = some '{' ∧ ((Json.obj kvs).text numText).getLast? = some '}' := by
  cases kvs with
  | nil => unfold Json.text; exact ⟨rfl, rfl⟩
  | cons kv r =>
    obtain ⟨k, v⟩ := kv
    unfold Json.text
    refine ⟨rfl, ?_⟩
    have e : ∀ (a b c d : List Char), a ++ (':' :: (b ++ (c ++ d))) = (a ++ (':' :: (b ++ c))) ++ d := by
      intro a b c d; simp
    rw [e]
    exact getLast?_cons_append_singleton _ _ _

theorem text_arr_shape (numText : Json → List Char) (xs : List Json) :
    ((Json.arr xs).text numText).head? = some '[' ∧ ((Json.arr xs).text numText).getLast? = some ']' := by
  cases xs with
  | nil => unfold Json.text; exact ⟨rfl, rfl⟩
  | cons x r =>
    unfold Json.text
    refine ⟨rfl, ?_⟩
    rw [← List.append_assoc]
    exact getLast?_cons_append_singleton _ _ _

/-- a character `format_escaped_str` copies: not a control character, not `"`, not `\` -/
def cleanChar (c : Char) : Bool := decide (0x20 ≤ c.toNat) && c != '"' && c != '\\'

theorem escapeCharL_of_clean (c : Char) (h : cleanChar c = true) : escapeCharL c = [c] := by
  simp only [cleanChar, Bool.and_eq_true, decide_eq_true_eq, bne_iff_ne, ne_eq] at h
  obtain ⟨⟨h1, h2⟩, h3⟩ := h
  unfold escapeCharL
  rw [if_neg h2, if_neg h3, if_neg (by omega)]

theorem escape_of_clean (cs : List Char) (h : cs.all cleanChar = true) : escape cs = cs := by
  induction cs with
  | nil => rfl
  | cons c r ih =>
    simp only [List.all_cons, Bool.and_eq_true] at h
    simp only [escape, escapeCharL_of_clean c h.1, ih h.2, List.cons_append, List.nil_append]

mutual
def Json.keysClean : Json → Bool
  | .lit k => k.name.toList.all cleanChar
  | .arr xs => Json.keysCleanList xs
  | .obj kvs => Json.keysCleanObj kvs
  | _ => true
def Json.keysCleanList : List Json → Bool
  | [] => true
  | x :: xs => x.keysClean && Json.keysCleanList xs
def Json.keysCleanObj : List (Key × Json) → Bool
  | [] => true
  | (k, v) :: r => k.name.toList.all cleanChar && v.keysClean && Json.keysCleanObj r
end

end Rs1090.Model
