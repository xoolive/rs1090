/-
The 13-bit identity and altitude codes: `Model/Altitude.lean` against `Spec/Altitude.lean` and the encoders of
`Spec/Encode.lean` (`ac13OfN25`, `ac13G`, `ac12Q`, `dropM`).

Each finite code space is evaluated once by the kernel, with everything its users need in one conjunction
(`id13_table`, `fieldOfDigits_spec`, `gillham_table`, `accepts_table`, and four tables of pure bit
rearrangements); `AC13Field::read` and `decode_ac12` are then described branch by branch (`ac13_m1`, `ac13_q1`,
`ac13_q0`, `ac12_q1`, `ac12_q0`) for EVERY field value, their checked arithmetic by `omega`.  The theorems of
Props/C13.lean and of the altitude section of Props/C03.lean are read off these.
-/
import Rs1090.Proofs.BasicLemmas
import Rs1090.Model.Altitude
import Rs1090.Spec.Encode
namespace Rs1090.Proofs.Altitude
open Rs1090 Rs1090.Model Rs1090.Spec Rs1090.Spec.Encode

/-- `decode_id13` without its tests: every pulse of the field, moved to its place in the four nibbles -/
def pulses (f : Nat) : Nat :=
  bitN f 12 * 0x0010 ||| bitN f 11 * 0x1000 ||| bitN f 10 * 0x0020 ||| bitN f 9 * 0x2000 |||
  bitN f 8 * 0x0040 ||| bitN f 7 * 0x4000 ||| bitN f 5 * 0x0100 ||| bitN f 4 * 0x0001 |||
  bitN f 3 * 0x0200 ||| bitN f 2 * 0x0002 ||| bitN f 1 * 0x0400 ||| bitN f 0 * 0x0004

theorem decodeId13_pulses (f : Nat) : decodeId13 f = pulses f := by
  unfold decodeId13 pulses
  rw [ite_and_two_pow f 12 _ _ rfl, ite_and_two_pow f 11 _ _ rfl, ite_and_two_pow f 10 _ _ rfl,
    ite_and_two_pow f 9 _ _ rfl, ite_and_two_pow f 8 _ _ rfl, ite_and_two_pow f 7 _ _ rfl,
    ite_and_two_pow f 5 _ _ rfl, ite_and_two_pow f 4 _ _ rfl, ite_and_two_pow f 3 _ _ rfl,
    ite_and_two_pow f 2 _ _ rfl, ite_and_two_pow f 1 _ _ rfl, ite_and_two_pow f 0 _ _ rfl]

/-- evaluated on `pulses`: in the kernel the twelve `!= 0` tests of `decodeId13` are far slower than the twelve
    products -/
theorem id13_table : ∀ f, f < 2 ^ 13 →
    decodeId13 f = squawkHex f ∧ ac13OfGillham (decodeId13 f) = f &&& 0x1fbf := by
  have h : ∀ f, f < 2 ^ 13 → pulses f = squawkHex f ∧ ac13OfGillham (pulses f) = f &&& 0x1fbf :=
    forall_lt_of_sweep 13 (by decide +kernel)
  intro f hf
  rw [decodeId13_pulses]
  exact h f hf

theorem digits_le (f : Nat) : digitA f ≤ 7 ∧ digitB f ≤ 7 ∧ digitC f ≤ 7 ∧ digitD f ≤ 7 := by
  simp only [digitA, digitB, digitC, digitD, A1, A2, A4, B1, B2, B4, C1, C2, C4, D1, D2, D4, bitN]
  omega

theorem nibbles (a b c d : Nat) (ha : a < 16) (hb : b < 16) (hc : c < 16) (hd : d < 16) :
    ((0x1000 * a + 0x100 * b + 0x10 * c + d) >>> 12) % 16 = a ∧
    ((0x1000 * a + 0x100 * b + 0x10 * c + d) >>> 8) % 16 = b ∧
    ((0x1000 * a + 0x100 * b + 0x10 * c + d) >>> 4) % 16 = c ∧
    (0x1000 * a + 0x100 * b + 0x10 * c + d) % 16 = d := by
  omega

theorem decodeId13_octal (f : Nat) (hf : f < 2 ^ 13) :
    (decodeId13 f >>> 12) % 16 ≤ 7 ∧ (decodeId13 f >>> 8) % 16 ≤ 7 ∧
    (decodeId13 f >>> 4) % 16 ≤ 7 ∧ decodeId13 f % 16 ≤ 7 ∧ decodeId13 f < 2 ^ 15 := by
  obtain ⟨ha, hb, hc, hd⟩ := digits_le f
  obtain ⟨na, nb, nc, nd⟩ := nibbles (digitA f) (digitB f) (digitC f) (digitD f)
    (by omega) (by omega) (by omega) (by omega)
  rw [(id13_table f hf).1, squawkHex, na, nb, nc, nd]
  omega

theorem octal (x : Nat) : x % 8 < 8 := Nat.mod_lt x (by decide)

theorem fieldOfDigits_lt (a b c d : Nat) : fieldOfDigits a b c d < 2 ^ 13 := by
  simp only [fieldOfDigits, bitN]
  omega

/-- the X bit (`0x40`) is clear and the Q position (`0x10`, pulse D1) carries the low bit of D -/
theorem fieldOfDigits_spec : ∀ a, a < 8 → ∀ b, b < 8 → ∀ c, c < 8 → ∀ d, d < 8 →
    squawkHex (fieldOfDigits a b c d) = 0x1000 * a + 0x100 * b + 0x10 * c + d ∧
    fieldOfDigits a b c d &&& 0x40 = 0 ∧ fieldOfDigits a b c d &&& 0x10 = 0x10 * (d % 2) := by
  decide +kernel

theorem decodeId13_fieldOfDigits (a b c d : Nat) (ha : a < 8) (hb : b < 8) (hc : c < 8) (hd : d < 8) :
    decodeId13 (fieldOfDigits a b c d) = 0x1000 * a + 0x100 * b + 0x10 * c + d := by
  rw [(id13_table _ (fieldOfDigits_lt a b c d)).1, (fieldOfDigits_spec a ha b hb c hc d hd).1]

/-- `0x8889`: the code word has octal nibbles, and D1 (bit 0) is unused -/
theorem gillham_table : ∀ s, s < 2 ^ 11 → s < GILLHAM_STEPS →
    gray2alt (gillhamEncode s) = (if 12 ≤ s then some (s - 12) else none) ∧
    (s + 1 < GILLHAM_STEPS → popcount16 (gillhamEncode s ^^^ gillhamEncode (s + 1)) = 1) ∧
    gillhamEncode s &&& 0x8889 = 0 ∧ gillhamEncode s < 2 ^ 15 :=
  forall_lt_of_sweep 11 (by decide +kernel)

theorem steps_lt {s : Nat} (h : s < GILLHAM_STEPS) : s < 2 ^ 11 := by
  unfold GILLHAM_STEPS at h; omega

theorem octal_word (g : Nat) (h : g < 2 ^ 15) (hm : g &&& 0x8889 = 0) :
    0x1000 * ((g >>> 12) % 8) + 0x100 * ((g >>> 8) % 8) + 0x10 * ((g >>> 4) % 8) + g % 8 = g := by
  have h11 := bit_eq_zero_of_and_eq_zero hm 11 (by decide)
  have h7 := bit_eq_zero_of_and_eq_zero hm 7 (by decide)
  have h3 := bit_eq_zero_of_and_eq_zero hm 3 (by decide)
  omega

theorem decodeId13_ac13OfGillham (g : Nat) (h : g < 2 ^ 15) (hm : g &&& 0x8889 = 0) :
    decodeId13 (ac13OfGillham g) = g := by
  rw [ac13OfGillham, decodeId13_fieldOfDigits _ _ _ _ (octal _) (octal _) (octal _) (octal _),
    octal_word g h hm]

theorem ac13OfGillham_m (g : Nat) : ac13OfGillham g &&& 0x40 = 0 :=
  (fieldOfDigits_spec _ (octal (g >>> 12)) _ (octal (g >>> 8)) _ (octal (g >>> 4)) _ (octal g)).2.1

theorem ac13OfGillham_q (g : Nat) (hm : g &&& 0x8889 = 0) : ac13OfGillham g &&& 0x10 = 0 := by
  have h0 := bit_eq_zero_of_and_eq_zero hm 0 (by decide)
  rw [ac13OfGillham,
    (fieldOfDigits_spec _ (octal (g >>> 12)) _ (octal (g >>> 8)) _ (octal (g >>> 4)) _ (octal g)).2.2]
  omega

theorem gray2alt_mask {g a : Nat} (h : gray2alt g = some a) : g &&& 0x8889 = 0 := by
  unfold gray2alt at h
  split at h
  · cases h
  · rename_i hc
    simp only [Bool.or_eq_true, bne_iff_ne, ne_eq, not_or, Decidable.not_not] at hc
    exact hc.1

/-- the 2^11 words without a bit of `0x8889`: three free bits per nibble, two in the lowest -/
theorem accepts_table : ∀ n3, n3 < 8 → ∀ n2, n2 < 8 → ∀ n1, n1 < 8 → ∀ n0, n0 < 4 →
    ∀ a, gray2alt (4096 * n3 + 256 * n2 + 16 * n1 + 2 * n0) = some a →
    a + 12 < GILLHAM_STEPS ∧ gillhamEncode (a + 12) = 4096 * n3 + 256 * n2 + 16 * n1 + 2 * n0 := by
  decide +kernel

/-- an accepted word has no bit of `0x8889`, so it is one of the words of `accepts_table` -/
theorem gray2alt_accepts (g : Nat) (hg : g < 2 ^ 16) (a : Nat) (ha : gray2alt g = some a) :
    a + 12 < GILLHAM_STEPS ∧ gillhamEncode (a + 12) = g := by
  have hm := gray2alt_mask ha
  -- nibble by nibble: one `omega` over all five clear bits is slower
  have e3 : g / 4096 % 16 = g / 4096 % 8 := by have := bit_eq_zero_of_and_eq_zero hm 15 (by decide); omega
  have e2 : g / 256 % 16 = g / 256 % 8 := by have := bit_eq_zero_of_and_eq_zero hm 11 (by decide); omega
  have e1 : g / 16 % 16 = g / 16 % 8 := by have := bit_eq_zero_of_and_eq_zero hm 7 (by decide); omega
  have e0 : g % 16 = 2 * (g / 2 % 4) := by
    have := bit_eq_zero_of_and_eq_zero hm 3 (by decide)
    have := bit_eq_zero_of_and_eq_zero hm 0 (by decide)
    omega
  have e : g = 4096 * (g / 4096 % 8) + 256 * (g / 256 % 8) + 16 * (g / 16 % 8) + 2 * (g / 2 % 4) := by
    rw [← e3, ← e2, ← e1, ← e0]
    clear e3 e2 e1 e0
    omega
  rw [e] at ha ⊢
  exact accepts_table _ (octal _) _ (octal _) _ (octal _) _ (Nat.mod_lt _ (by decide)) a ha

/-- the `N` bits of a 13-bit field as `AC13Field::read` collects them around M and Q -/
def n13 (f : Nat) : Nat := ((f &&& 0x1f80) >>> 2) ||| ((f &&& 0x0020) >>> 1) ||| (f &&& 0x000f)

theorem n13_lt (f : Nat) : n13 f < 2 ^ 11 := by
  have h1 : f &&& 0x1f80 ≤ 0x1f80 := Nat.and_le_right
  have h2 : f &&& 0x0020 ≤ 0x0020 := Nat.and_le_right
  have h3 : f &&& 0x000f ≤ 0x000f := Nat.and_le_right
  exact Nat.or_lt_two_pow (Nat.or_lt_two_pow (by omega) (by omega)) (by omega)

theorem ac13_m1 (f : Nat) (hm : f &&& 0x40 ≠ 0) :
    ac13 f = .ok (metersToFeet (((f &&& 0x1f80) >>> 2) ||| (f &&& 0x3f))) := by
  unfold ac13
  simp only [bne_iff_ne, ne_eq, hm, not_false_eq_true, if_true]

/-- the `u16` product and difference are in range because `N < 2^11` -/
theorem ac13_q1 (f : Nat) (hm : f &&& 0x40 = 0) (hq : f &&& 0x10 ≠ 0) :
    ac13 f = .ok (if n13 f > 40 then 25 * n13 f - 1000 else 0) := by
  have hn := n13_lt f
  unfold ac13
  simp only [bne_iff_ne, ne_eq, hm, hq, not_true_eq_false, not_false_eq_true, if_true, if_false]
  show (if n13 f > 40 then (mulU 16 (n13 f) 25 >>= fun a => subU a 1000) else .ok 0) = _
  by_cases h : n13 f > 40
  · rw [if_pos h, if_pos h, mulU_ok (by omega), Outcome.bind_ok', subU_ok (by omega), Nat.mul_comm]
  · rw [if_neg h, if_neg h]

theorem ac13_q0 (f : Nat) (hm : f &&& 0x40 = 0) (hq : f &&& 0x10 = 0) :
    ac13 f = .ok (match gray2alt (decodeId13 f) with
      | some a => if 100 * a < 65536 then 100 * a else 0
      | none => 0) := by
  unfold ac13
  simp only [bne_iff_ne, ne_eq, hm, hq, not_true_eq_false, if_false]
  cases gray2alt (decodeId13 f) with
  | none => rfl
  | some a => by_cases h : 100 * a < 65536 <;> simp only [h, if_true, if_false]

theorem ac13_ok (f : Nat) : ∃ v, ac13 f = .ok v := by
  by_cases hm : f &&& 0x40 = 0
  · by_cases hq : f &&& 0x10 = 0
    · exact ⟨_, ac13_q0 f hm hq⟩
    · exact ⟨_, ac13_q1 f hm hq⟩
  · exact ⟨_, ac13_m1 f hm⟩

theorem n25_table : ∀ n, n < 2 ^ 11 →
    ac13OfN25 n &&& 0x40 = 0 ∧ ac13OfN25 n &&& 0x10 ≠ 0 ∧ n13 (ac13OfN25 n) = n ∧ ac13OfN25 n < 2 ^ 13 :=
  forall_lt_of_sweep 11 (by decide +kernel)

theorem ac13_linear (n : Nat) (hn : n < 2 ^ 11) :
    ac13 (ac13OfN25 n) = .ok (if n > 40 then 25 * n - 1000 else 0) := by
  obtain ⟨hm, hq, e, _⟩ := n25_table n hn
  rw [ac13_q1 _ hm hq, e]

theorem ac13_gillham (s : Nat) (hs : s < GILLHAM_STEPS) :
    ac13 (ac13OfGillham (gillhamEncode s))
      = .ok (if 12 ≤ s ∧ 100 * (s - 12) < 65536 then 100 * (s - 12) else 0) := by
  obtain ⟨hd, _, hmask, hlt⟩ := gillham_table s (steps_lt hs) hs
  rw [ac13_q0 _ (ac13OfGillham_m _) (ac13OfGillham_q _ hmask), decodeId13_ac13OfGillham _ hlt hmask, hd]
  by_cases h12 : 12 ≤ s
  · simp only [h12, if_true, true_and]
  · simp only [h12, if_false, false_and]

/-- the steps 12 … 667 are the altitudes 0 … 65 500 ft that a `u16` holds -/
theorem ac13G_feet (s : Nat) (hs : s < GILLHAM_STEPS) :
    ac13 (ac13G s) = .ok (if 12 ≤ s ∧ s ≤ 667 then 100 * s - 1200 else 0) := by
  rw [ac13G, ac13_gillham s hs]
  exact congrArg _ (ite_congr (propext (by omega)) (fun _ => by omega) fun _ => rfl)

/-- the `N` bits of a 12-bit field as `decode_ac12` collects them around Q -/
def n12 (c : Nat) : Nat := ((c &&& 0x0fe0) >>> 1) ||| (c &&& 0x000f)

/-- the 12-bit field with a zero M bit re-inserted, as `decode_ac12` does before `decode_id13` -/
def withM (c : Nat) : Nat := ((c &&& 0x0fc0) <<< 1) ||| (c &&& 0x003f)

theorem n12_lt (c : Nat) : n12 c < 2 ^ 11 := by
  have h1 : c &&& 0x0fe0 ≤ 0x0fe0 := Nat.and_le_right
  have h2 : c &&& 0x000f ≤ 0x000f := Nat.and_le_right
  exact Nat.or_lt_two_pow (by omega) (by omega)

theorem ac12_q1 (c : Nat) (hq : c &&& 0x10 ≠ 0) :
    ac12 c = .ok (if n12 c > 40 then some (25 * n12 c - 1000) else none) := by
  have hn := n12_lt c
  have hq' : c &&& 0x10 > 0 := Nat.pos_of_ne_zero hq
  unfold ac12
  simp only [hq', if_true]
  show (mulU 16 (n12 c) 25 >>= fun n => if n > 1000 then (subU n 1000 >>= fun a => pure (some a)) else pure none) = _
  rw [mulU_ok (by omega), Outcome.bind_ok']
  by_cases h : n12 c > 40
  · rw [if_pos h, if_pos (by omega), subU_ok (by omega), Outcome.bind_ok', Nat.mul_comm]; rfl
  · rw [if_neg h, if_neg (by omega)]; rfl

theorem ac12_q0 (c : Nat) (hq : c &&& 0x10 = 0) :
    ac12 c = .ok (match gray2alt (decodeId13 (withM c)) with
      | some a => if a * 100 < 65536 then some (a * 100) else none
      | none => none) := by
  unfold ac12
  simp only [hq, Nat.lt_irrefl, if_false]
  show (match gray2alt (decodeId13 (withM c)) with
    | some a => if a * 100 < 65536 then Outcome.ok (some (a * 100)) else .ok none
    | none => .ok none) = _
  cases gray2alt (decodeId13 (withM c)) with
  | none => rfl
  | some a => by_cases h : a * 100 < 65536 <;> simp only [h, if_true, if_false]

theorem ac12_ok (c : Nat) : ∃ v, ac12 c = .ok v := by
  by_cases hq : c &&& 0x10 = 0
  · exact ⟨_, ac12_q0 c hq⟩
  · exact ⟨_, ac12_q1 c hq⟩

theorem withM_table : ∀ c, c < 2 ^ 12 →
    withM c = ac13OfAc12 c ∧ ac13OfAc12 c &&& 0x40 = 0 ∧ ac13OfAc12 c &&& 0x10 = c &&& 0x10 ∧
    n13 (ac13OfAc12 c) = n12 c :=
  forall_lt_of_sweep 12 (by decide +kernel)

theorem m0_table : ∀ f, f < 2 ^ 13 → f &&& 0x40 = 0 →
    f &&& 0x1fbf = f ∧ (f &&& 0x10 ≠ 0 → ac13OfN25 (n13 f) = f) ∧ dropM f < 2 ^ 12 ∧ ac13OfAc12 (dropM f) = f :=
  forall_lt_of_sweep 13 (by decide +kernel)

theorem ac12Q_table : ∀ n, n < 2 ^ 11 → ac12Q n &&& 0x10 ≠ 0 ∧ n12 (ac12Q n) = n ∧ ac12Q n < 2 ^ 12 :=
  forall_lt_of_sweep 11 (by decide +kernel)

theorem ac12_linear (n : Nat) (hn : n < 2 ^ 11) :
    ac12 (ac12Q n) = .ok (if n > 40 then some (25 * n - 1000) else none) := by
  obtain ⟨hq, e, _⟩ := ac12Q_table n hn
  rw [ac12_q1 _ hq, e]

theorem ac13G_lt (s : Nat) : ac13G s < 2 ^ 13 := fieldOfDigits_lt _ _ _ _

theorem ac12G_lt (s : Nat) : ac12G s < 2 ^ 12 := (m0_table _ (ac13G_lt s) (ac13OfGillham_m _)).2.2.1

theorem ac12G_feet (s : Nat) (hs : s < GILLHAM_STEPS) :
    ac12 (ac12G s) = .ok (if 12 ≤ s ∧ s ≤ 667 then some (100 * s - 1200) else none) := by
  obtain ⟨hd, _, hmask, hlt⟩ := gillham_table s (steps_lt hs) hs
  obtain ⟨_, _, hc, hback⟩ := m0_table (ac13G s) (ac13G_lt s) (ac13OfGillham_m _)
  obtain ⟨hw, _, hq12, _⟩ := withM_table _ hc
  rw [hback] at hq12
  rw [ac12G, ac12_q0 _ (hq12.symm.trans (ac13OfGillham_q _ hmask)), hw, hback, ac13G,
    decodeId13_ac13OfGillham _ hlt hmask, hd]
  by_cases h12 : 12 ≤ s
  · simp only [h12, if_true, true_and]
    exact congrArg _ (ite_congr (propext (by omega)) (fun _ => congrArg _ (by omega)) fun _ => rfl)
  · simp only [h12, if_false, false_and]

end Rs1090.Proofs.Altitude
