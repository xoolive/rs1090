/-
`update_snapshot` on one entry and on the table (for Props/C12.lean).

An arm of `update_snapshot` is a list of writes `(column, value)`: `touch r e` sets `lastseen`, `count` and
then performs `bodyWrites r.body`.  What a record carries (`Spec.carried`) is likewise a list of items
`(column, value)`, and a write of a present value is one of the record's items.  That the arms leave the
bookkeeping columns alone, and that a value column holds its old value or a carried one, are then facts about
lists of writes.  The table is reduced to one entry: the entry of `k` is the fold of `k`'s own records.
-/
import Rs1090.Spec.Snapshot
namespace Rs1090.Proofs.Snapshot
open Rs1090.Model.Snapshot Rs1090.Spec.Snapshot

/-- one assignment `cur.<column> = value` -/
abbrev Write := Field × Option Val

def setField (e : Entry) : Field → Option Val → Entry
  | .callsign, v => { e with callsign := v }
  | .squawk, v => { e with squawk := v }
  | .latitude, v => { e with latitude := v }
  | .longitude, v => { e with longitude := v }
  | .altitude, v => { e with altitude := v }
  | .selectedAltitude, v => { e with selectedAltitude := v }
  | .groundspeed, v => { e with groundspeed := v }
  | .verticalRate, v => { e with verticalRate := v }
  | .track, v => { e with track := v }
  | .ias, v => { e with ias := v }
  | .tas, v => { e with tas := v }
  | .mach, v => { e with mach := v }
  | .roll, v => { e with roll := v }
  | .heading, v => { e with heading := v }
  | .nacp, v => { e with nacp := v }
  | .typecode, v => { e with typecode := v }

def applyWrites (e : Entry) (ws : List Write) : Entry := ws.foldl (fun e w => setField e w.1 w.2) e

theorem applyWrites_cons (e : Entry) (w : Write) (ws : List Write) :
    applyWrites e (w :: ws) = applyWrites (setField e w.1 w.2) ws := rfl

theorem applyWrites_append (e : Entry) (ws ws' : List Write) :
    applyWrites e (ws ++ ws') = applyWrites (applyWrites e ws) ws' := List.foldl_append

def metaOf (e : Entry) : Addr × Nat × Nat × Nat := (e.icao24, e.firstseen, e.lastseen, e.count)

theorem setField_meta (e : Entry) (f : Field) (v : Option Val) : metaOf (setField e f v) = metaOf e := by
  cases f <;> rfl

theorem applyWrites_meta (ws : List Write) : ∀ e : Entry, metaOf (applyWrites e ws) = metaOf e := by
  induction ws with
  | nil => intro e; rfl
  | cons w ws ih => intro e; rw [applyWrites_cons, ih, setField_meta]

theorem entryField_setField (e : Entry) (f : Field) (v : Option Val) (f' : Field) :
    entryField (setField e f v) f' = if f = f' then v else entryField e f' := by
  cases f <;> cases f' <;> rfl

theorem entryField_applyWrites (f : Field) (ws : List Write) : ∀ e : Entry,
    entryField (applyWrites e ws) f = entryField e f ∨ (f, entryField (applyWrites e ws) f) ∈ ws := by
  induction ws with
  | nil => intro e; exact .inl rfl
  | cons w ws ih =>
    intro e
    rw [applyWrites_cons]
    rcases ih (setField e w.1 w.2) with h | h
    · rw [h, entryField_setField]
      split
      · next hf => exact .inr (hf ▸ List.mem_cons_self ..)
      · exact .inl rfl
    · exact .inr (List.mem_cons_of_mem _ h)

def itemsCarried (ws : List Write) (f : Field) : List Val := ws.filterMap fun w => if w.1 = f then w.2 else none

theorem mem_itemsCarried {ws : List Write} {f : Field} {v : Val} : v ∈ itemsCarried ws f ↔ (f, some v) ∈ ws := by
  unfold itemsCarried
  rw [List.mem_filterMap]
  constructor
  · rintro ⟨⟨f', o⟩, hw, h⟩
    split at h
    · next hf => cases hf; cases h; exact hw
    · cases h
  · intro h
    exact ⟨_, h, if_pos rfl⟩

def velItems : Velocity → List Write
  | .ground gs trk => [(.groundspeed, some gs), (.track, some trk)]
  | .airspeed isTas spd hdg => [(if isTas then .tas else .ias, spd), (.heading, hdg)]
  | .other => []

def meItems : MeView → List Write
  | .bds05 lat lon alt => [(.latitude, lat), (.longitude, lon), (.altitude, alt)]
  | .bds06 lat lon trk gs => [(.latitude, lat), (.longitude, lon), (.track, trk), (.groundspeed, gs)]
  | .bds08 cs => [(.callsign, some cs)]
  | .bds09 vr vel => (.verticalRate, vr) :: velItems vel
  | .bds61 sq => [(.squawk, some sq)]
  | .bds62 sel n => [(.selectedAltitude, sel), (.nacp, some n)]
  | .bds65 n => [(.nacp, n)]
  | .other => []

def commbItems (b : CommB) : List Write :=
  [(.callsign, b.bds20), (.selectedAltitude, b.bds40.bind id),
   (.roll, b.bds50.bind (·.roll)), (.track, b.bds50.bind (·.track)), (.groundspeed, b.bds50.bind (·.gs)),
   (.tas, b.bds50.bind (·.tas)),
   (.ias, b.bds60.bind (·.ias)), (.mach, b.bds60.bind (·.mach)), (.heading, b.bds60.bind (·.heading)),
   (.verticalRate, b.bds60.bind (·.vrate))]

def bodyItems : Body → List Write
  | .identity sq => [(.squawk, some sq)]
  | .altitude a => [(.altitude, some a)]
  | .adsb me => meItems me
  | .tisb me => (.typecode, some "GRND") :: meItems me
  | .commbAlt b => commbItems b
  | .commbId b => commbItems b
  | .other => []

theorem meCarried_eq (me : MeView) (f : Field) : meCarried me f = itemsCarried (meItems me) f := by
  cases me with
  | bds09 vr vel =>
    cases vel with
    | airspeed isTas spd hdg => cases isTas <;> cases f <;> rfl
    | _ => cases f <;> rfl
  | _ => cases f <;> rfl

theorem commbCarried_eq (b : CommB) (f : Field) : commbCarried b f = itemsCarried (commbItems b) f := by
  cases f <;> rfl

theorem meCarried_typecode (me : MeView) : meCarried me .typecode = [] := by
  cases me with
  | bds09 vr vel => cases vel <;> rfl
  | _ => rfl

theorem bodyCarried_eq (b : Body) (f : Field) : bodyCarried b f = itemsCarried (bodyItems b) f := by
  cases b with
  | adsb me => exact meCarried_eq me f
  | tisb me =>
    cases f with
    | typecode =>
      show ["GRND"] = "GRND" :: itemsCarried (meItems me) .typecode
      rw [← meCarried_eq, meCarried_typecode]
    | _ => exact meCarried_eq me _
  | commbAlt b => exact commbCarried_eq b f
  | commbId b => exact commbCarried_eq b f
  | _ => cases f <;> rfl

theorem mem_carried {r : Record} {f : Field} {v : Val} : v ∈ carried r f ↔ (f, some v) ∈ bodyItems r.body := by
  rw [carried, bodyCarried_eq, mem_itemsCarried]

theorem typecode_carried {r : Record} {v : Val} (h : v ∈ carried r .typecode) :
    v = "GRND" ∧ ∃ me, r.body = .tisb me := by
  unfold carried at h
  cases hb : r.body with
  | adsb me => rw [hb] at h; rw [show bodyCarried (.adsb me) .typecode = _ from meCarried_typecode me] at h; cases h
  | tisb me => rw [hb] at h; exact ⟨List.mem_singleton.mp h, me, rfl⟩
  | _ => rw [hb] at h; cases h

/-- `if !callsign.contains("#") { cur.callsign = Some(callsign) }` (BDS 0,8 of DF17, BDS 2,0 of DF20/21) -/
def callsignWrites (cs : Val) : List Write := if hasHash cs then [] else [(.callsign, some cs)]

/-- the DF17 `ME` match: the items of the message, except that a call sign with `#` is refused, a surface
    position also clears the altitude, and an operational status without NACp writes nothing -/
def adsbWrites : MeView → List Write
  | .bds06 lat lon trk gs => meItems (.bds06 lat lon trk gs) ++ [(.altitude, none)]
  | .bds08 cs => callsignWrites cs
  | .bds65 none => []
  | me => meItems me

/-- the DF18 arm: the marker, then positions as in the DF17 arm and any call sign -/
def tisbWrites (me : MeView) : List Write :=
  (.typecode, some "GRND") ::
    match me with
    | .bds05 .. | .bds06 .. => adsbWrites me
    | .bds08 cs => [(.callsign, some cs)]
    | _ => []

/-- BDS 5,0 / 6,0 of a Comm-B reply: neither when both are present; the vertical rate only when there is one -/
def kinWrites : Option Bds50 → Option Bds60 → List Write
  | some _, some _ => []
  | b50, b60 =>
    (match b50 with
      | some r => [(.roll, r.roll), (.track, r.track), (.groundspeed, r.gs), (.tas, r.tas)]
      | none => []) ++
    (match b60 with
      | some r => [(.ias, r.ias), (.mach, r.mach), (.heading, r.heading)] ++
          if r.vrate.isSome then [(.verticalRate, r.vrate)] else []
      | none => [])

/-- the DF20 / DF21 arms, register by register -/
def commbWrites (b : CommB) : List Write :=
  (match b.bds20 with
    | some cs => callsignWrites cs
    | none => []) ++
  (match b.bds40 with
    | some sel => [(.selectedAltitude, sel)]
    | none => []) ++
  kinWrites b.bds50 b.bds60

def bodyWrites : Body → List Write
  | .identity sq => [(.squawk, some sq)]
  | .altitude a => [(.altitude, some a)]
  | .adsb me => adsbWrites me
  | .tisb me => tisbWrites me
  | .commbAlt b => commbWrites b
  | .commbId b => commbWrites b
  | .other => []

/- In the lemmas below `e` is destructured first: on a constructor application every projection of a nested
   update reduces at once; on a variable the check by `rfl` is exponential in the number of writes. -/

theorem applyAdsb_eq (e : Entry) (me : MeView) : applyAdsb e me = applyWrites e (adsbWrites me) := by
  cases e
  cases me with
  | bds08 cs => simp only [applyAdsb, adsbWrites, callsignWrites]; cases hasHash cs <;> rfl
  | bds09 vr vel =>
    cases vel with
    | airspeed isTas spd hdg => cases isTas <;> rfl
    | _ => rfl
  | bds65 n => cases n <;> rfl
  | _ => rfl

theorem applyTisb_eq (e : Entry) (me : MeView) : applyTisb e me = applyWrites e (tisbWrites me) := by
  cases e
  cases me <;> rfl

theorem applyCommB_seq (e : Entry) (b20 : Option Val) (b40 : Option (Option Val)) (b50 : Option Bds50)
    (b60 : Option Bds60) :
    applyCommB e ⟨b20, b40, b50, b60⟩ =
      applyCommB (applyCommB (applyCommB e ⟨b20, none, none, none⟩) ⟨none, b40, none, none⟩)
        ⟨none, none, b50, b60⟩ := rfl

theorem applyCommB_eq (e : Entry) (b : CommB) : applyCommB e b = applyWrites e (commbWrites b) := by
  obtain ⟨b20, b40, b50, b60⟩ := b
  have h20 : ∀ e : Entry, applyCommB e ⟨b20, none, none, none⟩ = applyWrites e (match b20 with
      | some cs => callsignWrites cs
      | none => []) := by
    intro e
    cases e
    cases b20 with
    | none => rfl
    | some cs => simp only [applyCommB, callsignWrites]; cases hasHash cs <;> rfl
  have h40 : ∀ e : Entry, applyCommB e ⟨none, b40, none, none⟩ = applyWrites e (match b40 with
      | some sel => [(.selectedAltitude, sel)]
      | none => []) := by
    intro e
    cases e
    cases b40 <;> rfl
  have hkin : ∀ e : Entry, applyCommB e ⟨none, none, b50, b60⟩ = applyWrites e (kinWrites b50 b60) := by
    intro e
    cases e
    rcases b60 with _ | ⟨ias, mach, hdg, _ | vr⟩ <;> cases b50 <;> rfl
  rw [applyCommB_seq, h20, h40, hkin, commbWrites, applyWrites_append, applyWrites_append]

theorem applyBody_eq (e : Entry) (b : Body) : applyBody e b = applyWrites e (bodyWrites b) := by
  cases b with
  | adsb me => exact applyAdsb_eq e me
  | tisb me => exact applyTisb_eq e me
  | commbAlt b => exact applyCommB_eq e b
  | commbId b => exact applyCommB_eq e b
  | _ => rfl

theorem touch_eq (r : Record) (e : Entry) :
    touch r e = applyWrites { e with lastseen := r.ts, count := e.count + 1 } (bodyWrites r.body) :=
  applyBody_eq _ _

theorem touch_meta (r : Record) (e : Entry) : metaOf (touch r e) = (e.icao24, e.firstseen, r.ts, e.count + 1) := by
  rw [touch_eq, applyWrites_meta]; rfl

theorem touch_icao24 (r : Record) (e : Entry) : (touch r e).icao24 = e.icao24 :=
  congrArg (·.1) (touch_meta r e)
theorem touch_firstseen (r : Record) (e : Entry) : (touch r e).firstseen = e.firstseen :=
  congrArg (·.2.1) (touch_meta r e)
theorem touch_lastseen (r : Record) (e : Entry) : (touch r e).lastseen = r.ts :=
  congrArg (·.2.2.1) (touch_meta r e)
theorem touch_count (r : Record) (e : Entry) : (touch r e).count = e.count + 1 :=
  congrArg (·.2.2.2) (touch_meta r e)

theorem adsbWrites_sub {me : MeView} {w : Write} (h : w ∈ adsbWrites me) :
    w ∈ meItems me ∨ w = (.altitude, none) := by
  unfold adsbWrites at h
  split at h
  · exact (List.mem_append.mp h).imp id List.mem_singleton.mp
  · unfold callsignWrites at h
    split at h
    · cases h
    · exact .inl h
  · cases h
  · exact .inl h

theorem kinWrites_sub (b20 : Option Val) (b40 : Option (Option Val)) (b50 : Option Bds50) (b60 : Option Bds60) :
    ∀ w ∈ kinWrites b50 b60, w ∈ commbItems ⟨b20, b40, b50, b60⟩ := by
  rcases b60 with _ | ⟨ias, mach, hdg, _ | vr⟩ <;> cases b50 <;> simp [kinWrites, commbItems]

theorem commbWrites_sub {b : CommB} {w : Write} (h : w ∈ commbWrites b) : w ∈ commbItems b := by
  obtain ⟨b20, b40, b50, b60⟩ := b
  simp only [commbWrites, List.mem_append] at h
  rcases h with (h | h) | h
  · cases b20 with
    | none => cases h
    | some cs =>
      have h : w ∈ callsignWrites cs := h
      unfold callsignWrites at h
      split at h
      · cases h
      · cases List.mem_singleton.mp h; exact List.mem_cons_self ..
  · cases b40 with
    | none => cases h
    | some sel => cases List.mem_singleton.mp h; exact List.mem_cons_of_mem _ (List.mem_cons_self ..)
  · exact kinWrites_sub b20 b40 b50 b60 w h

theorem bodyWrites_sub {b : Body} {w : Write} (h : w ∈ bodyWrites b) : w ∈ bodyItems b ∨ w = (.altitude, none) := by
  cases b with
  | adsb me => exact adsbWrites_sub h
  | tisb me =>
    rcases List.mem_cons.mp h with h | h
    · exact .inl (h ▸ List.mem_cons_self ..)
    · have h' : w ∈ adsbWrites me ∨ w ∈ meItems me := by
        split at h
        · exact .inl h
        · exact .inl h
        · exact .inr h
        · cases h
      rcases h' with h' | h'
      · exact (adsbWrites_sub h').imp (List.mem_cons_of_mem _) id
      · exact .inl (List.mem_cons_of_mem _ h')
  | commbAlt b => exact .inl (commbWrites_sub h)
  | commbId b => exact .inl (commbWrites_sub h)
  | _ => exact .inl h

theorem entryField_seen (e : Entry) (ts n : Nat) (f : Field) :
    entryField { e with lastseen := ts, count := n } f = entryField e f := by
  cases f <;> rfl

theorem touch_field {r : Record} {e : Entry} {f : Field} {v : Val} (h : entryField (touch r e) f = some v) :
    entryField e f = some v ∨ v ∈ carried r f := by
  rw [touch_eq] at h
  rcases entryField_applyWrites f (bodyWrites r.body) { e with lastseen := r.ts, count := e.count + 1 } with h' | h'
  · rw [h, entryField_seen] at h'
    exact .inl h'.symm
  · rw [h] at h'
    rcases bodyWrites_sub h' with hi | hi
    · exact .inr (mem_carried.mpr hi)
    · cases hi

theorem entryField_new (ts : Nat) (k : Addr) (f : Field) : entryField (Entry.new ts k) f = none := by
  cases f <;> rfl

/-- provenance: every value `oe` holds is carried by a record of `seen` -/
def Prov (seen : List Record) (oe : Option Entry) : Prop :=
  ∀ e f v, oe = some e → entryField e f = some v → ∃ r, r ∈ seen ∧ v ∈ carried r f

theorem Prov.mono {seen seen' : List Record} {oe : Option Entry} (h : Prov seen oe) (hs : seen ⊆ seen') :
    Prov seen' oe := fun e f v he hv =>
  let ⟨r, hr, hc⟩ := h e f v he hv
  ⟨r, hs hr, hc⟩

theorem Prov.getD_new {seen : List Record} {oe : Option Entry} (h : Prov seen oe) (ts : Nat) (k : Addr) :
    Prov seen (some (oe.getD (Entry.new ts k))) := by
  intro e f v he hv
  cases oe with
  | none => cases he; rw [Option.getD_none, entryField_new] at hv; cases hv
  | some e0 => exact h e f v he hv

theorem Prov.touch {seen : List Record} {oe : Option Entry} (h : Prov seen oe) (r : Record) (k : Addr) :
    Prov (seen ++ [r]) (some (touch r (oe.getD (Entry.new r.ts k)))) := by
  intro e f v he hv
  cases he
  rcases touch_field hv with hv | hv
  · obtain ⟨r', hr', hc⟩ := h.getD_new r.ts k _ f v rfl hv
    exact ⟨r', List.mem_append_left _ hr', hc⟩
  · exact ⟨r, List.mem_append_right _ (List.mem_singleton_self r), hv⟩

theorem entryOf_cons (k : Addr) (e : Entry) (t : Table) :
    entryOf k (e :: t) = if e.icao24 = k then some e else entryOf k t := rfl

theorem upsert_cons (k : Addr) (ts : Nat) (f : Entry → Entry) (e : Entry) (t : Table) :
    upsert k ts f (e :: t) = if e.icao24 = k then f e :: t else e :: upsert k ts f t := rfl

theorem entryOf_icao24 {k : Addr} {t : Table} {e : Entry} (h : entryOf k t = some e) : e.icao24 = k := by
  induction t with
  | nil => cases h
  | cons x t ih =>
    rw [entryOf_cons] at h
    split at h
    · cases h; assumption
    · exact ih h

theorem entryOf_upsert (k : Addr) (ts : Nat) (f : Entry → Entry) (hf : ∀ e, (f e).icao24 = e.icao24) (k' : Addr)
    (t : Table) :
    entryOf k' (upsert k ts f t) =
      if k' = k then some (f ((entryOf k t).getD (Entry.new ts k))) else entryOf k' t := by
  induction t with
  | nil =>
    show (if (f (Entry.new ts k)).icao24 = k' then _ else _) = _
    rw [hf, show (Entry.new ts k).icao24 = k from rfl]
    by_cases hk : k' = k
    · rw [if_pos hk, if_pos hk.symm]; rfl
    · rw [if_neg hk, if_neg (Ne.symm hk)]
  | cons x t ih =>
    rw [upsert_cons]
    by_cases hx : x.icao24 = k
    · rw [if_pos hx, entryOf_cons, entryOf_cons, entryOf_cons, hf, hx, if_pos rfl]
      by_cases hk : k' = k
      · rw [if_pos hk, if_pos hk.symm]; rfl
      · rw [if_neg hk, if_neg (Ne.symm hk), if_neg (Ne.symm hk)]
    · rw [if_neg hx, entryOf_cons, entryOf_cons, entryOf_cons, if_neg hx, ih]
      by_cases hx' : x.icao24 = k'
      · rw [if_pos hx', if_neg fun hk => hx (hx'.trans hk), if_pos hx']
      · rw [if_neg hx', if_neg hx']

def keys (t : Table) : List Addr := t.map (·.icao24)

theorem mem_keys_iff_entryOf (k : Addr) (t : Table) : k ∈ keys t ↔ (entryOf k t).isSome := by
  induction t with
  | nil => simp [keys, entryOf]
  | cons x t ih =>
    rw [entryOf_cons, keys, List.map_cons, List.mem_cons]
    split
    · next hx => simp [hx]
    · next hx => rw [← ih, keys]; simp [Ne.symm hx]

theorem keys_cons (e : Entry) (t : Table) : keys (e :: t) = e.icao24 :: keys t := rfl

theorem keys_upsert (k : Addr) (ts : Nat) (f : Entry → Entry)
    (hf : ∀ e, (f e).icao24 = e.icao24) (t : Table) :
    keys (upsert k ts f t) = if k ∈ keys t then keys t else keys t ++ [k] := by
  induction t with
  | nil => exact congrArg (· :: []) (hf _)
  | cons x t ih =>
    rw [upsert_cons]
    by_cases hx : x.icao24 = k
    · rw [if_pos hx, if_pos (hx ▸ List.mem_cons_self ..), keys_cons, keys_cons, hf]
    · rw [if_neg hx, keys_cons, keys_cons, ih]
      by_cases hk : k ∈ keys t
      · rw [if_pos hk, if_pos (List.mem_cons_of_mem _ hk)]
      · rw [if_neg hk, if_neg (fun h => (List.mem_cons.mp h).elim (fun e => hx e.symm) hk)]; rfl

theorem keys_upsert_nodup (k : Addr) (ts : Nat) (f : Entry → Entry) (hf : ∀ e, (f e).icao24 = e.icao24)
    (t : Table) (ht : (keys t).Nodup) : (keys (upsert k ts f t)).Nodup := by
  rw [keys_upsert k ts f hf t]
  split
  · exact ht
  · next hk =>
    rw [List.nodup_append]
    refine ⟨ht, List.nodup_cons.mpr ⟨List.not_mem_nil, List.nodup_nil⟩, fun a ha b hb hab => hk ?_⟩
    rw [← List.mem_singleton.mp hb, ← hab]; exact ha

/-- `update_snapshot` and `store_history`: `entry(k).or_insert(new)` under the address of the record, if it has
    one, and then `f` on that entry -/
def upsertAt (a : Option Addr) (ts : Nat) (f : Entry → Entry) (t : Table) : Table :=
  match a with
  | some k => upsert k ts f t
  | none => t

theorem entryOf_upsertAt (a : Option Addr) (ts : Nat) (f : Entry → Entry) (hf : ∀ e, (f e).icao24 = e.icao24)
    (t : Table) (k : Addr) :
    entryOf k (upsertAt a ts f t) =
      if a = some k then some (f ((entryOf k t).getD (Entry.new ts k))) else entryOf k t := by
  cases a with
  | none => rfl
  | some k' =>
    rw [upsertAt, entryOf_upsert k' ts f hf]
    by_cases hk : k = k'
    · rw [if_pos hk, if_pos (congrArg some hk.symm), hk]
    · rw [if_neg hk, if_neg fun h => hk (Option.some.inj h).symm]

theorem keys_upsertAt_nodup (a : Option Addr) (ts : Nat) (f : Entry → Entry) (hf : ∀ e, (f e).icao24 = e.icao24)
    (t : Table) (ht : (keys t).Nodup) : (keys (upsertAt a ts f t)).Nodup := by
  cases a with
  | none => exact ht
  | some k => exact keys_upsert_nodup k ts f hf t ht

/-- `update_snapshot` on `k`'s entry, for a record showing `k`: create it if need be, then `touch` -/
def stepK (k : Addr) (oe : Option Entry) (r : Record) : Option Entry :=
  some (touch r (oe.getD (Entry.new r.ts k)))

theorem own_cons (k : Addr) (r : Record) (h : List Record) :
    own k (r :: h) = if r.addr = some k then r :: own k h else own k h := by
  unfold own; rw [List.filter_cons]; simp only [decide_eq_true_eq]

theorem entryOf_foldl_update (k : Addr) (h : List Record) : ∀ t : Table,
    entryOf k (h.foldl update t) = (own k h).foldl (stepK k) (entryOf k t) := by
  induction h with
  | nil => intro t; rfl
  | cons r h ih =>
    intro t
    rw [List.foldl_cons, ih, own_cons, show update t r = upsertAt r.addr r.ts (touch r) t from rfl,
      entryOf_upsertAt _ _ _ (touch_icao24 r)]
    split <;> rfl

theorem own_own (k : Addr) (h : List Record) : own k (own k h) = own k h := by
  simp [own, List.filter_filter]

theorem mem_own {k : Addr} {h : List Record} {r : Record} : r ∈ own k h ↔ r ∈ h ∧ r.addr = some k := by
  simp [own]

theorem own_ne_nil {k : Addr} {h : List Record} : own k h ≠ [] ↔ ∃ r, r ∈ h ∧ r.addr = some k := by
  constructor
  · intro h
    obtain ⟨r, hr⟩ := List.exists_mem_of_ne_nil _ h
    exact ⟨r, mem_own.mp hr⟩
  · rintro ⟨r, hr⟩
    exact List.ne_nil_of_mem (mem_own.mpr hr)

theorem fold_isSome (k : Addr) (l : List Record) : ∀ oe : Option Entry,
    ((l.foldl (stepK k) oe).isSome ↔ (oe.isSome ∨ l ≠ [])) := by
  induction l with
  | nil => intro oe; simp
  | cons r l ih => intro oe; rw [List.foldl_cons, ih]; simp [stepK]

end Rs1090.Proofs.Snapshot
