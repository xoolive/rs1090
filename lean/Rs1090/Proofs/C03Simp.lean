/-
The simp set `frame_run`, with which the frame theorems run a reader under `wpOk` on a buffer of known length.
A call `simp only [frame_run, …]` lists next to it only what is particular to its reader: the reader's
definitions, the `Carries` hypotheses of the frame, the values of the flags.  The rules are tagged in `C03Frames`
(an attribute cannot be used in the module that declares it).
-/
import Lean.Meta.Tactic.Simp.RegisterCommand
import Lean.Meta.Tactic.Simp.BuiltinSimprocs.Nat

/-- running a reader under `wpOk` on a buffer of known length -/
register_simp_attr frame_run
