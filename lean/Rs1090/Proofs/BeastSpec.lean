/-
For Props/C09.lean: the loop on the wire form of well-formed frames
(relates the pure view of the model, Proofs/Beast.lean, to Spec/Beast.lean).
-/
import Rs1090.Proofs.Beast
import Rs1090.Spec.Beast
namespace Rs1090.Proofs.Beast
open Rs1090 Rs1090.Model.Beast Rs1090.Spec.Beast
open Rs1090.Gen.Beast (msgSize VALID_TYPES)

theorem escape_cons_esc (bs : Bytes) : escape (26 :: bs) = 26 :: 26 :: escape bs := rfl

theorem escape_cons_ne {b : Nat} (bs : Bytes) (hb : ¬ b = 26) : escape (b :: bs) = b :: escape bs :=
  if_neg hb

theorem scan_escape (sz : Nat) (rest : Bytes) : ∀ (body msg : Bytes) (i : Nat),
    msg.length + body.length = sz →
    scan sz (escape body ++ rest) msg i = (msg ++ body, i + (escape body).length)
  | [], msg, i, h => by
    simp only [escape, List.nil_append, List.append_nil, List.length_nil, Nat.add_zero] at h ⊢
    exact scan_full _ _ (by omega)
  | b :: body, msg, i, h => by
    have hlt : msg.length < sz := by simp at h; omega
    have ih := fun j => scan_escape sz rest body (msg ++ [b]) j (by simp at h ⊢; omega)
    by_cases hb : b = 26
    · subst hb
      rw [escape_cons_esc, List.cons_append, List.cons_append, scan_esc_esc _ _ hlt, ih]
      simp [List.append_assoc]; omega
    · rw [escape_cons_ne _ hb, List.cons_append, scan_plain _ _ hlt hb, ih]
      simp [List.append_assoc]; omega

theorem WF_cases {f : Frame} (h : f.WF) :
    (f.ty = 49 ∧ f.body.length = 9) ∨ (f.ty = 50 ∧ f.body.length = 14) ∨
    (f.ty = 51 ∧ f.body.length = 21) ∨ (f.ty = 52 ∧ f.body.length = 21) := by
  unfold Frame.WF bodyLen at h
  split at h
  · rename_i h1; injection h with h; exact .inl ⟨h1, by omega⟩
  · split at h
    · rename_i h1; injection h with h; exact .inr (.inl ⟨h1, by omega⟩)
    · split at h
      · rename_i h1; injection h with h; exact .inr (.inr (.inl ⟨h1, by omega⟩))
      · split at h
        · rename_i h1; injection h with h; exact .inr (.inr (.inr ⟨h1, by omega⟩))
        · cases h

theorem WF_size {f : Frame} (h : f.WF) : VALID_TYPES.contains f.ty = true ∧ msgSize f.ty = f.body.length + 2 := by
  rcases WF_cases h with ⟨h1, h2⟩ | ⟨h1, h2⟩ | ⟨h1, h2⟩ | ⟨h1, h2⟩ <;> rw [h1, h2] <;> exact ⟨rfl, rfl⟩

theorem iterTail_wire {f : Frame} (h : f.WF) (rest : Bytes) :
    iterTail (f.wire ++ rest) = .cont rest (if f.isMode then some f.raw else none) := by
  obtain ⟨hv, hs⟩ := WF_size h
  obtain ⟨ty, body⟩ := f
  show iterTail (26 :: ty :: (escape body ++ rest)) = _
  rw [iterTail, if_pos hv, scan_escape _ rest body [26, ty] 2 (by rw [hs]; simp; omega),
    if_neg (by rw [hs]; simp)]
  congr 1
  · rw [show 2 + (escape body).length = (escape body).length + 1 + 1 by omega]
    simp
  · simp [Frame.isMode, Frame.raw, ESC]

theorem expected_cons (f : Frame) (fs : List Frame) :
    expected (f :: fs) = (if f.isMode then some f.raw else none).toList ++ expected fs := by
  unfold expected
  rw [List.filter_cons]
  cases f.isMode <;> simp

theorem F_wire {f : Frame} (h : f.WF) (rest : Bytes) (h23 : 23 ≤ (f.wire ++ rest).length) :
    F (f.wire ++ rest) = ((F rest).1, (if f.isMode then some f.raw else none).toList ++ (F rest).2) := by
  have hw : f.wire ++ rest = 26 :: (f.ty :: escape f.body ++ rest) := rfl
  rw [F_unfold, if_neg (by omega)]
  have : iter (f.wire ++ rest) = iterTail (f.wire ++ rest) := by
    rw [hw]; exact iter_of_head (by rw [← hw]; exact h23)
  rw [this, iterTail_wire h]

/-- the frame on which the unrepaired reader failed (two adjacent 0x1A data bytes, i.e. four on
    the wire) followed by a short frame -/
def witness : List Frame :=
  [⟨0x33, [0x1A, 0x1A, 0x42, 0x43, 0x44, 0x45, 0x46, 0x47, 0x48, 0x49, 0x4a, 0x4b, 0x4c, 0x4d, 0x4e, 0x4f,
           0x50, 0x51, 0x52, 0x53, 0x54]⟩,
   ⟨0x32, [1, 2, 3, 4, 5, 6, 7, 8, 9, 10, 11, 12, 13, 14]⟩,
   ⟨0x32, [1, 2, 3, 4, 5, 6, 7, 8, 9, 10, 11, 12, 13, 14]⟩]

end Rs1090.Proofs.Beast
