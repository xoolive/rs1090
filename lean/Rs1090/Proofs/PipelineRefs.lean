/-
The pipeline model with per-sensor references and `--update-position` (`Model/PipelineRefs.lean`): the loop is
the frame-level table of the records annotated with the positions the loop attaches; what a position step
reads and writes (its own aircraft's cache entry, the reference of the record's first serial; with
`u = false` no reference); the columns other than the position depend on time stamps and frames only.
-/
import Rs1090.Model.PipelineRefs
import Rs1090.Proofs.Pipeline
namespace Rs1090.Proofs.PipelineRefs
open Rs1090 Rs1090.Model Rs1090.Model.Message Rs1090.Model.Snapshot Rs1090.Model.SnapshotView
open Rs1090.Model.Cpr Rs1090.Model.CprState Rs1090.Model.Pipeline Rs1090.Model.PipelineRefs
open Rs1090.Proofs.Snapshot Rs1090.Proofs.SnapshotView Rs1090.Proofs.Filters Rs1090.Proofs.Pipeline
open Rs1090.Proofs.CprState Rs1090.Spec.Snapshot

theorem fold_stepS_eq (g : Gates) (dist : Pos → Pos → Rat) (u : Bool) :
    ∀ (h : List RcvS) (c : Cache) (m : Refs) (t : Table),
      (h.foldl (stepS g dist u) { cache := c, refs := m, table := t }).table
        = (annotS g dist u c m h).foldl (fun t x => update t x.record) t := by
  intro h
  induction h with
  | nil => intro c m t; rfl
  | cons x rest ih =>
    intro c m t
    simp only [List.foldl_cons, annotS]
    exact ih _ _ _

theorem runPipelineS_eq (g : Gates) (dist : Pos → Pos → Rat) (u : Bool) (refs : Refs) (h : List RcvS) :
    runPipelineS g dist u refs h = runFrames (annotS g dist u Cache.empty refs h) := by
  unfold runPipelineS runS runFrames
  exact fold_stepS_eq g dist u h _ _ _

theorem runS_state (g : Gates) (dist : Pos → Pos → Rat) (u : Bool) :
    ∀ (h : List RcvS) (c : Cache) (m : Refs) (t : Table),
      ((h.foldl (stepS g dist u) { cache := c, refs := m, table := t }).cache,
       (h.foldl (stepS g dist u) { cache := c, refs := m, table := t }).refs) = stateS g dist u c m h := by
  intro h
  induction h with
  | nil => intro c m t; rfl
  | cons x rest ih =>
    intro c m t
    simp only [List.foldl_cons, stateS]
    exact ih _ _ _

theorem annotS_forget (g : Gates) (dist : Pos → Pos → Rat) (u : Bool) :
    ∀ (h : List RcvS) (c : Cache) (m : Refs),
      (annotS g dist u c m h).map (fun y => (y.ts, y.frame)) = h.map (fun x => (tsU64 x.t, x.frame)) := by
  intro h
  induction h with
  | nil => intro c m; rfl
  | cons x rest ih => intro c m; simp only [annotS, List.map_cons, ih]

def ownS (k : Addr) (h : List RcvS) : List RcvS := h.filter fun x => icao24Of x.frame = some k

theorem mem_ownS {k : Addr} {h : List RcvS} {x : RcvS} :
    x ∈ ownS k h ↔ x ∈ h ∧ ShowsIcao24 x.frame k := by
  unfold ownS
  rw [List.mem_filter, showsIcao24_iff]
  simp

theorem ownS_cons (k : Addr) (x : RcvS) (h : List RcvS) :
    ownS k (x :: h) = if icao24Of x.frame = some k then x :: ownS k h else ownS k h := by
  unfold ownS; rw [List.filter_cons]; simp only [decide_eq_true_eq]

theorem callOf_some (x : RcvS) (r : Report) (h : callOf x = some r) :
    ∃ r0, cprReportOf x.t x.frame = some r0 ∧ r.addr = r0.addr ∧ r.ts = r0.ts ∧ r.kind = r0.kind ∧ r.msg = r0.msg := by
  unfold callOf at h
  cases h0 : cprReportOf x.t x.frame with
  | none => rw [h0] at h; cases h
  | some r0 =>
    rw [h0] at h
    simp only [Option.map_some, Option.some.injEq] at h
    subst h
    exact ⟨r0, rfl, rfl, rfl, rfl, rfl⟩

theorem exists_cpr_addressS (k : Addr) :
    ∃ A : Address, ∀ x r, callOf x = some r → (icao24Of x.frame = some k ↔ r.addr = A) := by
  obtain ⟨A, hA⟩ := exists_cpr_address k
  refine ⟨A, fun x r hr => ?_⟩
  obtain ⟨r0, h0, ha, _⟩ := callOf_some x r hr
  rw [ha]
  exact hA _ _ _ h0

theorem posStep_refs_fixed (g : Gates) (dist : Pos → Pos → Rat) (c : Cache) (m : Refs) (x : RcvS) :
    (posStep g dist false c m x).2.1 = m := by
  unfold posStep
  cases callOf x with
  | none => rfl
  | some r => simp [writesBack]

theorem posStep_untouched_elsewhere (g : Gates) (dist : Pos → Pos → Rat) (u : Bool) (c : Cache) (m : Refs) (x : RcvS)
    (k : Addr) (A : Address)
    (hA : ∀ x r, callOf x = some r → (icao24Of x.frame = some k ↔ r.addr = A))
    (hk : icao24Of x.frame ≠ some k) :
    (posStep g dist u c m x).1 A = c A := by
  unfold posStep
  cases hc : callOf x with
  | none => rfl
  | some r =>
    have ha : A ≠ r.addr := fun e => hk ((hA x r hc).mpr e.symm)
    exact decodePosition_frame g dist (updOf u) _ r A ha

theorem posStep_local (g : Gates) (dist : Pos → Pos → Rat) (u : Bool) (c c' : Cache) (m : Refs) (x : RcvS)
    (k : Addr) (A : Address)
    (hA : ∀ x r, callOf x = some r → (icao24Of x.frame = some k ↔ r.addr = A))
    (hk : icao24Of x.frame = some k) (he : c A = c' A) :
    (posStep g dist u c m x).2.2 = (posStep g dist u c' m x).2.2 ∧
    (posStep g dist u c m x).1 A = (posStep g dist u c' m x).1 A ∧
    (posStep g dist u c m x).2.1 = (posStep g dist u c' m x).2.1 := by
  unfold posStep
  cases hc : callOf x with
  | none => exact ⟨rfl, he, rfl⟩
  | some r =>
    have ha : r.addr = A := (hA x r hc).mp hk
    obtain ⟨h1, h2, h3⟩ := decodePosition_local g dist (updOf u) (c, m (x.serials.headD 0)) (c', m (x.serials.headD 0)) r
      (by rw [ha]; exact he) rfl
    refine ⟨h1, by rw [← ha]; exact h2, ?_⟩
    simp only [h3]

theorem ownFrames_annotS_fixed (g : Gates) (dist : Pos → Pos → Rat) (m : Refs) (k : Addr) (A : Address)
    (hA : ∀ x r, callOf x = some r → (icao24Of x.frame = some k ↔ r.addr = A)) :
    ∀ (h : List RcvS) (c c' : Cache), c A = c' A →
      ownFrames k (annotS g dist false c m h) = annotS g dist false c' m (ownS k h) := by
  intro h
  induction h with
  | nil => intro c c' _; rfl
  | cons x rest ih =>
    intro c c' he
    rw [ownS_cons]
    simp only [annotS]
    rw [ownFrames_cons, posStep_refs_fixed]
    split
    · next hk =>
      obtain ⟨h1, h2, _⟩ := posStep_local g dist false c c' m x k A hA hk he
      simp only [annotS]
      rw [h1, posStep_refs_fixed]
      exact congrArg _ (ih _ _ h2)
    · next hk => exact ih _ _ (by rw [posStep_untouched_elsewhere g dist false c m x k A hA hk]; exact he)

theorem posStep_some (g : Gates) (dist : Pos → Pos → Rat) (u : Bool) (c : Cache) (m : Refs) (x : RcvS) (p : Pos)
    (h : (posStep g dist u c m x).2.2 = some p) :
    ∃ r, callOf x = some r ∧ (decodePosition g dist (updOf u) (c, m (x.serials.headD 0)) r).2 = some p := by
  unfold posStep at h
  cases hc : callOf x with
  | none => rw [hc] at h; cases h
  | some r => rw [hc] at h; exact ⟨r, rfl, h⟩

theorem mem_annotS_pos (g : Gates) (dist : Pos → Pos → Rat) (u : Bool) :
    ∀ (h : List RcvS) (c : Cache) (m : Refs) (y : Rx) (q : Val × Val),
      y ∈ annotS g dist u c m h → y.pos = some q →
      ∃ pre x post p, h = pre ++ x :: post ∧ y.frame = x.frame ∧
        (posStep g dist u (stateS g dist u c m pre).1 (stateS g dist u c m pre).2 x).2.2 = some p ∧ q = posText p := by
  intro h
  induction h with
  | nil => intro c m y q hy; cases hy
  | cons x rest ih =>
    intro c m y q hy hq
    simp only [annotS, List.mem_cons] at hy
    rcases hy with rfl | hy
    · simp only at hq
      cases hp : (posStep g dist u c m x).2.2 with
      | none => rw [hp] at hq; cases hq
      | some p =>
        rw [hp] at hq
        simp only [Option.map_some, Option.some.injEq] at hq
        exact ⟨[], x, rest, p, rfl, rfl, hp, hq.symm⟩
    · obtain ⟨pre, x', post, p, e, hf, hp, hq'⟩ := ih _ _ y q hy hq
      refine ⟨x :: pre, x', post, p, by rw [e]; rfl, hf, ?_, hq'⟩
      simpa only [stateS] using hp

/-- the entry with its position columns cleared -/
def noPos (e : Entry) : Entry := { e with latitude := none, longitude := none }

/-- a write to a column other than the position -/
def isNonPos (w : Write) : Bool := w.1 != .latitude && w.1 != .longitude

theorem noPos_setField (e : Entry) (f : Field) (v : Option Val) :
    noPos (setField e f v) = if isNonPos (f, v) then setField (noPos e) f v else noPos e := by
  cases f <;> rfl

theorem noPos_applyWrites (ws : List Write) : ∀ e : Entry,
    noPos (applyWrites e ws) = applyWrites (noPos e) (ws.filter isNonPos) := by
  induction ws with
  | nil => intro e; rfl
  | cons w ws ih =>
    intro e
    rw [applyWrites_cons, ih, noPos_setField, List.filter_cons]
    split <;> rfl

/-- what of a record the columns other than the position depend on -/
def nonPosKey (r : Record) : Nat × List Write := (r.ts, (bodyWrites r.body).filter isNonPos)

theorem noPos_touch (r : Record) (e : Entry) :
    noPos (touch r e) =
      applyWrites { noPos e with lastseen := (nonPosKey r).1, count := (noPos e).count + 1 } (nonPosKey r).2 := by
  rw [touch_eq, noPos_applyWrites]; rfl

theorem noPos_fold (k : Addr) : ∀ (l₁ l₂ : List Record) (oe₁ oe₂ : Option Entry),
    l₁.map nonPosKey = l₂.map nonPosKey → oe₁.map noPos = oe₂.map noPos →
    (l₁.foldl (stepK k) oe₁).map noPos = (l₂.foldl (stepK k) oe₂).map noPos := by
  intro l₁
  induction l₁ with
  | nil =>
    intro l₂ oe₁ oe₂ hl ho
    cases l₂ with
    | nil => exact ho
    | cons _ _ => cases hl
  | cons r₁ l₁ ih =>
    intro l₂ oe₁ oe₂ hl ho
    cases l₂ with
    | nil => cases hl
    | cons r₂ l₂ =>
      rw [List.map_cons, List.map_cons, List.cons.injEq] at hl
      refine ih l₂ _ _ hl.2 ?_
      have hts : r₁.ts = r₂.ts := congrArg Prod.fst hl.1
      have he : noPos (oe₁.getD (Entry.new r₁.ts k)) = noPos (oe₂.getD (Entry.new r₂.ts k)) := by
        cases oe₁ with
        | none =>
          cases oe₂ with
          | none => rw [hts]
          | some _ => cases ho
        | some e₁ =>
          cases oe₂ with
          | none => cases ho
          | some e₂ => exact Option.some.inj ho
      show some (noPos (touch r₁ _)) = some (noPos (touch r₂ _))
      rw [noPos_touch, noPos_touch, hl.1, he]

theorem posfree_meView (frame : List Nat) (kvs : List (Key × Json)) (pos : Option (Val × Val)) :
    (adsbWrites (meView frame kvs pos)).filter isNonPos = (adsbWrites (meView frame kvs none)).filter isNonPos ∧
    (tisbWrites (meView frame kvs pos)).filter isNonPos = (tisbWrites (meView frame kvs none)).filter isNonPos := by
  unfold meView
  split <;> exact ⟨rfl, rfl⟩

theorem posfree_bodyView (frame : List Nat) (kvs : List (Key × Json)) (pos : Option (Val × Val)) :
    (bodyWrites (bodyView frame kvs pos)).filter isNonPos = (bodyWrites (bodyView frame kvs none)).filter isNonPos := by
  unfold bodyView
  split <;> first | rfl | exact (posfree_meView frame kvs pos).1 | exact (posfree_meView frame kvs pos).2

theorem nonPosKey_record (x : Rx) : nonPosKey x.record = nonPosKey (recordOfFrame x.ts x.frame none) := by
  refine Prod.ext ((record_ts x).trans (record_ts ⟨x.ts, x.frame, none⟩).symm) ?_
  unfold nonPosKey Rx.record recordOfFrame
  split
  · next j _ =>
    cases j with
    | obj kvs => exact posfree_bodyView x.frame kvs x.pos
    | _ => rfl
  · rfl

theorem noPos_entry_of_forget (k : Addr) (l₁ l₂ : List Rx)
    (e : l₁.map (fun y => (y.ts, y.frame)) = l₂.map (fun y => (y.ts, y.frame))) :
    (entryOf k (runFrames l₁)).map noPos = (entryOf k (runFrames l₂)).map noPos := by
  rw [entryOf_runFrames, entryOf_runFrames]
  refine noPos_fold k _ _ _ _ ?_ rfl
  have hkey : nonPosKey ∘ Rx.record = (fun p : Nat × List Nat => nonPosKey (recordOfFrame p.1 p.2 none)) ∘
      fun y : Rx => (y.ts, y.frame) := funext nonPosKey_record
  rw [List.map_map, List.map_map, hkey, ← List.map_map, ← List.map_map,
    ownFrames_forget (·.ts) (·.frame) k l₁ l₂ e]
  rfl

end Rs1090.Proofs.PipelineRefs
