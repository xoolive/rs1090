/-
The composed pipeline model (`Model/Pipeline.lean`): the loop "decode → decode_position → update_snapshot"
equals "positions by C06's batch model, then C12's frame-level table"; the address the CPR cache is keyed by
and the address the table is keyed by are the same address of the frame; own sub-histories commute with the
attachment of positions.
-/
import Rs1090.Model.Pipeline
import Rs1090.Proofs.SnapshotView
import Rs1090.Proofs.CprState
namespace Rs1090.Proofs.Pipeline
open Rs1090 Rs1090.Model Rs1090.Model.Message Rs1090.Model.Snapshot Rs1090.Model.SnapshotView
open Rs1090.Model.Cpr Rs1090.Model.CprState Rs1090.Model.Pipeline
open Rs1090.Proofs.SnapshotView Rs1090.Proofs.Filters

/-- `Message::from_bytes` (`dedup.rs`) and `Message::try_from` (the model's decoder) agree on a frame of
    exactly the announced length (7 / 14 bytes — what receivers deliver) -/
theorem fromBytes_eq_tryFrom (bs : List Nat) (h : bs.length = frameBits (bs.headD 0) / 8) :
    fromBytes bs = tryFrom bs := by
  rw [tryFrom_eq, ← h, bne_self_eq_false]
  cases fromBytes bs <;> rfl

theorem reportsOf_cons (x : Rcv) (rest : List Rcv) :
    reportsOf (x :: rest) = match cprReportOf x.t x.frame with
      | some r => r :: reportsOf rest
      | none => reportsOf rest := by
  unfold reportsOf; rw [List.filterMap_cons]; cases cprReportOf x.t x.frame <;> rfl

theorem attach_cons (x : Rcv) (rest : List Rcv) (outs : List (Option Pos)) :
    attach (x :: rest) outs =
      if (cprReportOf x.t x.frame).isSome then
        ⟨tsU64 x.t, x.frame, (outs.head?.bind id).map posText⟩ :: attach rest outs.tail
      else ⟨tsU64 x.t, x.frame, none⟩ :: attach rest outs := by
  conv => lhs; unfold attach
  cases cprReportOf x.t x.frame <;> cases outs <;> rfl

theorem fold_step_eq (g : Gates) (dist : Pos → Pos → Rat) :
    ∀ (h : List Rcv) (st : CprState.State) (t : Table),
      (h.foldl (step g dist) { cpr := st, table := t }).table
        = (attach h (CprState.run g dist none st (reportsOf h))).foldl (fun t x => update t x.record) t := by
  intro h
  induction h with
  | nil => intro st t; rfl
  | cons x rest ih =>
    intro st t
    rw [List.foldl_cons, attach_cons, reportsOf_cons]
    cases hx : cprReportOf x.t x.frame with
    | none =>
      have : step g dist { cpr := st, table := t } x
          = { cpr := st, table := update t (recordOfFrame (tsU64 x.t) x.frame none) } := by
        simp only [step, hx]
      rw [this, ih]; rfl
    | some r =>
      have : step g dist { cpr := st, table := t } x
          = { cpr := (decodePosition g dist none st r).1,
              table := update t (recordOfFrame (tsU64 x.t) x.frame ((decodePosition g dist none st r).2.map posText)) } := by
        simp only [step, hx]
      rw [this, ih]; rfl

theorem runPipeline_eq (g : Gates) (dist : Pos → Pos → Rat) (reference : Option Pos) (h : List Rcv) :
    runPipeline g dist reference h = runFrames (annotate g dist reference h) :=
  fold_step_eq g dist h _ _

theorem attach_forget : ∀ (h : List Rcv) (outs : List (Option Pos)),
    (attach h outs).map (fun y => (y.ts, y.frame)) = h.map (fun x => (tsU64 x.t, x.frame)) := by
  intro h
  induction h with
  | nil => intro outs; rfl
  | cons x rest ih =>
    intro outs
    rw [attach_cons]
    split <;> rw [List.map_cons, List.map_cons, ih]

theorem mem_attach_pos : ∀ (h : List Rcv) (outs : List (Option Pos)) (y : Rx) (q : Val × Val),
    y ∈ attach h outs → y.pos = some q → ∃ p, some p ∈ outs ∧ q = posText p := by
  intro h
  induction h with
  | nil => intro outs y q hy; cases hy
  | cons x rest ih =>
    intro outs y q hy hq
    rw [attach_cons] at hy
    split at hy
    · rcases List.mem_cons.mp hy with rfl | hy
      · cases ho : outs.head?.bind id with
        | none => rw [ho] at hq; cases hq
        | some p =>
          rw [ho] at hq
          refine ⟨p, ?_, (Option.some.inj hq).symm⟩
          cases outs with
          | nil => cases ho
          | cons o outs' => cases (show o = some p from ho); exact List.mem_cons_self ..
      · obtain ⟨p, hp, e⟩ := ih _ y q hy hq
        exact ⟨p, List.mem_of_mem_tail hp, e⟩
    · rcases List.mem_cons.mp hy with rfl | hy
      · cases hq
      · exact ih outs y q hy hq

/-! `decode_position` is called with `&adsb.icao24` / `&cf.aa` (the CPR cache key: `Report.addr`, a number);
`update_snapshot` files the message under `icao24(msg)` (the table key: the text of the JSON member
`icao24`).  Both are the AA field of the frame, bits 8..32. -/

theorem cprReportOf_addr (t : Rat) (f : List Nat) (r : Report) (h : cprReportOf t f = some r) :
    r.ts = t ∧ r.addr = bitsBE f 8 24 ∧ r.addr < 2 ^ 24 ∧ icao24Of f = some (hex6 r.addr) := by
  unfold cprReportOf at h
  simp only [] at h
  split at h
  · next hdf =>
    split at h
    · next kvs hok =>
      cases hm : cprMsgOf kvs with
      | none => rw [hm] at h; cases h
      | some km =>
        rw [hm] at h
        cases h
        have hdf' : [0, 4, 5, 11, 16, 17, 18, 20, 21].contains (bitsBE f 0 5) = true ∧
            [11, 17, 18].contains (bitsBE f 0 5) = true := by
          generalize bitsBE f 0 5 = d at hdf
          simp only [Bool.or_eq_true, beq_iff_eq] at hdf
          rcases hdf with rfl | rfl <;> decide
        obtain ⟨a, ha, h1, _⟩ := icao24Of_frame f _ hok hdf'.1
        refine ⟨rfl, rfl, Rs1090.Model.bitsBE_lt f 8 24, ?_⟩
        rw [ha, h1 hdf'.2]
    · cases h
  · cases h

theorem same_address_iff (t₁ t₂ : Rat) (f₁ f₂ : List Nat) (r₁ r₂ : Report)
    (h₁ : cprReportOf t₁ f₁ = some r₁) (h₂ : cprReportOf t₂ f₂ = some r₂) :
    r₁.addr = r₂.addr ↔ icao24Of f₁ = icao24Of f₂ := by
  obtain ⟨_, _, b₁, e₁⟩ := cprReportOf_addr t₁ f₁ r₁ h₁
  obtain ⟨_, _, b₂, e₂⟩ := cprReportOf_addr t₂ f₂ r₂ h₂
  rw [e₁, e₂]
  exact ⟨fun h => by rw [h], fun h => hex6_inj _ _ b₁ b₂ (Option.some.inj h)⟩

/-- `A` is the address whose six hex digits are `k`, or an impossible address when `k` is no such text -/
theorem exists_cpr_address (k : Addr) :
    ∃ A : Address, ∀ t f r, cprReportOf t f = some r → (icao24Of f = some k ↔ r.addr = A) := by
  by_cases h : ∃ a, a < 2 ^ 24 ∧ hex6 a = k
  · obtain ⟨a, ha, rfl⟩ := h
    refine ⟨a, fun t f r hr => ?_⟩
    obtain ⟨_, _, b, e⟩ := cprReportOf_addr t f r hr
    rw [e]
    exact ⟨fun h => hex6_inj _ _ b ha (Option.some.inj h), fun h => by rw [h]⟩
  · refine ⟨2 ^ 24, fun t f r hr => ?_⟩
    obtain ⟨_, _, b, e⟩ := cprReportOf_addr t f r hr
    rw [e]
    exact ⟨fun hk => absurd ⟨r.addr, b, Option.some.inj hk⟩ h, fun hk => absurd (hk ▸ b) (Nat.lt_irrefl _)⟩

/-- `k`'s receptions: those whose frame shows address `k` -/
def ownRcv (k : Addr) (h : List Rcv) : List Rcv := h.filter fun x => icao24Of x.frame = some k

theorem mem_ownRcv {k : Addr} {h : List Rcv} {x : Rcv} :
    x ∈ ownRcv k h ↔ x ∈ h ∧ ShowsIcao24 x.frame k := by
  unfold ownRcv
  rw [List.mem_filter, showsIcao24_iff]
  simp

theorem ownRcv_cons (k : Addr) (x : Rcv) (h : List Rcv) :
    ownRcv k (x :: h) = if icao24Of x.frame = some k then x :: ownRcv k h else ownRcv k h := by
  unfold ownRcv; rw [List.filter_cons]; simp only [decide_eq_true_eq]

theorem reportsOf_own (k : Addr) (A : Address)
    (hA : ∀ t f r, cprReportOf t f = some r → (icao24Of f = some k ↔ r.addr = A)) (h : List Rcv) :
    reportsOf (ownRcv k h) = Rs1090.Proofs.CprState.own A (reportsOf h) := by
  unfold reportsOf ownRcv Rs1090.Proofs.CprState.own
  rw [List.filterMap_filter, List.filter_filterMap]
  congr 1
  funext x
  cases hx : cprReportOf x.t x.frame with
  | none => exact ite_self _
  | some r =>
    rw [Option.filter_some]
    exact if_congr (by rw [decide_eq_true_eq, beq_iff_eq]; exact hA _ _ _ hx) rfl rfl

theorem ownFrames_attach (g : Gates) (dist : Pos → Pos → Rat) (k : Addr) (A : Address)
    (hA : ∀ t f r, cprReportOf t f = some r → (icao24Of f = some k ↔ r.addr = A)) :
    ∀ (h : List Rcv) (st : CprState.State),
      ownFrames k (attach h (CprState.run g dist none st (reportsOf h)))
        = attach (ownRcv k h) (Rs1090.Proofs.CprState.outputsOf A (reportsOf h)
            (CprState.run g dist none st (reportsOf h))) := by
  intro h
  induction h with
  | nil => intro st; rfl
  | cons x rest ih =>
    intro st
    rw [attach_cons, reportsOf_cons]
    cases hx : cprReportOf x.t x.frame with
    | none =>
      simp only [Option.isSome_none, Bool.false_eq_true, if_false]
      rw [ownFrames_cons, ownRcv_cons]
      split
      · rw [attach_cons, hx]; exact congrArg _ (ih st)
      · exact ih st
    | some r =>
      simp only [Option.isSome_some, if_true, CprState.run, List.head?_cons, List.tail_cons]
      rw [ownFrames_cons, ownRcv_cons]
      split
      · next hk =>
        rw [Rs1090.Proofs.CprState.outputsOf_cons_same A r _ _ _ ((hA _ _ _ hx).mp hk), attach_cons, hx]
        exact congrArg _ (ih _)
      · next hk =>
        rw [Rs1090.Proofs.CprState.outputsOf_cons_other A r _ _ _ fun e => hk ((hA _ _ _ hx).mpr e)]
        exact ih _

/-- `hni` is C06's `noninterference` for the cache entry `A` -/
theorem ownFrames_annotate (g : Gates) (dist : Pos → Pos → Rat) (reference : Option Pos) (k : Addr) (A : Address)
    (hA : ∀ t f r, cprReportOf t f = some r → (icao24Of f = some k ↔ r.addr = A)) (h : List Rcv)
    (hni : Rs1090.Proofs.CprState.outputsOf A (reportsOf h) (decodePositions g dist none reference (reportsOf h))
      = decodePositions g dist none reference (Rs1090.Proofs.CprState.own A (reportsOf h))) :
    ownFrames k (annotate g dist reference h) = annotate g dist reference (ownRcv k h) := by
  unfold annotate decodePositions at *
  rw [ownFrames_attach g dist k A hA, hni, reportsOf_own k A hA]

end Rs1090.Proofs.Pipeline
