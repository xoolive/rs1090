import Mathlib.Data.Rat.Floor
import Mathlib.Tactic.Linarith
import Mathlib.Tactic.NormNum
import Rs1090.Model.Cpr
import Rs1090.Spec.Cpr
/-!
The NL function.  The model's ladder (`Model.Cpr.nlGo`), the standard's table lookup (`Spec.Cpr.NL`, a
`List.find?`) and the float-level ladder of `CprFloatAsm` are all "value of the first row that applies":
`firstMatch`.  Range, monotonicity and the agreement of `nl` with `NL` are read off that form, with one
evaluation of the facts about the standard's table that they need (`nlTable_ok`).
-/
namespace Rs1090.Proofs.Cpr
open Rs1090 Rs1090.Model.Cpr Rs1090.Spec.Cpr

def firstMatch {α : Type} (p : α → Bool) (v : α → ℕ) (d : ℕ) (l : List α) : ℕ :=
  ((l.find? p).map v).getD d

section firstMatch
variable {α β : Type} {p q : α → Bool} {v : α → ℕ} {d : ℕ}

theorem firstMatch_cons (x : α) (l : List α) :
    firstMatch p v d (x :: l) = if p x then v x else firstMatch p v d l := by
  unfold firstMatch
  rw [List.find?_cons]
  cases p x <;> rfl

theorem firstMatch_mem (l : List α) :
    firstMatch p v d l = d ∨ ∃ x ∈ l, firstMatch p v d l = v x := by
  unfold firstMatch
  cases h : l.find? p with
  | none => exact Or.inl rfl
  | some x => exact Or.inr ⟨x, List.mem_of_find?_eq_some h, rfl⟩

theorem firstMatch_range {lo hi : ℕ} {l : List α} (hd : lo ≤ d ∧ d ≤ hi)
    (h : ∀ x ∈ l, lo ≤ v x ∧ v x ≤ hi) : lo ≤ firstMatch p v d l ∧ firstMatch p v d l ≤ hi := by
  rcases firstMatch_mem (p := p) (v := v) (d := d) l with e | ⟨x, hx, e⟩
  · rw [e]; exact hd
  · rw [e]; exact h x hx

theorem firstMatch_of_forall_not {l : List α} (h : ∀ x ∈ l, p x = false) : firstMatch p v d l = d := by
  unfold firstMatch
  rw [List.find?_eq_none.mpr fun x hx => by simp [h x hx]]
  rfl

theorem firstMatch_congr {l : List α} (h : ∀ x ∈ l, p x = q x) :
    firstMatch p v d l = firstMatch q v d l := by
  induction l with
  | nil => rfl
  | cons x l ih =>
    rw [firstMatch_cons, firstMatch_cons, h x (List.mem_cons_self ..),
      ih fun y hy => h y (List.mem_cons_of_mem _ hy)]

theorem firstMatch_map (f : β → α) (l : List β) :
    firstMatch p v d (l.map f) = firstMatch (p ∘ f) (v ∘ f) d l := by
  unfold firstMatch
  rw [List.find?_map, Option.map_map]

/-- a weaker predicate matches earlier: when the values descend along the list and `d` is below all of
    them, it yields the larger value -/
theorem firstMatch_antitone {l : List α} (h : ∀ x ∈ l, q x = true → p x = true) (hd : ∀ x ∈ l, d ≤ v x)
    (hl : l.Pairwise fun x y => v y ≤ v x) : firstMatch q v d l ≤ firstMatch p v d l := by
  induction l with
  | nil => exact le_rfl
  | cons x l ih =>
    rw [List.pairwise_cons] at hl
    rw [firstMatch_cons, firstMatch_cons]
    by_cases hq : q x = true
    · rw [if_pos hq, if_pos (h x (List.mem_cons_self ..) hq)]
    · rw [if_neg hq]
      split
      · -- `p` stops at `x`; `q` goes on to a later value or to `d`, both at most `v x`
        rcases firstMatch_mem (p := q) (v := v) (d := d) l with e | ⟨y, hy, e⟩
        · rw [e]; exact hd x (List.mem_cons_self ..)
        · rw [e]; exact hl.1 y hy
      · exact ih (fun y hy => h y (List.mem_cons_of_mem _ hy))
          (fun y hy => hd y (List.mem_cons_of_mem _ hy)) hl.2

end firstMatch

theorem nlGo_eq_firstMatch (a : ℚ) (d : ℕ) (l : List (ℕ × Bool × ℕ)) :
    nlGo a d l = firstMatch (fun r => rowHit a r.1 r.2.1) (·.2.2) d l := by
  induction l with
  | nil => rfl
  | cons r l ih => rw [firstMatch_cons, ← ih]; rfl

theorem rowHit_down {a b : ℚ} (hab : a ≤ b) (t : Nat) (s : Bool) (h : rowHit b t s = true) :
    rowHit a t s = true := by
  unfold rowHit at *
  cases s <;> simp only [Bool.false_eq_true, if_false, if_true, decide_eq_true_eq] at * <;> linarith

theorem absR_eq_abs (x : ℚ) : absR x = |x| := by
  unfold absR
  split
  · rw [abs_of_neg]; assumption
  · rw [abs_of_nonneg]; linarith

theorem fabs_eq_abs (x : ℚ) : fabs x = |x| := absR_eq_abs x

/-- the ladder regenerated from `fn nl` is the standard's table, and the value above 87° is 1 -/
theorem nl_table_eq : Gen.Cpr.nlLadder = nlLadder ∧ Gen.Cpr.nlDefault = 1 := by decide +kernel

/-- what is used of the standard's table: every transition latitude is at most 87°, the row of NL = 2 is
    the one at exactly 87°, and the values descend from row to row, from at most 59 down to 2 -/
theorem nlTable_ok :
    (∀ row ∈ nlTable, row.1 ≤ 8700000000 ∧ (row.2 = 2 → row.1 = 8700000000) ∧ 1 ≤ row.2 ∧ row.2 ≤ 59) ∧
    nlTable.Pairwise (fun r s => s.2 ≤ r.2) ∧
    firstMatch (fun row => row.2 == 2) (·.2) 1 nlTable = 2 := by decide +kernel

theorem ladder_range (p : ℕ × Bool × ℕ → Bool) :
    1 ≤ firstMatch p (·.2.2) Gen.Cpr.nlDefault Gen.Cpr.nlLadder ∧
      firstMatch p (·.2.2) Gen.Cpr.nlDefault Gen.Cpr.nlLadder ≤ 59 := by
  rw [nl_table_eq.1, nl_table_eq.2]
  unfold nlLadder
  rw [firstMatch_map]
  exact firstMatch_range ⟨le_rfl, by norm_num⟩ fun row hr => (nlTable_ok.1 row hr).2.2

theorem nl_range (x : ℚ) : 1 ≤ nl x ∧ nl x ≤ 59 := by
  unfold nl
  rw [nlGo_eq_firstMatch]
  exact ladder_range _

theorem nl_pos (x : ℚ) : 1 ≤ nl x := (nl_range x).1

theorem nl_eq_firstMatch (x : ℚ) :
    nl x = firstMatch (fun row => rowHit |x| row.1 (row.2 != 2)) (·.2) 1 nlTable := by
  have e : (if x < 0 then -x else x) = |x| := fabs_eq_abs x
  unfold nl
  rw [e, nl_table_eq.1, nl_table_eq.2, nlGo_eq_firstMatch]
  exact firstMatch_map _ _

theorem nl_antitone {x y : ℚ} (h : |x| ≤ |y|) : nl y ≤ nl x := by
  rw [nl_eq_firstMatch, nl_eq_firstMatch]
  exact firstMatch_antitone (fun row _ => rowHit_down h _ _) (fun row hr => (nlTable_ok.1 row hr).2.2.1)
    nlTable_ok.2.1

/-- the table lookup inside `Spec.Cpr.NL` -/
def findNL (a : ℚ) (l : List (Nat × Nat)) : Nat :=
  match l.find? (fun row => decide (a < (row.1 : ℚ) / nlUnit)) with
  | some row => row.2
  | none => 1

theorem findNL_eq_firstMatch (a : ℚ) (l : List (Nat × Nat)) :
    findNL a l = firstMatch (fun row => decide (a < (row.1 : ℚ) / nlUnit)) (·.2) 1 l := by
  unfold findNL firstMatch
  cases l.find? _ <;> rfl

theorem thr_eq (t : Nat) : thr t = (t : ℚ) / nlUnit := by
  unfold thr nlUnit Gen.Cpr.nlScale
  norm_num

theorem thr_le87 {t : ℕ} (h : t ≤ 8700000000) : (t : ℚ) / nlUnit ≤ 87 := by
  unfold nlUnit
  rw [div_le_iff₀ (by norm_num)]
  exact_mod_cast h

/-- how the ladder decides on a row of the table: off 87° like the table's strict comparison; at exactly
    87° only the inclusive row of NL = 2 (the standard's explicit rule) applies -/
theorem rowHit_table (a : ℚ) (row : ℕ × ℕ) (h87 : row.1 ≤ 8700000000)
    (h2 : row.2 = 2 → row.1 = 8700000000) :
    rowHit a row.1 (row.2 != 2)
      = if a = 87 then row.2 == 2 else decide (a < (row.1 : ℚ) / nlUnit) := by
  have ht := thr_le87 h87
  unfold rowHit
  rw [thr_eq]
  by_cases hn : row.2 = 2
  · have e : (row.1 : ℚ) / nlUnit = 87 := by rw [h2 hn]; unfold nlUnit; norm_num
    simp only [hn, bne_self_eq_false, Bool.false_eq_true, if_false, e, beq_self_eq_true]
    split
    · simp [*]
    · rw [decide_eq_decide]; exact ⟨fun h => lt_of_le_of_ne h ‹_›, le_of_lt⟩
  · have : (row.2 != 2) = true := by simpa using hn
    have : (row.2 == 2) = false := by simpa using hn
    simp only [*, if_true]
    split
    · simp only [decide_eq_false_iff_not, not_lt]; linarith
    · rfl

theorem nl_eq_NL (x : ℚ) : nl x = NL x := by
  have hrow : ∀ row ∈ nlTable, rowHit |x| row.1 (row.2 != 2)
      = if |x| = 87 then row.2 == 2 else decide (|x| < (row.1 : ℚ) / nlUnit) :=
    fun row hr => rowHit_table _ row (nlTable_ok.1 row hr).1 (nlTable_ok.1 row hr).2.1
  rw [nl_eq_firstMatch, firstMatch_congr hrow]
  unfold NL
  rw [absR_eq_abs]
  show _ = if |x| = 87 then 2 else if |x| > 87 then 1 else findNL |x| nlTable
  split
  · exact nlTable_ok.2.2
  · split
    · apply firstMatch_of_forall_not
      intro row hr
      have := thr_le87 (nlTable_ok.1 row hr).1
      rw [decide_eq_false_iff_not, not_lt]
      linarith
    · exact (findNL_eq_firstMatch _ _).symm

theorem NL_range (x : ℚ) : 1 ≤ NL x ∧ NL x ≤ 59 := nl_eq_NL x ▸ nl_range x

end Rs1090.Proofs.Cpr
