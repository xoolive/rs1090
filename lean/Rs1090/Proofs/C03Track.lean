/-
C03 helper lemmas: what the two symbolic nodes of BDS 0,9 (velocity over ground) denote over the reals.

The decoder computes, from the exactly decoded integer components `ew`, `ns` (kt),

    groundspeed = libm::hypot(|ew|, |ns|)
    track       = let h = libm::atan2(ew, ns) * (360 / (2π));  if h < 0 { h + 360 } else { h }

The model keeps them as the nodes `Json.hypot |ew| |ns|`, `Json.atan2deg ew ns`.  For `|ns| ≤ 4·1022` the wrapped
EXACT angle lies in `[0, 359.987]` (`trackDeg_range`): a negative angle is at most `−(180/π)·arctan(1/4088) < −0.013°`,
so `h + 360 ≤ 359.987 < 360` — the margin is 10^11 ulps of 360.0, which is why the f64 corner
"tiny negative + 360 = 360.0" cannot occur (libm's atan2 is accurate to < 1 ulp).
-/
import Mathlib.Analysis.SpecialFunctions.Complex.Arg
import Mathlib.Analysis.SpecialFunctions.Trigonometric.Arctan
import Mathlib.Analysis.SpecialFunctions.Trigonometric.Bounds
import Mathlib.Analysis.Real.Pi.Bounds
import Mathlib.Tactic.Linarith
import Mathlib.Tactic.NormNum
import Mathlib.Tactic.FieldSimp
import Rs1090.Model.Decode.Bds09
namespace Rs1090.Proofs.C03.Track
open Real

/-- `atan2 y x`: the argument of `x + y·i`, in (−π, π] (`atan2 0 0 = 0`, as libm) -/
noncomputable def atan2 (y x : ℝ) : ℝ := Complex.arg ⟨x, y⟩

/-- the angle before wrapping: `atan2(ew, ns) · 360 / (2π)` degrees, in (−180, 180] -/
noncomputable def headingDeg (ew ns : ℤ) : ℝ := atan2 ew ns * (360 / (2 * π))

noncomputable def trackDeg (ew ns : ℤ) : ℝ :=
  if headingDeg ew ns < 0 then headingDeg ew ns + 360 else headingDeg ew ns

noncomputable def hypotR (a b : ℤ) : ℝ := Real.sqrt ((a : ℝ) ^ 2 + (b : ℝ) ^ 2)

/-- what a JSON number node of the model denotes when it is one of the two transcendental nodes -/
noncomputable def exact : Rs1090.Model.Json → Option ℝ
  | .hypot a b => some (hypotR a b)
  | .atan2deg y x => some (trackDeg y x)
  | _ => none

theorem deg_pos : (0 : ℝ) < 360 / (2 * π) := by positivity

theorem headingDeg_bounds (ew ns : ℤ) : -180 < headingDeg ew ns ∧ headingDeg ew ns ≤ 180 := by
  have e : π * (360 / (2 * π)) = 180 := by field_simp; ring
  unfold headingDeg atan2
  constructor
  · have := mul_lt_mul_of_pos_right (Complex.neg_pi_lt_arg ⟨(ns : ℝ), (ew : ℝ)⟩) deg_pos
    rwa [neg_mul, e] at this
  · have := mul_le_mul_of_nonneg_right (Complex.arg_le_pi ⟨(ns : ℝ), (ew : ℝ)⟩) deg_pos.le
    rwa [e] at this

theorem hypotR_nonneg (a b : ℤ) : 0 ≤ hypotR a b := Real.sqrt_nonneg _

theorem hypotR_sq (a b : ℤ) : hypotR a b ^ 2 = (a : ℝ) ^ 2 + (b : ℝ) ^ 2 :=
  Real.sq_sqrt (by positivity)

/-- a point below the real axis by at least 1 whose real part is at most `B` in absolute value: its argument
    is at most `−arctan (1 / B)` -/
theorem arg_le_neg_arctan (z : ℂ) (B : ℝ) (hB : 0 < B) (him : z.im ≤ -1) (hre : |z.re| ≤ B) :
    Complex.arg z ≤ -Real.arctan (1 / B) := by
  by_contra hcon
  have hcon := not_le.mp hcon
  have hneg : Complex.arg z < 0 := Complex.arg_neg_iff.mpr (by linarith)
  have hd1 : Real.arctan (1 / B) < π / 2 := Real.arctan_lt_pi_div_two _
  have hd0 : 0 < Real.arctan (1 / B) := Real.arctan_pos.mpr (by positivity)
  have hz : z ≠ 0 := by
    intro h; rw [h] at him; simp at him; linarith
  have hnorm : 0 < ‖z‖ := norm_pos_iff.mpr hz
  -- cos (arg z) > 0, hence re z > 0
  have hcos : 0 < Real.cos (Complex.arg z) :=
    Real.cos_pos_of_mem_Ioo ⟨by linarith, by linarith [Real.pi_pos]⟩
  rw [Complex.cos_arg hz] at hcos
  have hrepos : 0 < z.re := by
    by_contra h
    have h := not_lt.mp h
    have : z.re / ‖z‖ ≤ 0 := div_nonpos_of_nonpos_of_nonneg h hnorm.le
    linarith
  -- tan is increasing on (−π/2, π/2)
  have htan := Real.tan_lt_tan_of_lt_of_lt_pi_div_two (x := -Real.arctan (1 / B)) (y := Complex.arg z)
    (by linarith) (by linarith [Real.pi_pos]) hcon
  rw [Real.tan_neg, Real.tan_arctan, Complex.tan_arg] at htan
  have hreB : z.re ≤ B := le_trans (le_abs_self _) hre
  -- −1/B < im / re  with 0 < re ≤ B  gives  −1 < im
  have h1 : -(1 / B) * z.re < z.im := by
    have := mul_lt_mul_of_pos_right htan hrepos
    rwa [div_mul_cancel₀ _ hrepos.ne'] at this
  have h2 : -(1 / B) * z.re ≥ -1 := by
    have : (1 / B) * z.re ≤ (1 / B) * B := mul_le_mul_of_nonneg_left hreB (by positivity)
    rw [one_div_mul_cancel hB.ne'] at this
    linarith
  linarith

/-- `t < arctan a` whenever `t / (1 − t²/2) < a` (from `sin t < t`, `cos t ≥ 1 − t²/2`) -/
theorem lt_arctan_of (t a : ℝ) (ht0 : 0 < t) (ht1 : t < 1) (ha : 0 ≤ a) (h : t < a * (1 - t ^ 2 / 2)) :
    t < Real.arctan a := by
  have htpi : t < π / 2 := by have := Real.pi_gt_three; linarith
  have hcos : 1 - t ^ 2 / 2 ≤ Real.cos t := Real.one_sub_sq_div_two_le_cos
  have hsin : Real.sin t < t := Real.sin_lt ht0
  have hc : 0 < Real.cos t := Real.cos_pos_of_mem_Ioo ⟨by linarith, htpi⟩
  have htan : Real.tan t < a := by
    rw [Real.tan_eq_sin_div_cos, div_lt_iff₀ hc]
    have h3 : a * (1 - t ^ 2 / 2) ≤ a * Real.cos t := mul_le_mul_of_nonneg_left hcos ha
    linarith
  have := Real.arctan_strictMono htan
  rwa [Real.arctan_tan (by linarith) htpi] at this

theorem margin_deg : (0.013 : ℝ) < Real.arctan (1 / 4088) * (360 / (2 * π)) := by
  have hpi := Real.pi_pos
  have h1 : (23 / 100000 : ℝ) < Real.arctan (1 / 4088) :=
    lt_arctan_of _ _ (by norm_num) (by norm_num) (by norm_num) (by norm_num)
  have h2 := Real.pi_lt_d2
  have h3 : (0.013 : ℝ) < (23 / 100000 : ℝ) * (360 / (2 * π)) := by
    rw [show (23 / 100000 : ℝ) * (360 / (2 * π)) = (23 / 100000 * 180) / π by field_simp; ring]
    rw [lt_div_iff₀ hpi]
    norm_num at h2 ⊢
    linarith
  have h4 : (23 / 100000 : ℝ) * (360 / (2 * π)) < Real.arctan (1 / 4088) * (360 / (2 * π)) :=
    mul_lt_mul_of_pos_right h1 (by positivity)
  linarith

theorem headingDeg_neg_margin (ew ns : ℤ) (hns : |ns| ≤ 4 * 1022) (h : headingDeg ew ns < 0) :
    headingDeg ew ns ≤ -(Real.arctan (1 / 4088) * (360 / (2 * π))) := by
  unfold headingDeg atan2 at h ⊢
  have harg : Complex.arg ⟨(ns : ℝ), (ew : ℝ)⟩ < 0 := by
    by_contra hc
    have := mul_nonneg (not_lt.mp hc) deg_pos.le
    linarith
  have him : ((⟨(ns : ℝ), (ew : ℝ)⟩ : ℂ)).im < 0 := Complex.arg_neg_iff.mp harg
  simp only at him
  have hew : ew ≤ -1 := by
    have : ew < 0 := by exact_mod_cast him
    omega
  have hew' : ((⟨(ns : ℝ), (ew : ℝ)⟩ : ℂ)).im ≤ -1 := by
    simp only; exact_mod_cast hew
  have hns' : |((⟨(ns : ℝ), (ew : ℝ)⟩ : ℂ)).re| ≤ 4088 := by
    simp only
    have : ((|ns| : ℤ) : ℝ) ≤ 4088 := by exact_mod_cast (by omega : |ns| ≤ 4088)
    rwa [Int.cast_abs] at this
  have := arg_le_neg_arctan _ 4088 (by norm_num) hew' hns'
  have := mul_le_mul_of_nonneg_right this deg_pos.le
  linarith

/-- any `ew`; both components zero included: `atan2 0 0 = 0` -/
theorem trackDeg_range (ew ns : ℤ) (hns : |ns| ≤ 4 * 1022) :
    0 ≤ trackDeg ew ns ∧ trackDeg ew ns ≤ 359.987 ∧ trackDeg ew ns < 360 := by
  obtain ⟨hlo, hhi⟩ := headingDeg_bounds ew ns
  unfold trackDeg
  split
  · rename_i h
    have hm := headingDeg_neg_margin ew ns hns h
    have := margin_deg
    refine ⟨by linarith, ?_, ?_⟩ <;> norm_num <;> linarith
  · rename_i h
    have h := not_lt.mp h
    refine ⟨h, ?_, ?_⟩ <;> norm_num <;> linarith

end Rs1090.Proofs.C03.Track
