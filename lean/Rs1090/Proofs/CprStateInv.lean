import Rs1090.Proofs.CprState
import Mathlib.Data.List.Induction
/-!
The cache invariant of the trajectory decoder, by induction over the history — NO kinematics, NO assumption
on what the reports carry.

A history is a list of reports, each with an annotation of an arbitrary type `α` (the proofs of
`Props/C06.lean` put the true position there; nothing in this file looks at it).  `logOf` pairs every
annotated report with what the run attached to it.  After any history, from the empty cache:

* every parity slot of every entry holds an EARLIER report of the same address, airborne, of that parity,
  with its recorded time stamp in the slot's time stamp (`EntryInv.even`, `.odd`);
* `pos`, when present, is the position ATTACHED to an earlier report of the same address whose recorded time
  stamp is `timestamp` (`EntryInv.pos`);
* the receiver reference is the initial one or — only with an `update_reference` callback `f` — the position
  attached to an earlier airborne report (of any address) on which `f` answered `true` (`RefInv`).

`run_invariant` is the induction over the history behind it and behind `Props.C06.sound`: a property of the
log so far and the state reached that every call preserves holds after the whole history.
-/
namespace Rs1090.Proofs.CprState
open Rs1090 Rs1090.Model.Cpr Rs1090.Model.CprState

variable {α : Type}

abbrev LogItem (α : Type) := (Report × α) × Option Pos

def logOf (g : Gates) (dist : Pos → Pos → Rat) (upd : Option (Report → Bool)) (st : State)
    (H : List (Report × α)) : List (LogItem α) :=
  H.zip (run g dist upd st (H.map Prod.fst))

theorem logOf_snoc (g : Gates) (dist : Pos → Pos → Rat) (upd : Option (Report → Bool)) (st : State)
    (H : List (Report × α)) (x : Report × α) :
    logOf g dist upd st (H ++ [x]) = logOf g dist upd st H ++
      [(x, (decodePosition g dist upd (runState g dist upd st (H.map Prod.fst)) x.1).2)] := by
  unfold logOf
  rw [List.map_append, run_append, List.zip_append (by rw [run_length, List.length_map])]
  rfl

structure EntryInv (log : List (LogItem α)) (A : Address) (e : AircraftState) : Prop where
  even : ∀ o, e.evenMsg = some o → ∃ x ∈ log, x.1.1.addr = A ∧ x.1.1.kind = .airborne ∧ x.1.1.msg = o ∧
    o.parity = .even ∧ x.1.1.ts = e.evenTs
  odd : ∀ o, e.oddMsg = some o → ∃ x ∈ log, x.1.1.addr = A ∧ x.1.1.kind = .airborne ∧ x.1.1.msg = o ∧
    o.parity = .odd ∧ x.1.1.ts = e.oddTs
  pos : ∀ lp, e.pos = some lp → ∃ x ∈ log, x.1.1.addr = A ∧ x.1.1.ts = e.timestamp ∧ x.2 = some lp

def CacheInv (log : List (LogItem α)) (c : Cache) : Prop := ∀ A e, c A = some e → EntryInv log A e

def RefInv (upd : Option (Report → Bool)) (ref0 : Option Pos) (log : List (LogItem α)) (ref : Option Pos) :
    Prop :=
  ref = ref0 ∨ ∃ x ∈ log, ∃ f p, upd = some f ∧ f x.1.1 = true ∧ x.1.1.kind = .airborne ∧ x.2 = some p ∧
    ref = some p

theorem EntryInv.mono {log : List (LogItem α)} {A : Address} {e : AircraftState} (h : EntryInv log A e)
    (y : LogItem α) : EntryInv (log ++ [y]) A e := by
  refine ⟨fun o ho => ?_, fun o ho => ?_, fun lp hlp => ?_⟩
  · obtain ⟨x, hx, r⟩ := h.even o ho; exact ⟨x, List.mem_append_left _ hx, r⟩
  · obtain ⟨x, hx, r⟩ := h.odd o ho; exact ⟨x, List.mem_append_left _ hx, r⟩
  · obtain ⟨x, hx, r⟩ := h.pos lp hlp; exact ⟨x, List.mem_append_left _ hx, r⟩

theorem EntryInv.getD {log : List (LogItem α)} {c : Cache} (h : CacheInv log c) (r : Report) :
    EntryInv log r.addr ((c r.addr).getD (AircraftState.fresh r.ts)) := by
  cases hc : c r.addr with
  | none => exact ⟨fun _ ho => (by cases ho), fun _ ho => (by cases ho), fun _ hlp => (by cases hlp)⟩
  | some e => exact h r.addr e hc

theorem EntryInv.other {log : List (LogItem α)} {A : Address} {e : AircraftState} (h : EntryInv log A e)
    (par : Parity) (o : Msg) (ho : otherMsg e par = some o) :
    ∃ x ∈ log, x.1.1.addr = A ∧ x.1.1.kind = .airborne ∧ x.1.1.msg = o ∧ o.parity ≠ par ∧
      x.1.1.ts = otherTs e par := by
  cases par with
  | even =>
    obtain ⟨x, hx, a, b, c, d, f⟩ := h.odd o ho
    exact ⟨x, hx, a, b, c, by rw [d]; decide, f⟩
  | odd =>
    obtain ⟨x, hx, a, b, c, d, f⟩ := h.even o ho
    exact ⟨x, hx, a, b, c, by rw [d]; decide, f⟩

/-- the invariant survives `latest.pos = Some(pos); latest.timestamp = timestamp` when `pos` is the position
    attached to a logged report of `A` -/
theorem EntryInv.setPos {log : List (LogItem α)} {A : Address} {e : AircraftState} (h : EntryInv log A e)
    (y : LogItem α) (hy : y ∈ log) (ha : y.1.1.addr = A) (p : Pos) (hp : y.2 = some p) :
    EntryInv log A { e with pos := some p, timestamp := y.1.1.ts } :=
  ⟨h.even, h.odd, fun _ hlp => by cases hlp; exact ⟨y, hy, ha, rfl, hp⟩⟩

/-- the invariant survives `latest.pos = None` -/
theorem EntryInv.clearPos {log : List (LogItem α)} {A : Address} {e : AircraftState} (h : EntryInv log A e) :
    EntryInv log A { e with pos := none } :=
  ⟨h.even, h.odd, fun _ hlp => by cases hlp⟩

theorem EntryInv.storeSlot {log : List (LogItem α)} {A : Address} {e : AircraftState} (h : EntryInv log A e)
    (y : LogItem α) (hy : y ∈ log) (ha : y.1.1.addr = A) (hk : y.1.1.kind = .airborne) :
    EntryInv log A (storeSlot e y.1.1.msg y.1.1.ts) := by
  unfold Model.CprState.storeSlot
  cases hpar : y.1.1.msg.parity with
  | even => exact ⟨fun _ ho => by cases ho; exact ⟨y, hy, ha, hk, rfl, hpar, rfl⟩, h.odd, h.pos⟩
  | odd => exact ⟨h.even, fun _ ho => by cases ho; exact ⟨y, hy, ha, hk, rfl, hpar, rfl⟩, h.pos⟩

theorem RefInv.mono {upd : Option (Report → Bool)} {ref0 ref : Option Pos} {log : List (LogItem α)}
    (h : RefInv upd ref0 log ref) (y : LogItem α) : RefInv upd ref0 (log ++ [y]) ref := by
  rcases h with h | ⟨x, hx, r⟩
  · exact Or.inl h
  · exact Or.inr ⟨x, List.mem_append_left _ hx, r⟩

theorem cacheInv_step (g : Gates) (hg : LiteralGates g) (dist : Pos → Pos → Rat)
    (upd : Option (Report → Bool)) (log : List (LogItem α)) (c : Cache) (ref : Option Pos) (x : Report × α)
    (h : CacheInv log c) :
    CacheInv (log ++ [(x, (decodePosition g dist upd (c, ref) x.1).2)])
      (decodePosition g dist upd (c, ref) x.1).1.1 := by
  intro A e' hA
  by_cases ha : A = x.1.addr
  swap
  · rw [decodePosition_frame g dist upd (c, ref) x.1 A ha] at hA
    exact (h A e' hA).mono _
  subst ha
  generalize he : (c x.1.addr).getD (AircraftState.fresh x.1.ts) = e
  have hm := fun out => (he ▸ EntryInv.getD h x.1).mono (x, out)
  have hx : ∀ out, (x, out) ∈ log ++ [(x, out)] := fun _ => List.mem_concat_self
  cases hk : x.1.kind with
  | other =>
    rw [decodePosition_other g dist upd c ref x.1 hk, he] at hA ⊢
    cases (set_same _ _ _).symm.trans hA
    exact hm _
  | surface =>
    rw [decodePosition_surface g hg dist upd c ref x.1 hk he] at hA ⊢
    cases (set_same _ _ _).symm.trans hA
    unfold surfEntry
    cases hout : surfOut dist e ref x.1.ts x.1.msg with
    | none => exact hm _
    | some p => exact (hm _).setPos _ (hx _) rfl p rfl
  | airborne =>
    rw [decodePosition_airborne g hg dist upd c ref x.1 hk he] at hA ⊢
    cases (set_same _ _ _).symm.trans hA
    split_ifs
    · exact hm _
    · unfold airEntry
      cases hout : airOut dist e x.1.ts x.1.msg with
      | none => exact (hm _).clearPos.storeSlot _ (hx _) rfl hk
      | some p => exact ((hm _).setPos _ (hx _) rfl p rfl).storeSlot _ (hx _) rfl hk

theorem refInv_step (g : Gates) (hg : LiteralGates g) (dist : Pos → Pos → Rat)
    (upd : Option (Report → Bool)) (ref0 : Option Pos) (log : List (LogItem α)) (c : Cache) (ref : Option Pos)
    (x : Report × α) (h : RefInv upd ref0 log ref) :
    RefInv upd ref0 (log ++ [(x, (decodePosition g dist upd (c, ref) x.1).2)])
      (decodePosition g dist upd (c, ref) x.1).1.2 := by
  cases hk : x.1.kind with
  | other => rw [decodePosition_other g dist upd c ref x.1 hk]; exact h.mono _
  | surface => rw [decodePosition_surface g hg dist upd c ref x.1 hk rfl]; exact h.mono _
  | airborne =>
    rw [decodePosition_airborne g hg dist upd c ref x.1 hk rfl]
    split_ifs
    · exact h.mono _
    · -- the reference moves only to what was attached to `x`, and only if the callback says so
      unfold refAfter
      cases hout : airOut dist ((c x.1.addr).getD (AircraftState.fresh x.1.ts)) x.1.ts x.1.msg with
      | none => exact h.mono _
      | some p =>
        cases upd with
        | none => exact h.mono _
        | some f =>
          by_cases hf : f x.1 = true
          · simp only [hf, if_true]
            exact Or.inr ⟨_, List.mem_concat_self, f, p, rfl, hf, hk, rfl, rfl⟩
          · simp only [hf]
            exact h.mono _

/-- Induction along the batch run: a relation `I` between the log and the decoder's state that holds for the
    empty log and the initial state, and that every call of `decodePosition` carries over to the log extended
    by the report and its output, holds for the log and the final state of the whole history.  The step may use
    where in the history it is (`H = pre ++ x :: post`, the log so far being that of `pre`). -/
theorem run_invariant (g : Gates) (dist : Pos → Pos → Rat) (upd : Option (Report → Bool)) (st₀ : State)
    (I : List (LogItem α) → State → Prop) (H : List (Report × α)) (h0 : I [] st₀)
    (hstep : ∀ pre x post, H = pre ++ x :: post → ∀ log st, log.map Prod.fst = pre → I log st →
      I (log ++ [(x, (decodePosition g dist upd st x.1).2)]) (decodePosition g dist upd st x.1).1) :
    I (logOf g dist upd st₀ H) (runState g dist upd st₀ (H.map Prod.fst)) := by
  suffices hs : ∀ pre post, H = pre ++ post →
      I (logOf g dist upd st₀ pre) (runState g dist upd st₀ (pre.map Prod.fst)) from
    hs H [] (List.append_nil H).symm
  intro pre
  induction pre using List.reverseRecOn with
  | nil => intro _ _; exact h0
  | append_singleton pre x ih =>
    intro post hH
    have hH' : H = pre ++ x :: post := by rw [hH, List.append_assoc]; rfl
    rw [logOf_snoc, List.map_append, runState_append]
    exact hstep pre x post hH' _ _ (List.map_fst_zip (by rw [run_length, List.length_map])) (ih _ hH')

theorem inv_run (g : Gates) (hg : LiteralGates g) (dist : Pos → Pos → Rat) (upd : Option (Report → Bool))
    (ref0 : Option Pos) (H : List (Report × α)) :
    CacheInv (logOf g dist upd (Cache.empty, ref0) H)
      (runState g dist upd (Cache.empty, ref0) (H.map Prod.fst)).1 ∧
    RefInv upd ref0 (logOf g dist upd (Cache.empty, ref0) H)
      (runState g dist upd (Cache.empty, ref0) (H.map Prod.fst)).2 :=
  run_invariant g dist upd (Cache.empty, ref0) (fun log st => CacheInv log st.1 ∧ RefInv upd ref0 log st.2) H
    ⟨fun _ _ hA => (by cases hA), Or.inl rfl⟩
    fun _ x _ _ log st _ h => ⟨cacheInv_step g hg dist upd log st.1 st.2 x h.1,
      refInv_step g hg dist upd ref0 log st.1 st.2 x h.2⟩

theorem logOf_getElem? (g : Gates) (dist : Pos → Pos → Rat) (upd : Option (Report → Bool)) (st : State)
    (H : List (Report × α)) (k : ℕ) (x : Report × α) (o : Option Pos) (hx : H[k]? = some x)
    (ho : (run g dist upd st (H.map Prod.fst))[k]? = some o) :
    (x, o) ∈ logOf g dist upd st H := by
  unfold logOf
  apply List.mem_iff_getElem?.2
  exact ⟨k, by rw [List.getElem?_zip_eq_some]; exact ⟨hx, ho⟩⟩

end Rs1090.Proofs.CprState
