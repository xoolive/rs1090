/-
The key dispatch of `update()` (Model/Tui.lean), for Props/C17.lean.  `updateKey` is split into which action a
key stands for (`keyAct`, by mode) and what an action does (`applyAct`); what the handler does to the selection
(`SelPost`) is a fact about three of the actions, and which keys change which flag is `keysOf_keyAct` composed
with `applyAct_changes`.
-/
import Rs1090.Model.Tui
import Rs1090.Proofs.Decode.Wp -- for `Outcome.bind_eq_ok`
namespace Rs1090.Proofs.Tui
open Rs1090 Rs1090.Model.Tui

inductive Act where
  | next | previous | home | quit | sort (s : SortKey) | flipOrder | enterSearch
  | leaveSearch (clear : Bool) | type (c : Char) | backspace | ignore

/-- the `match (jet1090.is_search_mode, key.code)` of `update()` as a classification of the keys -/
def keyAct : Bool → Key → Act
  | true, .char c => .type c
  | true, .backspace => .backspace
  | true, .enter => .leaveSearch false
  | true, .esc => .leaveSearch true
  | false, .char 'j' | _, .down => .next
  | false, .char 'k' | _, .up => .previous
  | false, .char 'g' | _, .pageUp | _, .home => .home
  | false, .char 'q' | false, .esc => .quit
  | false, .char 'a' => .sort .altitude
  | false, .char 'c' => .sort .callsign
  | false, .char 'v' => .sort .vrate
  | false, .char '.' => .sort .count
  | false, .char 'f' => .sort .first
  | false, .char 'l' => .sort .last
  | false, .char '-' => .flipOrder
  | false, .char '/' => .enterSearch
  | _, _ => .ignore

/-- `g` is the `guarded` switch of Model/Tui.lean: `true` is the handler as it is (`update = updateG true`),
    `false` the one with `items.len() - 1`, of which only Props/C17.lean `unguarded_panics` speaks -/
def applyAct (g : Bool) (ui : Ui) : Act → Outcome Ui
  | .next => next g ui
  | .previous => previous g ui
  | .home => home ui
  | .quit => .ok { ui with quit := true }
  | .sort s => .ok { ui with sortKey := s }
  | .flipOrder => .ok { ui with asc := !ui.asc }
  | .enterSearch => .ok { ui with search := true }
  | .leaveSearch false => .ok { ui with search := false }
  | .leaveSearch true => .ok { ui with search := false, query := [] }
  | .type c => .ok { ui with query := ui.query ++ [c] }
  | .backspace => .ok { ui with query := ui.query.dropLast }
  | .ignore => .ok ui

theorem updateKey_eq (g : Bool) (ui : Ui) (k : Key) : updateKey g ui k = applyAct g ui (keyAct ui.search k) := by
  -- With `ui` destructured its mode is a variable, and in each arm of `updateKey` the same arm of `keyAct`
  -- applies: by evaluation where mode and key are known, by the equations of `keyAct` in the arms with a wildcard.
  cases ui
  simp only [updateKey]
  split <;> first | rfl | simp only [keyAct, applyAct]

/-- the key events that ask for an action, and the mode they do it in -/
def keysOf (s : Bool) (ev : Event) : Act → Prop
  | .next => (s = false ∧ ev = .key (.char 'j')) ∨ ev = .key .down
  | .previous => (s = false ∧ ev = .key (.char 'k')) ∨ ev = .key .up
  | .home => (s = false ∧ ev = .key (.char 'g')) ∨ ev = .key .home ∨ ev = .key .pageUp
  | .quit => s = false ∧ (ev = .key (.char 'q') ∨ ev = .key .esc)
  | .sort _ => s = false ∧ ∃ c, c ∈ ['a', 'c', 'v', '.', 'f', 'l'] ∧ ev = .key (.char c)
  | .flipOrder => s = false ∧ ev = .key (.char '-')
  | .enterSearch => s = false ∧ ev = .key (.char '/')
  | .leaveSearch clear => s = true ∧ ev = .key (if clear then .esc else .enter)
  | .type _ => s = true ∧ ∃ c, ev = .key (.char c)
  | .backspace => s = true ∧ ev = .key .backspace
  | .ignore => True

theorem keysOf_keyAct (s : Bool) (k : Key) : keysOf s (.key k) (keyAct s k) := by
  unfold keyAct
  split <;> simp [keysOf]

/-- What a handled event does to the selection: the row count stays, and the selection is left alone or set
    to an index `j` that is 0 on an empty table and in range when the old one was. -/
def SelPost (ui ui' : Ui) : Prop :=
  ui'.n = ui.n ∧
    (ui'.selected = ui.selected ∨
      ∃ j, ui'.selected = some j ∧
        (ui.n = 0 → ui.selected = some 0 ∨ ui.selected = none → j = 0) ∧
        ((∀ i, ui.selected = some i → i < ui.n) → 0 < ui.n → j < ui.n))

theorem next_ok (ui : Ui) (hn : ui.n < 2 ^ 64) : ∃ ui', next true ui = .ok ui' ∧ SelPost ui ui' := by
  unfold next lenMinus1
  cases hs : ui.selected with
  | none => exact ⟨_, rfl, rfl, .inr ⟨0, rfl, fun _ _ => rfl, fun _ h => h⟩⟩
  | some i =>
    simp only [if_true, Outcome.bind_ok]
    by_cases hi : i ≥ ui.n - 1
    · exact ⟨_, if_pos hi, rfl, .inr ⟨0, rfl, fun _ _ => rfl, fun _ h => h⟩⟩
    · have hlt : i + 1 < 2 ^ 64 := by omega
      refine ⟨{ ui with selected := some (i + 1) }, ?_, rfl, .inr ⟨i + 1, rfl, by omega, by omega⟩⟩
      simp only [hi, if_false, addU_ok hlt, Outcome.bind_ok]

theorem previous_ok (ui : Ui) : ∃ ui', previous true ui = .ok ui' ∧ SelPost ui ui' := by
  unfold previous lenMinus1
  cases hs : ui.selected with
  | none => exact ⟨_, rfl, rfl, .inr ⟨0, rfl, fun _ _ => rfl, fun _ h => h⟩⟩
  | some i =>
    by_cases hi : i = 0
    · subst hi
      exact ⟨_, rfl, rfl, .inr ⟨ui.n - 1, rfl, by omega, by omega⟩⟩
    · have hle : 1 ≤ i := by omega
      refine ⟨{ ui with selected := some (i - 1) }, ?_, rfl, .inr ⟨i - 1, rfl, ?_, ?_⟩⟩
      · simp only [hi, if_false, subU_ok hle, Outcome.bind_ok]
      · intro _ h; rcases h with h | h <;> simp_all
      · intro h _; have := h i hs; omega

theorem applyAct_sel (ui : Ui) (a : Act) (hn : ui.n < 2 ^ 64) :
    ∃ ui', applyAct true ui a = .ok ui' ∧ SelPost ui ui' := by
  cases a with
  | next => exact next_ok ui hn
  | previous => exact previous_ok ui
  | home => exact ⟨_, rfl, rfl, .inr ⟨0, rfl, fun _ _ => rfl, fun _ h => h⟩⟩
  | leaveSearch c => cases c <;> exact ⟨_, rfl, rfl, .inl rfl⟩
  | _ => exact ⟨_, rfl, rfl, .inl rfl⟩

theorem update_sel (ui : Ui) (ev : Event) (hn : ui.n < 2 ^ 64) :
    ∃ ui', update ui ev = .ok ui' ∧ SelPost ui ui' := by
  cases ev with
  | key k =>
    show ∃ ui', updateKey true ui k = .ok ui' ∧ SelPost ui ui'
    rw [updateKey_eq]; exact applyAct_sel ui _ hn
  | tick w => exact ⟨_, rfl, rfl, .inl rfl⟩
  | error => exact ⟨_, rfl, rfl, .inl rfl⟩

theorem run_preserves (P : Ui → Prop)
    (step : ∀ ui ev, P ui → ∃ ui', update ui ev = .ok ui' ∧ P ui' ∧ ui'.n = ui.n) :
    ∀ (evs : List Event) (ui : Ui), P ui → ∃ ui', run ui evs = .ok ui' ∧ P ui' ∧ ui'.n = ui.n := by
  intro evs
  induction evs with
  | nil => intro ui h; exact ⟨ui, rfl, h, rfl⟩
  | cons ev evs ih =>
    intro ui h
    obtain ⟨u1, h1, hp1, hn1⟩ := step ui ev h
    obtain ⟨u2, h2, hp2, hn2⟩ := ih u1 hp1
    refine ⟨u2, ?_, hp2, hn2.trans hn1⟩
    show (update ui ev).bind _ = _
    rw [h1, Outcome.bind_ok]
    exact h2

theorem nav_shape {g : Bool} {ui ui' : Ui} {a : Act} (ha : a = .next ∨ a = .previous ∨ a = .home)
    (h : applyAct g ui a = .ok ui') : ∃ j, ui' = { ui with selected := some j } := by
  rcases ha with rfl | rfl | rfl
  · simp only [applyAct, next] at h
    split at h
    · obtain ⟨last, _, h⟩ := Outcome.bind_eq_ok h
      split at h
      · cases h; exact ⟨_, rfl⟩
      · obtain ⟨j, _, h⟩ := Outcome.bind_eq_ok h
        cases h; exact ⟨_, rfl⟩
    · cases h; exact ⟨_, rfl⟩
  · simp only [applyAct, previous] at h
    split at h
    · split at h
      · obtain ⟨last, _, h⟩ := Outcome.bind_eq_ok h
        cases h; exact ⟨_, rfl⟩
      · obtain ⟨j, _, h⟩ := Outcome.bind_eq_ok h
        cases h; exact ⟨_, rfl⟩
    · cases h; exact ⟨_, rfl⟩
  · cases h; exact ⟨_, rfl⟩

theorem applyAct_changes {g : Bool} {ui ui' : Ui} {a : Act} (h : applyAct g ui a = .ok ui') :
    ui'.n = ui.n ∧ ui'.width = ui.width ∧
    (ui'.quit ≠ ui.quit → a = .quit) ∧
    (ui'.search ≠ ui.search → a = .enterSearch ∨ ∃ c, a = .leaveSearch c) ∧
    (ui'.sortKey ≠ ui.sortKey → ∃ s, a = .sort s) ∧
    (ui'.asc ≠ ui.asc → a = .flipOrder) ∧
    (ui'.query ≠ ui.query → a = .leaveSearch true ∨ (∃ c, a = .type c) ∨ a = .backspace) ∧
    (ui'.selected ≠ ui.selected → a = .next ∨ a = .previous ∨ a = .home) := by
  cases a with
  | next => obtain ⟨j, rfl⟩ := nav_shape (.inl rfl) h; simp
  | previous => obtain ⟨j, rfl⟩ := nav_shape (.inr (.inl rfl)) h; simp
  | home => obtain ⟨j, rfl⟩ := nav_shape (.inr (.inr rfl)) h; simp
  | leaveSearch c => cases c <;> cases h <;> simp
  | _ => cases h; simp

end Rs1090.Proofs.Tui
