import Rs1090.Proofs.CprGlobal
import Rs1090.Proofs.CprLocal
/-!
The f64 argument for CPR decoding, as theorems (C04 / C05) — for an abstract rounding function; the IEEE-754
instance is defined and proved in `Proofs/IeeeRound.lean` (`rounding_fl64 : Rounding fl64`).

`crates/rs1090/src/decode/cpr.rs` computes in `f64`; `Model/Cpr.lean` in exact rationals.  This file
relates the two through

* `F64Exact q` — `q` is a binary64 value (`q = m·2^e`, `|m| < 2^53`, `-1074 ≤ e ≤ 971`), and
* `Rounding fl` — the *standard model* of rounding as a HYPOTHESIS on an abstract `fl : ℚ → ℚ`:
  `fl` is the identity on `F64Exact` values, monotone, and `|fl x − x| ≤ |x|·2⁻⁵³ + 2⁻¹⁰⁷⁵` for
  `|x| ≤ 2^1023` (the second term is half the spacing of the subnormals; without it the hypothesis would be
  false of IEEE for |x| < 2⁻¹⁰²²).  IEEE-754 binary64 round-to-nearest-even satisfies it — a theorem,
  `IeeeRound.rounding_fl64`; `Rounding id` is the trivial instance.

The `f…` definitions below follow the Rust expressions one by one with `fl` after EVERY operation (also
after those that turn out to be exact).  Two kinds of theorems:

* `…_f64exact`: the operands/results one expects to be exact ARE `F64Exact`, for all 17-bit
  fields and all `nl ∈ 1..59` — hence the `fl`-computation of `j`, `j mod 60`, `j mod 59`, `lat_even`, `m`,
  `m mod ni`, `r + c` (global) and of `cpr`, `d_lat_even`, `j + cpr_lat`, `lat` (local, even) returns
  exactly the rational model's values (`fJ_eq`, `fModulo_eq`, `fLatE_eq`, `fM_eq`, …).  Each is shown by
  naming the integer numerator over `2^17` (`f64exact_17`): integer combinations of 17-bit fields with
  coefficients up to 60 stay far below `2^53`;
* error bounds for what is not exact (`360/59`, `lat_odd`, `360/ni`, the longitude, the local formulas
  with the reference) and stability of the branch decisions away from the boundaries.  Every inexact
  product is a zone size, rounded once, times an exact factor: `Rounding.scaled_err`.
-/
namespace Rs1090.Proofs.CprFloat
open Rs1090 Rs1090.Model.Cpr Rs1090.Proofs.Cpr

def F64Exact (q : ℚ) : Prop :=
  ∃ m e : ℤ, q = (m : ℚ) * (2 : ℚ) ^ e ∧ |m| < 2 ^ 53 ∧ -1074 ≤ e ∧ e ≤ 971

def u : ℚ := 1 / 2 ^ 53
def eta : ℚ := 1 / 2 ^ 1075

structure Rounding (fl : ℚ → ℚ) : Prop where
  exact : ∀ q, F64Exact q → fl q = q
  err : ∀ q, |q| ≤ 2 ^ 1023 → |fl q - q| ≤ |q| * u + eta
  mono : ∀ a b, a ≤ b → fl a ≤ fl b

theorem rounding_id : Rounding id :=
  ⟨fun _ _ => rfl, fun q _ => by
      simp only [id, sub_self, abs_zero]
      have : (0 : ℚ) ≤ |q| := abs_nonneg q
      unfold u eta; positivity,
   fun _ _ h => h⟩

theorem f64exact_int (n : ℤ) (h : |n| < 2 ^ 53) : F64Exact (n : ℚ) :=
  ⟨n, 0, by simp, h, by norm_num, by norm_num⟩

theorem f64exact_natCast (n : ℕ) (h : n < 2 ^ 53) : F64Exact (n : ℚ) := by
  have := f64exact_int n (abs_lt.mpr (by omega))
  rwa [Int.cast_natCast] at this

theorem f64exact_div_pow (n : ℤ) (k : ℕ) (hk : k ≤ 1074) (h : |n| < 2 ^ 53) :
    F64Exact ((n : ℚ) / 2 ^ k) :=
  ⟨n, -(k : ℤ), by rw [zpow_neg, zpow_natCast, div_eq_mul_inv], h, by omega, by omega⟩

/-- a value that equals `N / 2^17` with `|N| < 2^53` -/
theorem f64exact_17 {q : ℚ} (N : ℤ) (hq : q = (N : ℚ) / 131072) (hN : |N| < 2 ^ 53) : F64Exact q := by
  have := f64exact_div_pow N 17 (by norm_num) hN
  rw [hq]; norm_num at this ⊢; exact this

theorem f64exact_of_int {q : ℚ} (N : ℤ) (hq : q = (N : ℚ)) (hN : |N| < 2 ^ 53) : F64Exact q := by
  rw [hq]; exact f64exact_int N hN

theorem Rounding.between {fl : ℚ → ℚ} (R : Rounding fl) {x lo hi : ℚ}
    (hlo : F64Exact lo) (hhi : F64Exact hi) (h1 : lo ≤ x) (h2 : x ≤ hi) : lo ≤ fl x ∧ fl x ≤ hi := by
  have a := R.mono _ _ h1
  have b := R.mono _ _ h2
  rw [R.exact _ hlo] at a
  rw [R.exact _ hhi] at b
  exact ⟨a, b⟩

theorem u_pos : 0 < u := by unfold u; positivity
theorem eta_pos : 0 < eta := by unfold eta; positivity

/-- `u = 1.11…·10⁻¹⁶` and `2⁻¹⁰⁰ = 7.9…·10⁻³¹`: with these two, every numeric side condition below is linear -/
theorem u_le : u ≤ 2 / 10 ^ 16 := by unfold u; norm_num
theorem pow100_le : (1 : ℚ) / 2 ^ 100 ≤ 1 / 10 ^ 30 := by norm_num

theorem eta_le : eta ≤ 1 / 2 ^ 100 := by
  unfold eta
  apply one_div_le_one_div_of_le (by positivity)
  exact pow_le_pow_right₀ (by norm_num) (by norm_num)

variable {fl : ℚ → ℚ}

theorem Rounding.abs_err (R : Rounding fl) {q B : ℚ} (hq : |q| ≤ B) (hB : B ≤ 1024) :
    |fl q - q| ≤ B * u + 1 / 2 ^ 100 := by
  have h0 : (1024 : ℚ) ≤ 2 ^ 1023 := by
    calc (1024 : ℚ) = 2 ^ 10 := by norm_num
      _ ≤ 2 ^ 1023 := pow_le_pow_right₀ (by norm_num) (by norm_num)
  have := R.err q (le_trans hq (le_trans hB h0))
  have h2 : |q| * u ≤ B * u := mul_le_mul_of_nonneg_right hq (le_of_lt u_pos)
  linarith [eta_le]

/-- a rounded operation on perturbed operands: the error `ε` already there grows by one rounding at
    magnitude `B` -/
theorem Rounding.step (R : Rounding fl) {x' x ε B : ℚ} (h : |x' - x| ≤ ε) (hx : |x| + ε ≤ B) (hB : B ≤ 1024) :
    |fl x' - x| ≤ ε + (B * u + 1 / 2 ^ 100) := by
  have h1 : |x'| ≤ B := by
    have := abs_sub_abs_le_abs_sub x' x
    linarith
  have := abs_sub_le (fl x') x' x
  linarith [R.abs_err h1 hB]

/-- … in figures, for values below 255: one more rounding costs at most `6·10⁻¹⁴` (`256·u + 2⁻¹⁰⁰`) -/
theorem Rounding.step256 (R : Rounding fl) {x' x ε : ℚ} (h : |x' - x| ≤ ε) (hx : |x| ≤ 255) (hε : ε ≤ 1) :
    |fl x' - x| ≤ ε + 6 / 10 ^ 14 := by
  have := R.step (B := 256) h (by linarith only [hx, hε]) (by norm_num)
  linarith only [this, u_le, pow100_le]

theorem floor_range {x : ℚ} {lo hi : ℤ} (h1 : (lo : ℚ) ≤ x) (h2 : x < (hi : ℚ) + 1) : lo ≤ ⌊x⌋ ∧ ⌊x⌋ ≤ hi :=
  ⟨Int.le_floor.mpr h1, Int.lt_add_one_iff.mp (Int.floor_lt.mpr (by push_cast; exact h2))⟩

/-- **A zone size, rounded once, times an exact factor.**  `D` is the exact zone size, `D'` the binary64 value
    held for it, `s` the exact second factor with `|s| ≤ S`, and `D·S` stays near 360 (the product is a
    coordinate in degrees): the rounded product is within `10⁻¹²` of `D·s`.  (`(D·u + 2⁻¹⁰⁰)·S` from the first
    factor, one rounding at magnitude `≤ 542` for the product: `1083·u + 242·2⁻¹⁰⁰ < 1.3·10⁻¹³`.) -/
theorem Rounding.scaled_err (R : Rounding fl) {D' D s S : ℚ} (hD : 0 < D)
    (hD' : |D' - D| ≤ D * u + 1 / 2 ^ 100) (hs : |s| ≤ S) (hS : S ≤ 241) (hDS : D * S ≤ 541) :
    |fl (D' * s) - D * s| ≤ 1 / 10 ^ 12 := by
  have hS0 : 0 ≤ S := le_trans (abs_nonneg s) hs
  have h1 : |D' * s - D * s| ≤ (D * u + 1 / 2 ^ 100) * S := by
    rw [← sub_mul, abs_mul]
    exact mul_le_mul hD' hs (abs_nonneg _) (le_trans (abs_nonneg _) hD')
  have h3 : D * S * u ≤ 541 * u := mul_le_mul_of_nonneg_right hDS u_pos.le
  have h4 : |D * s| ≤ 541 := by
    rw [abs_mul, abs_of_pos hD]
    exact le_trans (mul_le_mul_of_nonneg_left hs hD.le) hDS
  have := R.step (B := 542) h1 (by linarith [u_le, pow100_le]) (by norm_num)
  linarith [u_le, pow100_le]

theorem floor_eq_of_close {x' x δ : ℚ} (h : |x' - x| ≤ δ) (lo : (⌊x⌋ : ℚ) + δ ≤ x)
    (hi : x + δ < (⌊x⌋ : ℚ) + 1) : ⌊x'⌋ = ⌊x⌋ := by
  have := abs_le.mp h
  rw [Int.floor_eq_iff]
  constructor <;> linarith

theorem cprMax_eq : cprMax = 131072 := by unfold cprMax Gen.Cpr.CPR_MAX; norm_num

theorem cpr_range (k : ℕ) (hk : k < 131072) : (0 : ℚ) ≤ (k : ℚ) / 131072 ∧ (k : ℚ) / 131072 < 1 :=
  ⟨by positivity, by rw [div_lt_one (by norm_num)]; exact_mod_cast hk⟩

theorem idx_frac_range (r n : ℤ) (k : ℕ) (hr : 0 ≤ r ∧ r < n) (hk : k < 131072) :
    (0 : ℚ) ≤ (r : ℚ) + (k : ℚ) / 131072 ∧ (r : ℚ) + (k : ℚ) / 131072 < n := by
  obtain ⟨c0, c1⟩ := cpr_range k hk
  have h0 : (0 : ℚ) ≤ r := by exact_mod_cast hr.1
  have h1 : (r : ℚ) + 1 ≤ n := by exact_mod_cast hr.2
  constructor <;> linarith

/-! ### `airborne_position` (cpr.rs l.225-307), `fl` after every operation -/

section Defs
variable (fl : ℚ → ℚ)

/-- l.253-256 `f64::from(x.lat_cpr) / CPR_MAX` (the conversion `u32 → f64` is exact) -/
def fCpr (n : ℕ) : ℚ := fl ((n : ℚ) / 131072)
/-- l.258 `libm::floor(59.0 * cpr_lat_even - 60.0 * cpr_lat_odd + 0.5)` -/
def fJ (e o : Msg) : ℤ := ⌊fl (fl (fl (59 * fCpr fl e.lat) - fl (60 * fCpr fl o.lat)) + 1 / 2)⌋
/-- l.218-220 `a - b * libm::floor(a / b)` -/
def fModulo (a b : ℚ) : ℚ := fl (a - fl (b * ((⌊fl (a / b)⌋ : ℤ) : ℚ)))
/-- l.214 `D_LAT_EVEN = 360.0 / (4.0 * NZ)` -/
def fDLatEven : ℚ := fl (360 / fl (4 * 15))
/-- l.215 `D_LAT_ODD = 360.0 / (4.0 * NZ - 1.0)` -/
def fDLatOdd : ℚ := fl (360 / fl (fl (4 * 15) - 1))
/-- l.263-269 `if x >= 270.0 { x -= 360.0 }` -/
def fWrap270 (x : ℚ) : ℚ := if x ≥ 270 then fl (x - 360) else x
/-- l.299-301 `if lon >= 180.0 { lon -= 360.0 }` -/
def fWrap180 (x : ℚ) : ℚ := if x ≥ 180 then fl (x - 360) else x
/-- l.260 `D_LAT_EVEN * (modulo(j, 60.) + cpr_lat_even)` -/
def fLatE0 (e o : Msg) : ℚ := fl (fDLatEven fl * fl (fModulo fl (fJ fl e o) 60 + fCpr fl e.lat))
/-- l.261 `D_LAT_ODD * (modulo(j, 59.) + cpr_lat_odd)` -/
def fLatO0 (e o : Msg) : ℚ := fl (fDLatOdd fl * fl (fModulo fl (fJ fl e o) 59 + fCpr fl o.lat))
def fLatE (e o : Msg) : ℚ := fWrap270 fl (fLatE0 fl e o)
def fLatO (e o : Msg) : ℚ := fWrap270 fl (fLatO0 fl e o)
/-- l.291-294 `floor(cpr_lon_even * (nl(lat) - 1) as f64 - cpr_lon_odd * nl(lat) as f64 + 0.5)`, `n = nl(lat)` -/
def fM (e o : Msg) (n : ℕ) : ℤ :=
  ⌊fl (fl (fl (fCpr fl e.lon * fl ((n - 1 : ℕ) : ℚ)) - fl (fCpr fl o.lon * fl (n : ℚ))) + 1 / 2)⌋
/-- l.290, 296, 298 `ni = max(nl(lat) - p, 1) as f64; r = modulo(m, ni); (360.0 / ni) * (r + c)`;
    `k` is the `lon_cpr` field of the latest report (`c = k / 2^17`) -/
def fLon0 (e o : Msg) (n p k : ℕ) : ℚ :=
  fl (fl (360 / fl ((max (n - p) 1 : ℕ) : ℚ)) *
    fl (fModulo fl (fM fl e o n) (fl ((max (n - p) 1 : ℕ) : ℚ)) + fCpr fl k))
end Defs

/-- the rational model's `m` with `n = nl(lat)` (`Proofs.Cpr.gM e o lat = gMn e o (nl lat)`, by `rfl`) -/
def gMn (e o : Msg) (n : ℕ) : ℤ :=
  ⌊(e.lon : ℚ) / cprMax * ((n - 1 : ℕ) : ℚ) - (o.lon : ℚ) / cprMax * (n : ℚ) + 1 / 2⌋

theorem gM_eq_gMn (e o : Msg) (lat : ℚ) : gM e o lat = gMn e o (nl lat) := rfl

/-- the rational model's longitude before the `>= 180` wrap -/
def gLon0 (e o : Msg) (n p k : ℕ) : ℚ :=
  360 / ((max (n - p) 1 : ℕ) : ℚ) *
    (modulo (gMn e o n : ℚ) ((max (n - p) 1 : ℕ) : ℚ) + (k : ℚ) / cprMax)

theorem gLon_eq_gLon0 (e o : Msg) (lat : ℚ) (p k : ℕ) :
    gLon e o lat p ((k : ℚ) / cprMax) = wrap180 (gLon0 e o (nl lat) p k) := rfl

theorem cpr_f64exact (n : ℕ) (hn : n < 131072) : F64Exact ((n : ℚ) / 131072) :=
  f64exact_17 (n : ℤ) (by push_cast; rfl) (abs_lt.mpr (by omega))

theorem fCpr_eq (R : Rounding fl) (n : ℕ) (hn : n < 131072) : fCpr fl n = (n : ℚ) / 131072 :=
  R.exact _ (cpr_f64exact n hn)

/-- **The zone-index expressions `floor(cpr_a · s − cpr_b · t + 0.5)`** of l.258 (`s, t = 59, 60`) and l.291-294
    (`s, t = nl − 1, nl`): for 17-bit fields and `s, t ≤ 60` the two products, their difference and the sum with
    `0.5` are binary64 values, and the floor lies in `[−t, s]`. -/
theorem zone_idx_f64exact (a b s t : ℕ) (ha : a < 131072) (hb : b < 131072) (hs : s ≤ 60) (ht : t ≤ 60) :
    F64Exact ((a : ℚ) / 131072 * (s : ℚ)) ∧ F64Exact ((b : ℚ) / 131072 * (t : ℚ)) ∧
    F64Exact ((a : ℚ) / 131072 * (s : ℚ) - (b : ℚ) / 131072 * (t : ℚ)) ∧
    F64Exact ((a : ℚ) / 131072 * (s : ℚ) - (b : ℚ) / 131072 * (t : ℚ) + 1 / 2) ∧
    (-(t : ℤ) ≤ ⌊(a : ℚ) / 131072 * (s : ℚ) - (b : ℚ) / 131072 * (t : ℚ) + 1 / 2⌋ ∧
      ⌊(a : ℚ) / 131072 * (s : ℚ) - (b : ℚ) / 131072 * (t : ℚ) + 1 / 2⌋ ≤ s) := by
  have hP : a * s ≤ 131071 * s := Nat.mul_le_mul_right s (by omega)
  have hQ : b * t ≤ 131071 * t := Nat.mul_le_mul_right t (by omega)
  generalize hp : a * s = P at hP
  generalize hq : b * t = Q at hQ
  have e1 : (a : ℚ) / 131072 * (s : ℚ) = ((P : ℤ) : ℚ) / 131072 := by rw [← hp]; push_cast; ring
  have e2 : (b : ℚ) / 131072 * (t : ℚ) = ((Q : ℤ) : ℚ) / 131072 := by rw [← hq]; push_cast; ring
  have p0 : (0 : ℚ) ≤ (P : ℚ) := Nat.cast_nonneg P
  have q0 : (0 : ℚ) ≤ (Q : ℚ) := Nat.cast_nonneg Q
  have p1 : (P : ℚ) ≤ 131071 * (s : ℚ) := by exact_mod_cast hP
  have q1 : (Q : ℚ) ≤ 131071 * (t : ℚ) := by exact_mod_cast hQ
  rw [e1, e2]
  exact ⟨f64exact_17 P rfl (abs_lt.mpr (by omega)), f64exact_17 Q rfl (abs_lt.mpr (by omega)),
    f64exact_17 ((P : ℤ) - Q) (by push_cast; ring) (abs_lt.mpr (by omega)),
    f64exact_17 ((P : ℤ) - Q + 65536) (by push_cast; ring) (abs_lt.mpr (by omega)),
    floor_range (by push_cast; linarith) (by push_cast; linarith)⟩

theorem j_f64exact (a b : ℕ) (ha : a < 131072) (hb : b < 131072) :
    F64Exact (59 * ((a : ℚ) / 131072)) ∧ F64Exact (60 * ((b : ℚ) / 131072)) ∧
    F64Exact (59 * ((a : ℚ) / 131072) - 60 * ((b : ℚ) / 131072)) ∧
    F64Exact (59 * ((a : ℚ) / 131072) - 60 * ((b : ℚ) / 131072) + 1 / 2) ∧
    (-60 ≤ ⌊59 * ((a : ℚ) / 131072) - 60 * ((b : ℚ) / 131072) + 1 / 2⌋ ∧
      ⌊59 * ((a : ℚ) / 131072) - 60 * ((b : ℚ) / 131072) + 1 / 2⌋ ≤ 59) ∧
    F64Exact ((⌊59 * ((a : ℚ) / 131072) - 60 * ((b : ℚ) / 131072) + 1 / 2⌋ : ℤ) : ℚ) := by
  have h := zone_idx_f64exact a b 59 60 ha hb (by norm_num) (by norm_num)
  have e1 : (a : ℚ) / 131072 * ((59 : ℕ) : ℚ) = 59 * ((a : ℚ) / 131072) := by push_cast; ring
  have e2 : (b : ℚ) / 131072 * ((60 : ℕ) : ℚ) = 60 * ((b : ℚ) / 131072) := by push_cast; ring
  rw [e1, e2] at h
  exact ⟨h.1, h.2.1, h.2.2.1, h.2.2.2.1, h.2.2.2.2,
    f64exact_int _ (abs_lt.mpr (by have := h.2.2.2.2; omega))⟩

theorem fJ_eq (R : Rounding fl) (e o : Msg) (he : e.lat < 131072) (ho : o.lat < 131072) :
    fJ fl e o = gJ e o := by
  obtain ⟨h1, h2, h3, h4, _, _⟩ := j_f64exact e.lat o.lat he ho
  unfold fJ gJ
  rw [fCpr_eq R _ he, fCpr_eq R _ ho, R.exact _ h1, R.exact _ h2, R.exact _ h3, R.exact _ h4, cprMax_eq]

theorem gJ_range (e o : Msg) (he : e.lat < 131072) (ho : o.lat < 131072) : -60 ≤ gJ e o ∧ gJ e o ≤ 59 := by
  unfold gJ; rw [cprMax_eq]; exact (j_f64exact e.lat o.lat he ho).2.2.2.2.1

theorem emod_range (j : ℤ) (n : ℤ) (hn : 0 < n) : 0 ≤ j % n ∧ j % n < n :=
  ⟨Int.emod_nonneg j (ne_of_gt hn), Int.emod_lt_of_pos j hn⟩

/-- l.218-220 on an integer `j`, `|j| ≤ 60`, and an integer `1 ≤ n ≤ 60`: the quotient `j / n` is NOT a binary64
    value in general, but the floor of its rounding is the exact floor (here the rounding hypothesis is used);
    `n·⌊j/n⌋` and `j − n·⌊j/n⌋` are binary64 values; the result is `j mod n`. -/
theorem modulo_f64exact (R : Rounding fl) (j : ℤ) (n : ℕ) (hj : |j| ≤ 60) (hn1 : 1 ≤ n) (hn : n ≤ 60) :
    ⌊fl ((j : ℚ) / (n : ℚ))⌋ = j / (n : ℤ) ∧
    F64Exact ((n : ℚ) * ((j / (n : ℤ) : ℤ) : ℚ)) ∧
    F64Exact ((j : ℚ) - (n : ℚ) * ((j / (n : ℤ) : ℤ) : ℚ)) ∧
    fModulo fl (j : ℚ) (n : ℚ) = ((j % (n : ℤ) : ℤ) : ℚ) := by
  have hnZ : (0 : ℤ) < (n : ℤ) := by exact_mod_cast hn1
  have hnQ : (0 : ℚ) < (n : ℚ) := by exact_mod_cast hn1
  have hn60 : (n : ℚ) ≤ 60 := by exact_mod_cast hn
  have hjj := abs_le.mp hj
  have hq := abs_le.mp (le_trans (Int.abs_ediv_le_abs j n) hj)
  have hdm := Int.emod_add_mul_ediv j (n : ℤ)
  obtain ⟨hr0, hr1⟩ := emod_range j n hnZ
  generalize j / (n : ℤ) = q at hdm hq ⊢
  generalize j % (n : ℤ) = r at hdm hr0 hr1 ⊢
  have hjr : (j : ℚ) = r + n * q := by exact_mod_cast hdm.symm
  have hr0Q : (0 : ℚ) ≤ r := by exact_mod_cast hr0
  have hr1Q : (r : ℚ) + 1 ≤ n := by exact_mod_cast hr1
  -- `j/n = q + r/n` with `r ≤ n − 1`, `n ≤ 60 < 64`: it lies between the binary64 values `q` and `q + 63/64`,
  -- and so does its rounding, by monotonicity alone
  have lo : (q : ℚ) ≤ (j : ℚ) / n := by rw [le_div_iff₀ hnQ]; linarith
  have hi : (j : ℚ) / n ≤ ((64 * q + 63 : ℤ) : ℚ) / 2 ^ 6 := by
    rw [div_le_iff₀ hnQ]; push_cast; linarith
  have h1 : ⌊fl ((j : ℚ) / (n : ℚ))⌋ = q := by
    obtain ⟨a, b⟩ := R.between (f64exact_int q (abs_lt.mpr (by omega)))
      (f64exact_div_pow _ 6 (by norm_num) (abs_lt.mpr (by omega))) lo hi
    rw [Int.floor_eq_iff]
    push_cast at b
    exact ⟨a, by linarith⟩
  have e3 : (j : ℚ) - (n : ℚ) * (q : ℚ) = (r : ℚ) := by rw [hjr]; ring
  have x2 : F64Exact ((n : ℚ) * (q : ℚ)) :=
    f64exact_of_int ((n : ℤ) * q) (by push_cast; ring) (abs_lt.mpr (by omega))
  have x3 : F64Exact ((j : ℚ) - (n : ℚ) * (q : ℚ)) := f64exact_of_int r e3 (abs_lt.mpr (by omega))
  refine ⟨h1, x2, x3, ?_⟩
  unfold fModulo
  rw [h1, R.exact _ x2, R.exact _ x3, e3]

theorem fModulo_eq (R : Rounding fl) (j : ℤ) (n : ℕ) (hj : |j| ≤ 60) (hn1 : 1 ≤ n) (hn : n ≤ 60) :
    fModulo fl (j : ℚ) (n : ℚ) = modulo (j : ℚ) (n : ℚ) := by
  rw [(modulo_f64exact R j n hj hn1 hn).2.2.2, modulo_int]

/-- l.214: `4.0 * NZ = 60` and `D_LAT_EVEN = 360/60 = 6` (also `90/60 = 3/2`, the surface zone) are binary64 values -/
theorem dlat_even_f64exact :
    F64Exact (4 * 15 : ℚ) ∧ F64Exact (360 / 60 : ℚ) ∧ F64Exact (90 / 60 : ℚ) ∧ F64Exact (60 - 1 : ℚ) := by
  refine ⟨f64exact_of_int 60 (by norm_num) (by norm_num), f64exact_of_int 6 (by norm_num) (by norm_num),
    f64exact_17 196608 (by norm_num) (by norm_num), f64exact_of_int 59 (by norm_num) (by norm_num)⟩

theorem fDLatEven_eq (R : Rounding fl) : fDLatEven fl = 6 := by
  unfold fDLatEven
  rw [R.exact _ dlat_even_f64exact.1]
  have : (360 / (4 * 15) : ℚ) = 360 / 60 := by norm_num
  rw [this, R.exact _ dlat_even_f64exact.2.1]; norm_num

/-- **a zone index plus the CPR fraction, and its products with the exact zone sizes** `6` (`360/60`; also
    the `− 360` of the wrap) and `3/2` (`90/60`), are binary64 values, for every integer `|j| ≤ 1024` -/
theorem coord_f64exact (j : ℤ) (k : ℕ) (hj : |j| ≤ 1024) (hk : k < 131072) :
    F64Exact ((j : ℚ) + (k : ℚ) / 131072) ∧ F64Exact (6 * ((j : ℚ) + (k : ℚ) / 131072)) ∧
    F64Exact (6 * ((j : ℚ) + (k : ℚ) / 131072) - 360) ∧ F64Exact (3 / 2 * ((j : ℚ) + (k : ℚ) / 131072)) := by
  have hjj := abs_le.mp hj
  refine ⟨f64exact_17 (131072 * j + k) (by push_cast; ring) (abs_lt.mpr (by omega)),
    f64exact_17 (6 * (131072 * j + k)) (by push_cast; ring) (abs_lt.mpr (by omega)),
    f64exact_17 (6 * (131072 * j + k) - 47185920) (by push_cast; ring) (abs_lt.mpr (by omega)), ?_⟩
  have := f64exact_div_pow (3 * (131072 * j + k)) 18 (by norm_num) (abs_lt.mpr (by omega))
  have e : 3 / 2 * ((j : ℚ) + (k : ℚ) / 131072) = ((3 * (131072 * j + k) : ℤ) : ℚ) / 2 ^ 18 := by
    push_cast; ring
  rwa [e]

theorem lat_even_f64exact (r : ℤ) (a : ℕ) (hr : 0 ≤ r ∧ r < 60) (ha : a < 131072) :
    F64Exact ((r : ℚ) + (a : ℚ) / 131072) ∧ F64Exact (6 * ((r : ℚ) + (a : ℚ) / 131072)) ∧
    F64Exact (6 * ((r : ℚ) + (a : ℚ) / 131072) - 360) :=
  have h := coord_f64exact r a (abs_le.mpr (by omega)) ha
  ⟨h.1, h.2.1, h.2.2.1⟩

theorem fLatE_eq (R : Rounding fl) (e o : Msg) (he : e.lat < 131072) (ho : o.lat < 131072) :
    fLatE fl e o = gLatE e o := by
  have hj := gJ_range e o he ho
  have hr := emod_range (gJ e o) 60 (by norm_num)
  obtain ⟨x1, x2, x3⟩ := lat_even_f64exact (gJ e o % 60) e.lat hr he
  have h60 := fModulo_eq R (gJ e o) 60 (abs_le.mpr (by omega)) (by norm_num) (by norm_num)
  have m60 := modulo_int (gJ e o) 60
  simp only [Nat.cast_ofNat] at h60 m60
  unfold fLatE fLatE0 gLatE
  rw [fJ_eq R e o he ho, fDLatEven_eq R, fCpr_eq R _ he, dLatEven_eq, cprMax_eq, h60, m60, R.exact _ x1,
    R.exact _ x2]
  unfold fWrap270 wrap270
  split
  · rw [R.exact _ x3]
  · rfl

theorem m_f64exact (a b k : ℕ) (ha : a < 131072) (hb : b < 131072) (hk : k + 1 ≤ 59) :
    F64Exact ((k : ℕ) : ℚ) ∧ F64Exact ((k + 1 : ℕ) : ℚ) ∧
    F64Exact ((a : ℚ) / 131072 * (k : ℚ)) ∧ F64Exact ((b : ℚ) / 131072 * ((k + 1 : ℕ) : ℚ)) ∧
    F64Exact ((a : ℚ) / 131072 * (k : ℚ) - (b : ℚ) / 131072 * ((k + 1 : ℕ) : ℚ)) ∧
    F64Exact ((a : ℚ) / 131072 * (k : ℚ) - (b : ℚ) / 131072 * ((k + 1 : ℕ) : ℚ) + 1 / 2) ∧
    (-59 ≤ ⌊(a : ℚ) / 131072 * (k : ℚ) - (b : ℚ) / 131072 * ((k + 1 : ℕ) : ℚ) + 1 / 2⌋ ∧
      ⌊(a : ℚ) / 131072 * (k : ℚ) - (b : ℚ) / 131072 * ((k + 1 : ℕ) : ℚ) + 1 / 2⌋ ≤ 58) ∧
    F64Exact ((⌊(a : ℚ) / 131072 * (k : ℚ) - (b : ℚ) / 131072 * ((k + 1 : ℕ) : ℚ) + 1 / 2⌋ : ℤ) : ℚ) := by
  have h := zone_idx_f64exact a b k (k + 1) ha hb (by omega) (by omega)
  have hr := h.2.2.2.2
  exact ⟨f64exact_natCast k (by omega), f64exact_natCast (k + 1) (by omega), h.1, h.2.1, h.2.2.1, h.2.2.2.1,
    by omega, f64exact_int _ (abs_lt.mpr (by omega))⟩

theorem fM_eq (R : Rounding fl) (e o : Msg) (n : ℕ) (he : e.lon < 131072) (ho : o.lon < 131072)
    (hn1 : 1 ≤ n) (hn : n ≤ 59) : fM fl e o n = gMn e o n := by
  obtain ⟨k, rfl⟩ : ∃ k, n = k + 1 := ⟨n - 1, by omega⟩
  obtain ⟨h1, h2, h3, h4, h5, h6, _, _⟩ := m_f64exact e.lon o.lon k he ho hn
  unfold fM gMn
  rw [Nat.add_sub_cancel, fCpr_eq R _ he, fCpr_eq R _ ho, R.exact _ h1, R.exact _ h2, R.exact _ h3,
    R.exact _ h4, R.exact _ h5, R.exact _ h6, cprMax_eq]

theorem gMn_range (e o : Msg) (n : ℕ) (he : e.lon < 131072) (ho : o.lon < 131072)
    (hn1 : 1 ≤ n) (hn : n ≤ 59) : -59 ≤ gMn e o n ∧ gMn e o n ≤ 58 := by
  obtain ⟨k, rfl⟩ : ∃ k, n = k + 1 := ⟨n - 1, by omega⟩
  unfold gMn; rw [cprMax_eq, Nat.add_sub_cancel]
  exact (m_f64exact e.lon o.lon k he ho hn).2.2.2.2.2.2.1

theorem ni_f64exact (n p : ℕ) (hn : n ≤ 59) :
    F64Exact ((max (n - p) 1 : ℕ) : ℚ) ∧ 1 ≤ max (n - p) 1 ∧ max (n - p) 1 ≤ 59 :=
  have h2 : max (n - p) 1 ≤ 59 := max_le (by omega) (by norm_num)
  ⟨f64exact_natCast _ (by omega), le_max_right _ _, h2⟩

theorem lon_factor_f64exact (R : Rounding fl) (e o : Msg) (n p k : ℕ) (he : e.lon < 131072)
    (ho : o.lon < 131072) (hk : k < 131072) (hn1 : 1 ≤ n) (hn : n ≤ 59) :
    fl (fModulo fl (fM fl e o n) (fl ((max (n - p) 1 : ℕ) : ℚ)) + fCpr fl k)
      = modulo (gMn e o n : ℚ) ((max (n - p) 1 : ℕ) : ℚ) + (k : ℚ) / cprMax ∧
    F64Exact (modulo (gMn e o n : ℚ) ((max (n - p) 1 : ℕ) : ℚ) + (k : ℚ) / cprMax) ∧
    0 ≤ modulo (gMn e o n : ℚ) ((max (n - p) 1 : ℕ) : ℚ) + (k : ℚ) / cprMax ∧
    modulo (gMn e o n : ℚ) ((max (n - p) 1 : ℕ) : ℚ) + (k : ℚ) / cprMax < ((max (n - p) 1 : ℕ) : ℚ) := by
  obtain ⟨x0, h1, h2⟩ := ni_f64exact n p hn
  have hm := gMn_range e o n he ho hn1 hn
  generalize max (n - p) 1 = ni at x0 h1 h2 ⊢
  have hr := emod_range (gMn e o n) (ni : ℤ) (by omega)
  have x1 := (coord_f64exact (gMn e o n % (ni : ℤ)) k (abs_le.mpr (by omega)) hk).1
  rw [fM_eq R e o n he ho hn1 hn, R.exact _ x0, fModulo_eq R _ ni (abs_le.mpr (by omega)) h1 (by omega),
    fCpr_eq R _ hk, cprMax_eq, modulo_int]
  exact ⟨R.exact _ x1, x1, idx_frac_range _ _ k hr hk⟩

/-- the decoders' two spans: `360` airborne, `90` surface -/
theorem full_range {full : ℚ} (hf : full = 360 ∨ full = 90) : 90 ≤ full ∧ full ≤ 360 := by
  rcases hf with h | h <;> norm_num [h]

/-- one rounding of a zone size `full / c`, `1 ≤ c ≤ 60` -/
theorem zone_size_err (R : Rounding fl) (full : ℚ) (hf : full = 360 ∨ full = 90) {c : ℚ} (h1 : 1 ≤ c) (h60 : c ≤ 60) :
    |fl (full / c) - full / c| ≤ full / c * u + 1 / 2 ^ 100 ∧ 3 / 2 ≤ full / c ∧ full / c ≤ 360 := by
  have hf90 := full_range hf
  have hc0 : 0 < c := one_pos.trans_le h1
  have hf0 : 0 < full := lt_of_lt_of_le (by norm_num) hf90.1
  have hhi : full / c ≤ 360 := (div_le_self hf0.le h1).trans hf90.2
  exact ⟨R.abs_err (abs_of_pos (div_pos hf0 hc0)).le (hhi.trans (by norm_num)),
    (le_div_iff₀ hc0).2 (by linarith only [hf90.1, h60]), hhi⟩

/-- l.215: `D_LAT_ODD` is the rounding of `360/59` (the operands `60`, `59` are exact) -/
theorem fDLatOdd_err (R : Rounding fl) : |fDLatOdd fl - 360 / 59| ≤ 360 / 59 * u + 1 / 2 ^ 100 := by
  unfold fDLatOdd
  rw [R.exact _ dlat_even_f64exact.1]
  have : ((4 : ℚ) * 15 - 1) = 60 - 1 := by norm_num
  rw [this, R.exact _ dlat_even_f64exact.2.2.2]
  have : ((60 : ℚ) - 1) = 59 := by norm_num
  rw [this]
  exact R.abs_err (abs_of_pos (by norm_num)).le (by norm_num)

/-- the rational model's `lat_odd` before the `>= 270` wrap -/
def gLatO0 (e o : Msg) : ℚ := dLatOdd * (modulo (gJ e o : ℚ) 59 + (o.lat : ℚ) / cprMax)

theorem gLatO_eq (e o : Msg) : gLatO e o = wrap270 (gLatO0 e o) := rfl

/-- the second factor is exact, the first is the rounded `360/59`, the product is rounded once -/
theorem lat_odd_err (R : Rounding fl) (e o : Msg) (he : e.lat < 131072) (ho : o.lat < 131072) :
    |fLatO0 fl e o - gLatO0 e o| ≤ 1 / 10 ^ 12 ∧ 0 ≤ gLatO0 e o ∧ gLatO0 e o < 360 := by
  have hj := gJ_range e o he ho
  have hr := emod_range (gJ e o) 59 (by norm_num)
  have x1 := (coord_f64exact (gJ e o % 59) o.lat (abs_le.mpr (by omega)) ho).1
  obtain ⟨s0, s1⟩ := idx_frac_range _ _ o.lat hr ho
  have h59 := fModulo_eq R (gJ e o) 59 (abs_le.mpr (by omega)) (by norm_num) (by norm_num)
  have m59 := modulo_int (gJ e o) 59
  simp only [Nat.cast_ofNat] at h59 m59
  unfold fLatO0 gLatO0
  rw [fJ_eq R e o he ho, fCpr_eq R _ ho, dLatOdd_eq, cprMax_eq, h59, m59, R.exact _ x1]
  push_cast at s1
  exact ⟨R.scaled_err (S := 59) (by norm_num) (fDLatOdd_err R) (by rw [abs_of_nonneg s0]; exact s1.le)
    (by norm_num) (by norm_num), mul_nonneg (by norm_num) s0, by linarith⟩

/-- `360/ni` is rounded once (`ni as f64` is exact), the second factor is exact, the product is rounded once -/
theorem lon_err (R : Rounding fl) (e o : Msg) (n p k : ℕ) (he : e.lon < 131072) (ho : o.lon < 131072)
    (hk : k < 131072) (hn1 : 1 ≤ n) (hn : n ≤ 59) :
    |fLon0 fl e o n p k - gLon0 e o n p k| ≤ 1 / 10 ^ 12 ∧ 0 ≤ gLon0 e o n p k ∧ gLon0 e o n p k < 360 := by
  obtain ⟨x0, h1, h2⟩ := ni_f64exact n p hn
  obtain ⟨f1, _, f3, f4⟩ := lon_factor_f64exact R e o n p k he ho hk hn1 hn
  unfold fLon0 gLon0
  rw [f1, R.exact _ x0]
  generalize max (n - p) 1 = ni at h1 h2 f3 f4 ⊢
  generalize modulo (gMn e o n : ℚ) (ni : ℚ) + (k : ℚ) / cprMax = s at f3 f4 ⊢
  have hni : (0 : ℚ) < (ni : ℚ) := lt_of_le_of_lt f3 f4
  have hni59 : (ni : ℚ) ≤ 59 := by exact_mod_cast h2
  have hDni : 360 / (ni : ℚ) * (ni : ℚ) = 360 := by field_simp
  have hD : (0 : ℚ) < 360 / (ni : ℚ) := div_pos (by norm_num) hni
  have z1 := (zone_size_err R 360 (Or.inl rfl) (by exact_mod_cast h1) (hni59.trans (by norm_num))).1
  refine ⟨R.scaled_err (S := ni) hD z1 (by rw [abs_of_nonneg f3]; exact f4.le) (hni59.trans (by norm_num))
    (hDni.le.trans (by norm_num)), mul_nonneg hD.le f3, ?_⟩
  calc 360 / (ni : ℚ) * s < 360 / (ni : ℚ) * (ni : ℚ) := mul_lt_mul_of_pos_left f4 hD
    _ = 360 := hDni

theorem cmp_of_far {a' a b' b ε ρ : ℚ} (ha : |a' - a| ≤ ε) (hb : |b' - b| ≤ ρ) (far : ε + ρ < |a - b|) :
    (a' < b' ↔ a < b) ∧ (a' ≤ b' ↔ a ≤ b) := by
  have h1 := abs_le.mp ha
  have h2 := abs_le.mp hb
  rcases lt_abs.mp far with f | f
  · exact ⟨⟨fun _ => by linarith, fun _ => by linarith⟩, ⟨fun _ => by linarith, fun _ => by linarith⟩⟩
  · exact ⟨⟨fun _ => by linarith, fun _ => by linarith⟩, ⟨fun _ => by linarith, fun _ => by linarith⟩⟩

theorem ge_iff_of_far {x' x ε c : ℚ} (h : |x' - x| ≤ ε) (far : ε < |x - c|) : (x' ≥ c ↔ x ≥ c) :=
  (cmp_of_far (a' := c) (ε := 0) (by simp) h (by rwa [zero_add, abs_sub_comm])).2

theorem le_iff_of_far {x' x ε c : ℚ} (h : |x' - x| ≤ ε) (far : ε < |x - c|) : (x' ≤ c ↔ x ≤ c) :=
  (cmp_of_far (b' := c) (ρ := 0) h (by simp) (by rwa [add_zero])).2

/-- **the wraps `if x >= c { x -= 360.0 }`** (`c = 270`, `180`) on a value within `10⁻¹²` of the exact
    `x ∈ (−∞, 360)`: within `2·10⁻¹²` of the exact wrap when the `>= c` decision is the same (one more rounding,
    at magnitude `≤ 180`, when taken), and the decision IS the same unless `x` is within `10⁻¹²` of `c` -/
theorem wrap_close (R : Rounding fl) {x' x c : ℚ} (h : |x' - x| ≤ 1 / 10 ^ 12) (hc : 180 ≤ c) (hx : x < 360) :
    ((x' ≥ c ↔ x ≥ c) →
      |(if x' ≥ c then fl (x' - 360) else x') - (if x ≥ c then x - 360 else x)| ≤ 2 / 10 ^ 12) ∧
    (1 / 10 ^ 12 < |x - c| → (x' ≥ c ↔ x ≥ c)) := by
  refine ⟨fun same => ?_, ge_iff_of_far h⟩
  by_cases hx' : x' ≥ c
  · have hxc := same.mp hx'
    rw [if_pos hx', if_pos hxc]
    have := R.step (x' := x' - 360) (x := x - 360) (ε := 1 / 10 ^ 12) (B := 256) (by rwa [sub_sub_sub_cancel_right])
      (by rw [abs_of_nonpos (by linarith)]; linarith) (by norm_num)
    linarith [u_le, pow100_le]
  · rw [if_neg hx', if_neg (mt same.mpr hx')]
    linarith

theorem lat_odd_wrapped_err (R : Rounding fl) (e o : Msg) (he : e.lat < 131072) (ho : o.lat < 131072) :
    ((fLatO0 fl e o ≥ 270 ↔ gLatO0 e o ≥ 270) → |fLatO fl e o - gLatO e o| ≤ 2 / 10 ^ 12) ∧
    (1 / 10 ^ 12 < |gLatO0 e o - 270| → (fLatO0 fl e o ≥ 270 ↔ gLatO0 e o ≥ 270)) :=
  have h := lat_odd_err R e o he ho
  wrap_close R h.1 (by norm_num) h.2.2

/-- when the `>= 180` decision differs the two longitudes differ by 360°, the same point -/
theorem lon_wrapped_err (R : Rounding fl) (e o : Msg) (n p k : ℕ) (he : e.lon < 131072) (ho : o.lon < 131072)
    (hk : k < 131072) (hn1 : 1 ≤ n) (hn : n ≤ 59) :
    ((fLon0 fl e o n p k ≥ 180 ↔ gLon0 e o n p k ≥ 180) →
      |fWrap180 fl (fLon0 fl e o n p k) - wrap180 (gLon0 e o n p k)| ≤ 2 / 10 ^ 12) ∧
    (1 / 10 ^ 12 < |gLon0 e o n p k - 180| → (fLon0 fl e o n p k ≥ 180 ↔ gLon0 e o n p k ≥ 180)) :=
  have h := lon_err R e o n p k he ho hk hn1 hn
  wrap_close R h.1 le_rfl h.2.2

/-! ### `airborne_position_with_reference` (l.315-372) and `surface_position_with_reference` (l.380-437)

Both axes have the same shape — `idx = floor(0.5 + ref / d - cpr)` (l.335/360, l.400/425), `d * (idx + cpr)`
(l.337/361, l.402/426) — with `d = d_lat` (l.323-327: `360/60`, `360/59`; l.388-392: `90/60`, `90/59`) or
`d = d_lon = 360 / ni` resp. `90 / ni` (l.352, l.417).  `d'` below is the binary64 value the code holds for
`d`; in every case it is ONE rounding of the exact quotient (`60`, `59`, `ni` are exact), i.e.
`|d' − d| ≤ d·u + 2⁻¹⁰⁰`, and `3/2 ≤ 90/60 ≤ d ≤ 360`. -/

section LocalDefs
variable (fl : ℚ → ℚ)
/-- l.323-327 / l.388-392 (`full = 360` / `90`) -/
def fDLat (full : ℚ) (m : Msg) : ℚ := if m.parity = .even then fl (full / 60) else fl (full / 59)
/-- l.352 / l.417 -/
def fDLon (full : ℚ) (ni : ℕ) : ℚ := if ni > 0 then fl (full / fl (ni : ℚ)) else full
/-- the argument of the floor in l.335, 360, 400, 425: `0.5 + ref / d - cpr` -/
def fIdxArg (ref d : ℚ) (k : ℕ) : ℚ := fl (fl (1 / 2 + fl (ref / d)) - fCpr fl k)
/-- l.335, 360, 400, 425 -/
def fIdx (ref d : ℚ) (k : ℕ) : ℤ := ⌊fIdxArg fl ref d k⌋
/-- l.337, 361, 402, 426: `d * (idx + cpr)` -/
def fCoord (d : ℚ) (j : ℤ) (k : ℕ) : ℚ := fl (d * fl ((j : ℚ) + fCpr fl k))
end LocalDefs

/-- the rational model's floor argument -/
def gIdxArg (ref d : ℚ) (k : ℕ) : ℚ := 1 / 2 + ref / d - (k : ℚ) / 131072

/-- l.324/389 (even), l.337/402: given the zone index, an EVEN report's latitude is computed exactly (airborne
    and surface) -/
theorem local_even_f64exact (j : ℤ) (k : ℕ) (hj : |j| ≤ 1024) (hk : k < 131072) :
    F64Exact (360 / 60 : ℚ) ∧ F64Exact (90 / 60 : ℚ) ∧ F64Exact ((j : ℚ) + (k : ℚ) / 131072) ∧
    F64Exact (360 / 60 * ((j : ℚ) + (k : ℚ) / 131072)) ∧ F64Exact (90 / 60 * ((j : ℚ) + (k : ℚ) / 131072)) := by
  have h := coord_f64exact j k hj hk
  have e6 : (360 / 60 : ℚ) = 6 := by norm_num
  have e32 : (90 / 60 : ℚ) = 3 / 2 := by norm_num
  rw [← e6, ← e32] at h
  exact ⟨dlat_even_f64exact.2.1, dlat_even_f64exact.2.2.1, h.1, h.2.1, h.2.2.2⟩

theorem fCoord_even_eq (R : Rounding fl) (j : ℤ) (k : ℕ) (hj : |j| ≤ 1024) (hk : k < 131072) :
    fCoord fl (fl (360 / 60)) j k = 360 / 60 * ((j : ℚ) + (k : ℚ) / 131072) ∧
    fCoord fl (fl (90 / 60)) j k = 90 / 60 * ((j : ℚ) + (k : ℚ) / 131072) := by
  obtain ⟨a, b, c, d, e⟩ := local_even_f64exact j k hj hk
  unfold fCoord
  rw [fCpr_eq R _ hk, R.exact _ a, R.exact _ b, R.exact _ c, R.exact _ d, R.exact _ e]
  exact ⟨rfl, rfl⟩

/-- the quotient `ref / d` (l.335, 360, 400, 425) with the rounded zone size: `d' ≥ 4d/5`, so the relative
    error `(d·u + 2⁻¹⁰⁰)/d'` of the divisor is at most `5/4·u + 5/6·2⁻¹⁰⁰`, and `|ref / d| ≤ 240` -/
theorem quot_err {d d' ref : ℚ} (hd : 3 / 2 ≤ d) (hd' : |d' - d| ≤ d * u + 1 / 2 ^ 100) (href : |ref| ≤ 360) :
    |ref / d' - ref / d| ≤ 7 / 10 ^ 14 ∧ |ref / d| ≤ 240 := by
  have hd0 : 0 < d := lt_of_lt_of_le (by norm_num) hd
  have hdu : d * u ≤ d * (1 / 10) := mul_le_mul_of_nonneg_left (by linarith only [u_le]) hd0.le
  have hlo : 4 / 5 * d ≤ d' := by linarith only [(abs_le.mp hd').1, pow100_le, hdu, hd]
  have hd'0 : 0 < d' := by linarith only [hlo, hd0]
  have hq : |ref / d| ≤ 240 := by
    rw [abs_div, abs_of_pos hd0, div_le_iff₀ hd0]; linarith only [href, hd]
  have hrel : |(d - d') / d'| ≤ 5 / 4 * u + 5 / 6 / 2 ^ 100 := by
    rw [abs_div, abs_of_pos hd'0, div_le_iff₀ hd'0, abs_sub_comm]
    linarith only [mul_le_mul_of_nonneg_left hlo u_pos.le, hd', hlo, hd]
  have e : ref / d' - ref / d = ref / d * ((d - d') / d') := by field_simp
  rw [e, abs_mul]
  have := mul_le_mul hq hrel (abs_nonneg _) (by norm_num)
  exact ⟨by linarith only [this, u_le, pow100_le], hq⟩

/-- **the floor argument** `0.5 + ref / d − cpr` computed with `fl` is within `10⁻¹²` of the exact one: the
    error of the quotient, then three roundings at magnitude `≤ 242` -/
theorem idx_arg_err (R : Rounding fl) {d d' ref : ℚ} (k : ℕ) (hk : k < 131072) (hd : 3 / 2 ≤ d)
    (hd' : |d' - d| ≤ d * u + 1 / 2 ^ 100) (href : |ref| ≤ 360) :
    |fIdxArg fl ref d' k - gIdxArg ref d k| ≤ 1 / 10 ^ 12 := by
  obtain ⟨hκ, hq⟩ := quot_err hd hd' href
  obtain ⟨c0, c1⟩ := cpr_range k hk
  have b2 : |1 / 2 + ref / d| ≤ 1 / 2 + 240 :=
    (abs_add_le _ _).trans (add_le_add (abs_of_pos one_half_pos).le hq)
  have b3 : |1 / 2 + ref / d - (k : ℚ) / 131072| ≤ 1 / 2 + 240 + 1 :=
    (abs_sub _ _).trans (add_le_add b2 ((abs_of_nonneg c0).le.trans c1.le))
  have r1 := R.step256 hκ (hq.trans (by norm_num)) (by norm_num)
  have r2 := R.step256 (x' := 1 / 2 + fl (ref / d')) (x := 1 / 2 + ref / d)
    (by rewrite [add_sub_add_left_eq_sub]; exact r1) (b2.trans (by norm_num)) (by norm_num)
  have r3 := R.step256 (x' := fl (1 / 2 + fl (ref / d')) - (k : ℚ) / 131072)
    (x := 1 / 2 + ref / d - (k : ℚ) / 131072)
    (by rewrite [sub_sub_sub_cancel_right]; exact r2) (b3.trans (by norm_num)) (by norm_num)
  unfold fIdxArg gIdxArg
  rw [fCpr_eq R k hk]
  exact r3.trans (by norm_num)

/-- **the coordinate** `d * (idx + cpr)` computed with `fl` for the MODEL's index is within `10⁻¹²` degrees
    of the rational model's coordinate: the second factor is exact and at most `360/d + 1/2` in magnitude -/
theorem coord_err (R : Rounding fl) {d d' ref : ℚ} (k : ℕ) (hk : k < 131072) (hd : 3 / 2 ≤ d) (hd360 : d ≤ 360)
    (hd' : |d' - d| ≤ d * u + 1 / 2 ^ 100) (href : |ref| ≤ 360) :
    |fCoord fl d' ⌊gIdxArg ref d k⌋ k - d * ((⌊gIdxArg ref d k⌋ : ℚ) + (k : ℚ) / 131072)| ≤ 1 / 10 ^ 12 := by
  have hdpos : 0 < d := lt_of_lt_of_le (by norm_num) hd
  obtain ⟨c0, c1⟩ := cpr_range k hk
  have hq : |ref / d| ≤ 360 / d := by
    rw [abs_div, abs_of_pos hdpos]; exact div_le_div_of_nonneg_right href hdpos.le
  have hq240 : 360 / d ≤ 240 := by rw [div_le_iff₀ hdpos]; linarith only [hd]
  have hqd : d * (360 / d + 1 / 2) = 360 + d / 2 := by field_simp
  have hn : |(⌊gIdxArg ref d k⌋ : ℚ) + (k : ℚ) / 131072 - ref / d| ≤ 1 / 2 := local_idx_near (ref / d) _
  generalize ⌊gIdxArg ref d k⌋ = j at hn ⊢
  have hS : |(j : ℚ) + (k : ℚ) / 131072| ≤ 360 / d + 1 / 2 :=
    (sub_le_iff_le_add'.1 (abs_sub_abs_le_abs_sub _ _)).trans (add_le_add hq hn)
  have hj : |j| ≤ 1024 := by
    have h : |(j : ℚ)| ≤ 1024 := abs_le.mpr (by constructor <;> linarith only [abs_le.mp hS, hq240, c0, c1])
    exact_mod_cast h
  have xs := (coord_f64exact j k hj hk).1
  unfold fCoord
  rw [fCpr_eq R k hk, R.exact _ xs]
  exact R.scaled_err hdpos hd' hS (by linarith only [hq240]) (by linarith only [hqd, hd360])

/-- **One axis of the local decoders under rounding**: the floor argument, hence the zone index unless the exact
    argument lies within `10⁻¹²` of an integer, and with the same index the coordinate. -/
theorem local_axis (R : Rounding fl) {d d' ref : ℚ} (k : ℕ) (hk : k < 131072) (hd : 3 / 2 ≤ d) (hd360 : d ≤ 360)
    (hd' : |d' - d| ≤ d * u + 1 / 2 ^ 100) (href : |ref| ≤ 360) :
    |fIdxArg fl ref d' k - gIdxArg ref d k| ≤ 1 / 10 ^ 12 ∧
    (((⌊gIdxArg ref d k⌋ : ℤ) : ℚ) + 1 / 10 ^ 12 ≤ gIdxArg ref d k →
      gIdxArg ref d k + 1 / 10 ^ 12 < ((⌊gIdxArg ref d k⌋ : ℤ) : ℚ) + 1 →
      fIdx fl ref d' k = ⌊gIdxArg ref d k⌋) ∧
    |fCoord fl d' ⌊gIdxArg ref d k⌋ k - d * ((⌊gIdxArg ref d k⌋ : ℚ) + (k : ℚ) / 131072)| ≤ 1 / 10 ^ 12 :=
  ⟨idx_arg_err R k hk hd hd' href,
   fun lo hi => floor_eq_of_close (idx_arg_err R k hk hd hd' href) lo hi,
   coord_err R k hk hd hd360 hd' href⟩

theorem fDLat_err (R : Rounding fl) (full : ℚ) (hf : full = 360 ∨ full = 90) (m : Msg) :
    |fDLat fl full m - dLatOf full m| ≤ dLatOf full m * u + 1 / 2 ^ 100 ∧ 3 / 2 ≤ dLatOf full m ∧
      dLatOf full m ≤ 360 := by
  unfold fDLat dLatOf
  split
  · exact zone_size_err R full hf (by norm_num) (by norm_num)
  · exact zone_size_err R full hf (by norm_num) (by norm_num)

theorem fDLon_err (R : Rounding fl) (full : ℚ) (hf : full = 360 ∨ full = 90) (ni : ℕ) (h1 : 1 ≤ ni)
    (h59 : ni ≤ 59) :
    |fDLon fl full ni - full / ni| ≤ full / ni * u + 1 / 2 ^ 100 ∧ 3 / 2 ≤ full / (ni : ℚ) ∧
      full / (ni : ℚ) ≤ 360 := by
  unfold fDLon
  rw [if_pos (by omega), R.exact _ (f64exact_natCast ni (by omega))]
  exact zone_size_err R full hf (by exact_mod_cast h1) (by exact_mod_cast h59.trans (by norm_num))

theorem latOf_eq (full : ℚ) (m : Msg) (latRef : ℚ) :
    latOf full m latRef
      = dLatOf full m * ((⌊gIdxArg latRef (dLatOf full m) m.lat⌋ : ℚ) + (m.lat : ℚ) / 131072) := by
  unfold latOf gIdxArg; rw [cprMax_eq]

theorem lonOf_eq (full : ℚ) (m : Msg) (lat lonRef : ℚ) :
    lonOf full m lat lonRef
      = dLonOf full m lat * ((⌊gIdxArg lonRef (dLonOf full m lat) m.lon⌋ : ℚ) + (m.lon : ℚ) / 131072) := by
  unfold lonOf gIdxArg; rw [cprMax_eq]

theorem niOf_range (i : ℕ) (lat : ℚ) : 1 ≤ niOf i lat ∧ niOf i lat ≤ 59 := by
  have := nl_range lat
  unfold niOf
  exact ⟨le_max_right _ _, max_le (by omega) (by norm_num)⟩

end Rs1090.Proofs.CprFloat
