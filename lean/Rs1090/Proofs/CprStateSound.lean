import Rs1090.Proofs.CprState
import Rs1090.Proofs.CprGlobalSpec
/-!
"Never a wrong position", one step of `decode_position` at a time: under the safe-box hypothesis of the
branch that produces it, an attached position IS the lattice point `(Rlat, Rlon + 360k)` that the DO-260B
encoder expects a receiver to recover from the report it is attached to.

Ingredients: the characterisation of the step (`Proofs/CprState.lean`), the two-point global theorem
(`Proofs/CprGlobalSpec.lean`), C05's exact local decoding (`local_exact_air`, `local_exact_surf`).
-/
namespace Rs1090.Proofs.CprState
open Rs1090 Rs1090.Model.Cpr Rs1090.Model.CprState Rs1090.Spec.Cpr Rs1090.Proofs.Cpr

/-- `p` is the lattice point of the format-`i` report of `(lat, lon)` (`nb = 17` airborne, `19` surface),
    its longitude on some turn -/
def IsLattice (nb i : ℕ) (lat lon : ℚ) (p : Pos) : Prop :=
  p.lat = rlat nb i lat ∧ ∃ k : ℤ, p.lon = rlon nb i (rlat nb i lat) lon + 360 * k

/-- the stored report `o` of the other parity was encoded from a position `(lat', lon')` on the
    globe (longitude taken on the turn of `lon`) within 12/295 ° of latitude of `(lat, lon)` and, when the two
    recovered latitudes lie in the same band `NL`, within `144/(NL(NL−1))` ° of longitude -/
def PairBox (i : ℕ) (o : Msg) (lat lon : ℚ) : Prop :=
  ∃ lat' lon' : ℚ, (-90 ≤ lat' ∧ lat' ≤ 90) ∧ o = report 17 (1 - i) lat' lon' ∧ |lat' - lat| ≤ 12 / 295 ∧
    (NL (rlat 17 (1 - i) lat') = NL (rlat 17 i lat) →
      (NL (rlat 17 i lat) : ℚ) * ((NL (rlat 17 i lat) : ℚ) - 1) * |lon' - lon| ≤ 144)

/-- `ref` is strictly within half a zone (`z = 1` airborne, `z = 4` surface zones) of the
    report's lattice point in both coordinates, the longitude on a suitable turn -/
def NearBox (nb i : ℕ) (z : ℚ) (lat lon : ℚ) (ref : Pos) : Prop :=
  |rlat nb i lat - ref.lat| < dlat i / z / 2 ∧
  ∃ k : ℤ, |rlon nb i (rlat nb i lat) lon + 360 * k - ref.lon| < dlon i (rlat nb i lat) / z / 2

theorem flat_ok {x : Outcome (Option Pos)} {r : Option Pos} (h : x = .ok r) : flat x = r := by
  rw [h]; rfl

theorem pair_sound (i : ℕ) (hi : i ≤ 1) (lat lon : ℚ) (hlat : -90 ≤ lat ∧ lat ≤ 90) (o : Msg)
    (hbox : PairBox i o lat lon) (p : Pos)
    (h : flat (airbornePosition o (report 17 i lat lon)) = some p) : IsLattice 17 i lat lon p := by
  obtain ⟨lat', lon', hlat', rfl, hdl, hdn⟩ := hbox
  -- whichever report is the even one, the pair is refused or gives the current report's lattice point
  suffices hx : airbornePosition (report 17 (1 - i) lat' lon') (report 17 i lat lon) = .ok none ∨
      airbornePosition (report 17 (1 - i) lat' lon') (report 17 i lat lon)
        = .ok (some ⟨rlat 17 i lat, norm180 (rlon 17 i (rlat 17 i lat) lon)⟩) by
    rcases hx with hx | hx <;> rw [flat_ok hx] at h <;> cases h
    exact ⟨rfl, (norm180_spec _).2.2⟩
  obtain rfl | rfl : i = 0 ∨ i = 1 := by omega
  · rw [(global_pair lat lon lat' lon' hlat hlat' (by rwa [abs_sub_comm])
      fun e => by rw [abs_sub_comm]; exact hdn e.symm).2]
    exact ite_eq_or_eq ..
  · rw [(global_pair lat' lon' lat lon hlat' hlat hdl fun e => by rw [e]; exact hdn e).1]
    exact ite_eq_or_eq ..

/-- local branch: `NearBox` and exactness of the decoder on it give the report's lattice point.  `hx` is that
    exactness in the shape `local_exact_air` / `local_exact_surf` have it: for the turn `k`, from the two
    inequalities of `NearBox` -/
theorem ref_sound {nb i : ℕ} {z lat lon : ℚ} {ref p : Pos} {x : Outcome (Option Pos)}
    (hbox : NearBox nb i z lat lon ref)
    (hx : ∀ k : ℤ, |rlat nb i lat - ref.lat| < dlat i / z / 2 →
      |rlon nb i (rlat nb i lat) lon + 360 * k - ref.lon| < dlon i (rlat nb i lat) / z / 2 →
      x = .ok (some ⟨rlat nb i lat, rlon nb i (rlat nb i lat) lon + 360 * k⟩))
    (h : flat x = some p) : IsLattice nb i lat lon p := by
  obtain ⟨h1, k, h2⟩ := hbox
  rw [flat_ok (hx k h1 h2)] at h
  cases h
  exact ⟨rfl, k, rfl⟩

theorem airOut_sound (dist : Pos → Pos → Rat) (e : AircraftState) (ts : ℚ) (i : ℕ) (hi : i ≤ 1) (lat lon : ℚ)
    (hlat : -90 ≤ lat ∧ lat ≤ 90)
    (hpair : ∀ o, otherMsg e (report 17 i lat lon).parity = some o →
      ts - otherTs e (report 17 i lat lon).parity < 10 → PairBox i o lat lon)
    (href : ∀ lp, e.pos = some lp → ts - e.timestamp < 180 → NearBox 17 i 1 lat lon lp)
    (p : Pos) (h : airOut dist e ts (report 17 i lat lon) = some p) : IsLattice 17 i lat lon p := by
  rcases airCandidate_eq_some.1 (gate50_eq_some.1 h).1 with hp | ⟨_, hr⟩
  · obtain ⟨h10, o, ho, hd⟩ := pairDecode_eq_some.1 hp
    exact pair_sound i hi lat lon hlat o (hpair o ho h10) p hd
  · obtain ⟨h180, lp, hlp, hd⟩ := refDecode_eq_some.1 hr
    refine ref_sound (href lp hlp h180) (fun k h1 h2 => ?_) hd
    rw [div_one] at h1 h2
    exact local_exact_air i hi lat lon lp.lat lp.lon k hlat h1 h2

theorem surfOut_sound (dist : Pos → Pos → Rat) (e : AircraftState) (reference : Option Pos) (ts : ℚ) (i : ℕ)
    (hi : i ≤ 1) (lat lon : ℚ) (hlat : -90 ≤ lat ∧ lat ≤ 90)
    (hlast : ∀ lp, e.pos = some lp → ts - e.timestamp < 180 → NearBox 19 i 4 lat lon lp)
    (href : ∀ rf, reference = some rf → NearBox 19 i 4 lat lon rf)
    (p : Pos) (h : surfOut dist e reference ts (report 19 i lat lon) = some p) : IsLattice 19 i lat lon p := by
  rcases surfOut_eq_some.1 h with hl | ⟨_, rf, hrf, hd⟩
  · obtain ⟨h180, lp, hlp, hd, _⟩ := surfLast_eq_some.1 hl
    exact ref_sound (hlast lp hlp h180) (fun k => local_exact_surf i hi lat lon lp.lat lp.lon k hlat) hd
  · exact ref_sound (href rf hrf) (fun k => local_exact_surf i hi lat lon rf.lat rf.lon k hlat) hd

/-- none of the three decoding primitives can panic (`nl ≥ 1`: the `u64` subtractions never underflow), so
    `flat` never hides anything -/
theorem primitives_ne_panic (a b : Msg) (latRef lonRef : ℚ) (s : Site) :
    airbornePosition a b ≠ .panic s ∧ airborneWithRef a latRef lonRef ≠ .panic s ∧
    surfaceWithRef a latRef lonRef ≠ .panic s :=
  ⟨airbornePosition_ne_panic a b s, withRef_ne_panic 360 a latRef lonRef s, withRef_ne_panic 90 a latRef lonRef s⟩

end Rs1090.Proofs.CprState
