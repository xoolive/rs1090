/-
C15 helper lemmas: the key schedule of the model (i64 / u64 / u32 mixing of the Rust code, on ℕ)
is the `uint32_t` reference key schedule of the Spec.
-/
import Rs1090.Model.Flarm
import Rs1090.Spec.Flarm
namespace Rs1090.Proofs.Flarm
open Rs1090 Rs1090.Model.Flarm Rs1090.Gen.Flarm

theorem xorshift_lt (x n : Nat) (h : x < 2 ^ 32) : x ^^^ (x >>> n) < 2 ^ 32 := by
  apply Nat.xor_lt_two_pow h
  exact Nat.lt_of_le_of_lt (Nat.shiftRight_le x n) h

theorem obscure_spec (key seed : Nat) (hk : key < 2 ^ 32) (hs : seed < 2 ^ 32) :
    BitVec.ofNat 32 (obscure key seed)
      = Spec.Flarm.obscure (BitVec.ofNat 32 key) (BitVec.ofNat 32 seed) := by
  have e1 : ∀ x, (seed * x % 2 ^ 64) % 2 ^ 32 = seed * x % 2 ^ 32 :=
    fun x => Nat.mod_mod_of_dvd _ (by decide)
  have hm : ∀ x, seed * x % 2 ^ 32 < 2 ^ 32 := fun x => Nat.mod_lt _ (by decide)
  apply BitVec.eq_of_toNat_eq
  simp only [obscure, Spec.Flarm.obscure, OBS_SHR1, OBS_SHR2, OBS_SHR3, e1,
    BitVec.toNat_xor, BitVec.toNat_ushiftRight, BitVec.toNat_mul, BitVec.toNat_ofNat,
    Nat.mod_eq_of_lt hk, Nat.mod_eq_of_lt hs, Nat.mod_eq_of_lt (xorshift_lt _ 16 (hm _))]


theorem ofNat_shr (x n : Nat) (h : x < 2 ^ 32) :
    BitVec.ofNat 32 (x >>> n) = BitVec.ofNat 32 x >>> n := by
  apply BitVec.eq_of_toNat_eq
  simp only [BitVec.toNat_ushiftRight, BitVec.toNat_ofNat, Nat.mod_eq_of_lt h,
    Nat.mod_eq_of_lt (Nat.lt_of_le_of_lt (Nat.shiftRight_le x n) h)]

theorem keyWord_spec (time address tab : Nat) (ht : time < 2 ^ 32) (ha : address < 2 ^ 32)
    (htab : tab < 2 ^ 32) :
    keyWord time address tab
      = Spec.Flarm.obscure (BitVec.ofNat 32 tab ^^^ ((BitVec.ofNat 32 time >>> 6) ^^^ BitVec.ofNat 32 address))
          0x045D9F3B#32 ^^^ 0x87B562F4#32 := by
  have hsh : time >>> TIME_SHR < 2 ^ 32 := Nat.lt_of_le_of_lt (Nat.shiftRight_le _ _) ht
  have hK : tab ^^^ ((time >>> TIME_SHR) ^^^ address) < 2 ^ 32 :=
    Nat.xor_lt_two_pow htab (Nat.xor_lt_two_pow hsh ha)
  unfold keyWord
  rw [BitVec.ofNat_xor, obscure_spec _ _ hK (by decide), BitVec.ofNat_xor, BitVec.ofNat_xor,
    show TIME_SHR = 6 from rfl, ofNat_shr _ _ ht]
  rfl

theorem keyWords_spec (time address : Nat) (ht : time < 2 ^ 32) (ha : address < 2 ^ 32) (table : List Nat)
    (htab : ∀ tab ∈ table, tab < 2 ^ 32) :
    table.map (keyWord time address)
      = (table.map (BitVec.ofNat 32)).map fun w =>
          Spec.Flarm.obscure (w ^^^ ((BitVec.ofNat 32 time >>> 6) ^^^ BitVec.ofNat 32 address))
            0x045D9F3B#32 ^^^ 0x87B562F4#32 := by
  rw [List.map_map]
  exact List.map_congr_left fun tab h => keyWord_spec time address tab ht ha (htab tab h)

theorem makeKey_spec (time address : Nat) (ht : time < 2 ^ 32) (ha : address < 2 ^ 32) :
    makeKey time address = Spec.Flarm.makeKey (BitVec.ofNat 32 time) (BitVec.ofNat 32 address) := by
  have hb : ((time >>> TABLE_SHR) &&& TABLE_MASK1) &&& TABLE_MASK2 = (time >>> 23) % 2 := by
    show ((time >>> 23) &&& 255) &&& 1 = _
    rw [Nat.and_assoc, show (255 &&& 1 : Nat) = 1 from rfl, Nat.and_one_is_mod]
  have hs : (BitVec.ofNat 32 time >>> 23) &&& 1#32 = BitVec.ofNat 32 ((time >>> 23) % 2) := by
    apply BitVec.eq_of_toNat_eq
    simp only [BitVec.toNat_and, BitVec.toNat_ushiftRight, BitVec.toNat_ofNat, Nat.mod_eq_of_lt ht,
      Nat.reducePow, Nat.reduceMod, Nat.and_one_is_mod]
    omega
  unfold makeKey Spec.Flarm.makeKey
  rw [hb, hs]
  rcases Nat.mod_two_eq_zero_or_one (time >>> 23) with h | h
  · rw [h, if_neg (by decide), if_neg (by decide)]
    exact keyWords_spec time address ht ha KEY1 (by decide)
  · rw [h, if_pos (by decide), if_pos (by decide)]
    exact keyWords_spec time address ht ha KEY1B (by decide)

theorem makeKey_length (time address : Nat) : (makeKey time address).length = 4 := by
  unfold makeKey
  split <;> simp only [List.length_map, KEY1, KEY1B, List.length_cons, List.length_nil]

end Rs1090.Proofs.Flarm
