/-
`Message.tryFrom` on a frame built by the Spec encoder: the outer layers (length test, checksum gate, the read of
the format number) are discharged once for every `encodeAP (dataBytes fs) a` (`tryFrom_encodeAP`), leaving the
reader of that format to be run on a buffer that carries `fs`; then the extended squitters (DF 17/18, `ME` at
bit 32) and the surveillance replies DF 4/5.
-/
import Rs1090.Proofs.C03Exec
import Rs1090.Proofs.C03Simp
import Rs1090.Proofs.CrcGate
namespace Rs1090.Proofs.C03
open Rs1090 Rs1090.Model Rs1090.Spec.Encode Rs1090.Model.Message
open Rs1090.Spec.Crc (pack encodeAP)
open Rs1090.Proofs.Crc

/- `frame_run` steps through `>>=`, `pure`, `R.lift (.ok _)`, `enumId`, `bitsLE` and computes the byte bound a read
   leaves.  `wpOk_bits` stays out of it: the `Carries` hypotheses of a frame rewrite the same `bits n` reads to the
   field values, and a call lists whichever of the two it means. -/
attribute [frame_run ↓] wpOk_bind wpOk_pure wpOk_lift wpOk_enumId wpOk_bitsLE
attribute [frame_run] ceilDiv8 true_and
attribute [frame_run_proc] Nat.reduceAdd Nat.reduceDiv Nat.reduceLeDiff

/-- **Every frame theorem reduces to a run of the reader of its format.**  For the Spec frame of the field list
    `fs` (DF field first) with `a` overlaid on the parity: the length is the announced one, the checksum is `a`
    (`syndrome_encodeAP`: the parity hypothesis of the decoder holds by construction) and passes the DF 17
    gate, the format number is read back, so `tryFrom` returns whatever `dfBody a df` reads from bit 5 of a buffer
    carrying `fs`. -/
theorem tryFrom_encodeAP (fs : List Field) (df a n : Nat) (v : SerFields)
    (hdf : fieldAt fs 0 5 = some df) (hw : width fs + 24 = 8 * n)
    (hn : (if df &&& 0x10 != 0 then 112 else 56) = 8 * n)
    (hfit : fits fs = true) (ha : a < 2 ^ 24) (hgate : df = 17 → a = 0)
    (hrun : ∀ F, F = encodeAP (dataBytes fs) a → F.length = n → Carries F 0 fs →
      wpOk (dfBody a df) (fun r _ => r = v) (st F 5 5 5)) :
    tryFrom (encodeAP (dataBytes fs) a) = .ok (toDecoded v) := by
  have h8 : width fs % 8 = 0 := by omega
  have hlen : (encodeAP (dataBytes fs) a).length = n := by
    rw [encodeAP_length, dataBytes, pack_length, layout_length]; omega
  have hb : Bytes (encodeAP (dataBytes fs) a) := encodeAP_bytes _ _ (pack_bytes _)
  have hd : bitsBE (encodeAP (dataBytes fs) a) 0 5 = df := bitsBE_layout fs _ 0 5 df h8 hfit hdf
  have hs := syndrome_encodeAP (dataBytes fs) a ha
  have hC : Carries (encodeAP (dataBytes fs) a) 0 fs := carries_pack fs _ h8 hfit
  have hdfr : wpOk (Message.df a) (fun r _ => r = v) (st (encodeAP (dataBytes fs) a) 0 0 0) := by
    unfold Message.df
    rw [wpOk_bind, wpOk_enumId, carries_head hC hdf]
    exact hrun _ rfl hlen hC
  obtain ⟨r, s', hm, rfl⟩ := wpOk_iff.1 hdfr
  generalize encodeAP (dataBytes fs) a = F at *
  match F, hlen with
  | [], hlen => simp at hlen; omega
  | b0 :: rest, hlen =>
    rw [bitsBE_df b0 rest (hb b0 (List.mem_cons_self ..))] at hd
    have hfb : frameBits b0 = 8 * (b0 :: rest).length := by rw [frameBits, hd, hlen]; exact hn
    have hgo : decodeBuf b0 (b0 :: rest) = parseDF a (b0 :: rest) := by
      rw [decodeBuf_exact b0 _ hfb.symm hb, hs, if_neg]
      rintro ⟨h17, hne⟩
      rw [hgate (hd ▸ h17)] at hs
      exact hne (BitVec.eq_of_toNat_eq hs)
    rw [tryFrom_exact b0 rest hfb.symm, hgo, parseDF, show (Message.df a).run (b0 :: rest) = _ from hm]
    rfl

def esHead (df c aa : Nat) : Fields :=
  if df = 17 then [dfTag (key! "17"), fld (key! "icao24") (jhex6 aa)]
  else [dfTag (key! "18"), fld (key! "tisb") (.lit (controlFieldName c)), fld (key! "icao24") (jhex6 aa)]

theorem dfBody_es (crc df : Nat) (hdf : df = 17 ∨ df = 18) :
    dfBody crc df = (do
      let c ← enumId 3
      let aa ← bits 24
      let m ← me
      let _ ← bits 24
      pure (withFields (esHead df c aa) m)) := by
  rcases hdf with rfl | rfl <;> rfl

/-- what every `ME` lemma establishes: the payload `out`, read from `F` without running past bit 88 (so that
    the 24 parity bits can still be read) -/
abbrev MEPost (F : List Nat) (out : SerFields) : SerFields → Rd → Prop :=
  fun r s' => r = out ∧ s'.bytes = F ∧ s'.p ≤ 88

structure DecodesME (me : List Field) (out : SerFields) : Prop where
  width : width me = 56
  fits : fits me = true
  run : ∀ F, Carries F 32 me → wpOk Message.me (MEPost F out) (st F 32 27 32)

theorem tryFrom_es (df c aa : Nat) (me : List Field) (out : SerFields)
    (hdf : df = 17 ∨ df = 18) (hc : c < 2 ^ 3) (haa : aa < 2 ^ 24) (hme : DecodesME me out) :
    tryFrom (buildES df c aa me) = .ok (toDecoded (withFields (esHead df c aa) out)) := by
  refine tryFrom_encodeAP (esHeader df c aa ++ me) df 0 14 _ rfl
    (by simp [Spec.Encode.width, esHeader, hme.width]) (by rcases hdf with rfl | rfl <;> rfl) ?_
    (by decide) (fun _ => rfl) ?_
  · rw [fits_append, hme.fits]
    rcases hdf with rfl | rfl <;> simp [Spec.Encode.fits, esHeader, hc, haa]
  · intro F _ hlen hC
    obtain ⟨hH, hM⟩ := (carries_append F _ _ 0).1 hC
    simp only [Carries, esHeader, Nat.reduceAdd] at hH
    simp only [frame_run, dfBody_es 0 df hdf, ↓hH]
    refine wpOk_mono (hme.run F hM) ?_
    rintro r ⟨b, p, l, n⟩ ⟨rfl, rfl, (hp : p ≤ 88)⟩
    rw [wpOk_bits 24 (by decide)]
    exact ⟨by rw [hlen]; unfold ceilDiv8; omega, rfl⟩

/-- FS, DR and UM are skipped (UM is read as 4 + 2 bits, across the Spec's 6-bit field) -/
theorem survHeader_run (F : List Nat) (Q : Unit → Rd → Prop) (hlen : 7 ≤ F.length) :
    wpOk surveillanceHeader Q (st F 5 5 5) ↔ Q () (st F 19 2 19) := by
  unfold surveillanceHeader
  simp (disch := decide) only [frame_run, ↓wpOk_bits]
  exact ⟨fun h => h.2.2.2.2, fun h => ⟨by omega, by omega, by omega, by omega, h⟩⟩

theorem fits_survHeader {df fs dr um code : Nat} (hdf : df < 2 ^ 5) (hfs : fs < 2 ^ 3) (hdr : dr < 2 ^ 5)
    (hum : um < 2 ^ 6) (hcode : code < 2 ^ 13) : fits (survHeader df fs dr um code) = true := by
  simp [fits, survHeader, hdf, hfs, hdr, hum, hcode]

theorem tryFrom_df4 (fs dr um code addr alt : Nat)
    (hfs : fs < 2 ^ 3) (hdr : dr < 2 ^ 5) (hum : um < 2 ^ 6) (hcode : code < 2 ^ 13) (haddr : addr < 2 ^ 24)
    (halt : ac13 code = .ok alt) :
    tryFrom (buildShort 4 fs dr um code addr) = .ok (toDecoded (.ok
      [dfTag (key! "4"), fld (key! "altitude") (jnat alt), fld (key! "icao24") (jhex6 addr)])) := by
  refine tryFrom_encodeAP (survHeader 4 fs dr um code) 4 addr 7 _ rfl (by simp [width, survHeader]) rfl
    (fits_survHeader (by decide) hfs hdr hum hcode) haddr (by omega) fun F _ hlen hC => ?_
  simp only [Carries, survHeader, Nat.reduceAdd] at hC
  simp (disch := decide) only [frame_run, dfBody, ac13Field, ↓survHeader_run F _ (by omega), ↓hC, halt, hlen]

theorem tryFrom_df5 (fs dr um code addr : Nat)
    (hfs : fs < 2 ^ 3) (hdr : dr < 2 ^ 5) (hum : um < 2 ^ 6) (hcode : code < 2 ^ 13) (haddr : addr < 2 ^ 24) :
    tryFrom (buildShort 5 fs dr um code addr) = .ok (toDecoded (.ok
      [dfTag (key! "5"), fld (key! "squawk") (jhex4 (decodeId13 code)), fld (key! "icao24") (jhex6 addr)])) := by
  refine tryFrom_encodeAP (survHeader 5 fs dr um code) 5 addr 7 _ rfl (by simp [width, survHeader]) rfl
    (fits_survHeader (by decide) hfs hdr hum hcode) haddr (by omega) fun F _ hlen hC => ?_
  simp only [Carries, survHeader, Nat.reduceAdd] at hC
  simp (disch := decide) only [frame_run, dfBody, identityCode, ↓survHeader_run F _ (by omega), ↓hC, hlen]

end Rs1090.Proofs.C03
