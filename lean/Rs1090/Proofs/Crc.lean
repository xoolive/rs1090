/-
Algebra of the Mode S long division (Spec/Crc.lean): the register step is XOR-linear and
injective at 0, the remainder is additive over equal-length bit strings, short strings are
their own remainder.  Core Lean only.
-/
import Rs1090.Spec.Crc
namespace Rs1090.Proofs.Crc
open Rs1090 Rs1090.Spec.Crc

theorem step0_zero : step0 0#24 = 0#24 := by decide

theorem xor_xor_xor_comm (a b c d : BitVec 24) : (a ^^^ b) ^^^ (c ^^^ d) = (a ^^^ c) ^^^ (b ^^^ d) := by
  ac_rfl

theorem step0_xor (a b : BitVec 24) : step0 (a ^^^ b) = step0 a ^^^ step0 b := by
  unfold step0
  rw [BitVec.shiftLeft_xor_distrib, BitVec.msb_xor, xor_xor_xor_comm (a <<< 1)]
  congr 1
  cases a.msb <;> cases b.msb <;> simp

theorem msb_eq_false (r : BitVec 24) (h : r.toNat < 2 ^ 23) : r.msb = false := by
  rw [BitVec.msb_eq_decide, decide_eq_false_iff_not]
  omega

theorem msb_eq_true (r : BitVec 24) (h : ¬ r.toNat < 2 ^ 23) : r.msb = true := by
  rw [BitVec.msb_eq_decide, decide_eq_true_eq]
  omega

theorem step0_small (r : BitVec 24) (h : r.toNat < 2 ^ 23) : step0 r = r <<< 1 := by
  rw [step0, msb_eq_false r h]
  exact BitVec.xor_zero

theorem shl1_toNat (r : BitVec 24) (h : r.toNat < 2 ^ 23) : (r <<< 1).toNat = 2 * r.toNat := by
  rw [BitVec.toNat_shiftLeft, Nat.shiftLeft_eq]; omega

/-- the generator has constant term 1, so multiplication by `x` modulo `G` has no kernel -/
theorem step0_ne_zero (r : BitVec 24) (h : r ≠ 0#24) : step0 r ≠ 0#24 := by
  intro hz
  by_cases hr : r.toNat < 2 ^ 23
  · -- no reduction: `step0 r` is `2 * r`
    have h2 := shl1_toNat r hr
    rw [← step0_small r hr, hz] at h2
    exact h (BitVec.eq_of_toNat_eq (by rw [BitVec.toNat_ofNat] at h2 ⊢; omega))
  · -- reduction: bit 0 of `step0 r` is the constant term of `P`
    have h0 : (step0 r).getLsbD 0 = true := by
      rw [step0, msb_eq_true r hr, if_pos rfl, BitVec.getLsbD_xor, BitVec.getLsbD_shiftLeft,
        show P.getLsbD 0 = true by decide]
      rfl
    rw [hz] at h0
    cases h0

theorem feed_false (r : BitVec 24) : feed r false = step0 r := BitVec.xor_zero

theorem feed_xor (r s : BitVec 24) (a b : Bool) :
    feed (r ^^^ s) (a ^^ b) = feed r a ^^^ feed s b := by
  unfold feed
  rw [step0_xor, xor_xor_xor_comm (step0 r)]
  congr 1
  cases a <;> cases b <;> decide

theorem polyModFrom_nil (r : BitVec 24) : polyModFrom r [] = r := rfl
theorem polyModFrom_cons (r : BitVec 24) (b : Bool) (bs : List Bool) :
    polyModFrom r (b :: bs) = polyModFrom (feed r b) bs := rfl
theorem polyModFrom_append (r : BitVec 24) (xs ys : List Bool) :
    polyModFrom r (xs ++ ys) = polyModFrom (polyModFrom r xs) ys :=
  List.foldl_append

theorem polyModFrom_xor : ∀ (xs ys : List Bool) (r s : BitVec 24), xs.length = ys.length →
    polyModFrom (r ^^^ s) (xorBits xs ys) = polyModFrom r xs ^^^ polyModFrom s ys
  | [], [], _, _, _ => rfl
  | x :: xs, y :: ys, r, s, h => by
    rw [xorBits, List.zipWith_cons_cons, polyModFrom_cons, feed_xor]
    exact polyModFrom_xor xs ys _ _ (Nat.succ.inj h)

theorem xorBits_append (a b c d : List Bool) (h : a.length = c.length) :
    xorBits (a ++ b) (c ++ d) = xorBits a c ++ xorBits b d :=
  List.zipWith_append h

theorem xorBits_length (a b : List Bool) (h : a.length = b.length) : (xorBits a b).length = a.length := by
  rw [xorBits, List.length_zipWith, h, Nat.min_self]

theorem zeros_xorBits : ∀ bs : List Bool, xorBits (zeros bs.length) bs = bs
  | [] => rfl
  | b :: bs => by
    rw [List.length_cons, zeros, List.replicate_succ, xorBits, List.zipWith_cons_cons, Bool.false_xor]
    exact congrArg _ (zeros_xorBits bs)

theorem zeros_length (n : Nat) : (zeros n).length = n := List.length_replicate

theorem xorBits_zeros (n : Nat) : xorBits (zeros n) (zeros n) = zeros n := by
  have := zeros_xorBits (zeros n)
  rwa [zeros_length] at this

theorem zeros_add (m n : Nat) : zeros (m + n) = zeros m ++ zeros n :=
  List.replicate_append_replicate.symm

/-- `n` multiplications by `x` modulo `G`: bringing down `n` zero bits -/
def stepN (n : Nat) (r : BitVec 24) : BitVec 24 := polyModFrom r (zeros n)

theorem stepN_succ (n : Nat) (r : BitVec 24) : stepN (n + 1) r = stepN n (step0 r) := by
  rw [stepN, zeros, List.replicate_succ, polyModFrom_cons, feed_false]
  rfl

theorem stepN_xor (n : Nat) (a b : BitVec 24) : stepN n (a ^^^ b) = stepN n a ^^^ stepN n b := by
  rw [stepN, ← xorBits_zeros, polyModFrom_xor _ _ _ _ rfl]
  rfl

theorem stepN_zero (n : Nat) : stepN n 0#24 = 0#24 := by
  have := stepN_xor n 0#24 0#24
  rwa [BitVec.xor_self, BitVec.xor_self] at this

theorem stepN_ne_zero (n : Nat) (r : BitVec 24) (h : r ≠ 0#24) : stepN n r ≠ 0#24 := by
  induction n generalizing r with
  | zero => exact h
  | succ n ih => rw [stepN_succ]; exact ih _ (step0_ne_zero r h)

theorem stepN_add (m n : Nat) (r : BitVec 24) : stepN (m + n) r = stepN n (stepN m r) := by
  rw [stepN, zeros_add, polyModFrom_append]
  rfl

theorem polyMod_zeros (n : Nat) : polyMod (zeros n) = 0#24 := stepN_zero n

theorem polyModFrom_eq (bs : List Bool) (r : BitVec 24) :
    polyModFrom r bs = stepN bs.length r ^^^ polyMod bs := by
  rw [stepN, polyMod, ← polyModFrom_xor _ _ _ _ (zeros_length _), zeros_xorBits, BitVec.xor_zero]

theorem polyMod_append (xs ys : List Bool) :
    polyMod (xs ++ ys) = stepN ys.length (polyMod xs) ^^^ polyMod ys := by
  rw [polyMod, polyModFrom_append, polyModFrom_eq ys]; rfl

theorem polyMod_append_zeros (xs : List Bool) (n : Nat) :
    polyMod (xs ++ zeros n) = stepN n (polyMod xs) :=
  polyModFrom_append _ xs _

theorem polyMod_zeros_append (n : Nat) (ys : List Bool) : polyMod (zeros n ++ ys) = polyMod ys := by
  rw [polyMod_append, polyMod_zeros, stepN_zero, BitVec.zero_xor]

theorem polyMod_xor (xs ys : List Bool) (h : xs.length = ys.length) :
    polyMod (xorBits xs ys) = polyMod xs ^^^ polyMod ys := by
  unfold polyMod
  rw [← polyModFrom_xor xs ys _ _ h, BitVec.xor_self]

theorem parity_eq (xs : List Bool) : parity xs = stepN 24 (polyMod xs) := polyMod_append_zeros xs 24

theorem polyMod_append24 (xs ys : List Bool) (h : ys.length = 24) :
    polyMod (xs ++ ys) = parity xs ^^^ polyMod ys := by
  rw [polyMod_append, h, parity_eq]

theorem two_mul_xor_one (n : Nat) : 2 * n ^^^ 1 = 2 * n + 1 := by
  apply Nat.eq_of_testBit_eq
  intro i
  rw [Nat.testBit_xor]
  cases i with
  | zero => simp [Nat.testBit_zero]
  | succ i =>
    rw [Nat.testBit_succ, Nat.testBit_succ, Nat.testBit_succ]
    have h1 : 2 * n / 2 = n := by omega
    have h2 : (2 * n + 1) / 2 = n := by omega
    rw [h1, h2]; simp

theorem two_mul_xor_bit (m : Nat) (b : Bool) :
    2 * m ^^^ (if b = true then 1#24 else 0#24).toNat = 2 * m + b.toNat := by
  cases b
  · exact Nat.xor_zero _
  · exact two_mul_xor_one m

theorem feed_toNat (r : BitVec 24) (b : Bool) (h : r.toNat < 2 ^ 23) :
    (feed r b).toNat = 2 * r.toNat + b.toNat := by
  rw [feed, step0_small r h, BitVec.toNat_xor, shl1_toNat r h]
  exact two_mul_xor_bit _ b

def valFrom (acc : Nat) (bs : List Bool) : Nat := bs.foldl (fun acc b => 2 * acc + b.toNat) acc

theorem valBE_eq (bs : List Bool) : valBE bs = valFrom 0 bs := rfl

theorem valFrom_cons (acc : Nat) (b : Bool) (bs : List Bool) :
    valFrom acc (b :: bs) = valFrom (2 * acc + b.toNat) bs := rfl

theorem valFrom_eq (bs : List Bool) (acc : Nat) : valFrom acc bs = acc * 2 ^ bs.length + valBE bs := by
  induction bs generalizing acc with
  | nil => exact (Nat.mul_one acc).symm
  | cons b bs ih =>
    have e : valBE (b :: bs) = valFrom (2 * 0 + b.toNat) bs := rfl
    rw [valFrom_cons, e, ih, ih (2 * 0 + b.toNat), List.length_cons, Nat.pow_succ, Nat.add_mul, Nat.add_mul,
      Nat.mul_zero, Nat.zero_mul, Nat.zero_add, Nat.add_assoc, Nat.mul_comm 2 acc, Nat.mul_assoc,
      Nat.mul_comm 2]

theorem valBE_append (xs ys : List Bool) : valBE (xs ++ ys) = valBE xs * 2 ^ ys.length + valBE ys := by
  rw [← valFrom_eq]
  exact List.foldl_append

theorem valBE_cons (b : Bool) (bs : List Bool) : valBE (b :: bs) = b.toNat * 2 ^ bs.length + valBE bs := by
  rw [valBE_eq, valFrom_cons, valFrom_eq, Nat.mul_zero, Nat.zero_add]

theorem valBE_lt (bs : List Bool) : valBE bs < 2 ^ bs.length := by
  induction bs with
  | nil => exact Nat.one_pos
  | cons b bs ih =>
    have hb : b.toNat * 2 ^ bs.length ≤ 1 * 2 ^ bs.length := Nat.mul_le_mul_right _ (Bool.toNat_le b)
    rw [valBE_cons, List.length_cons, Nat.pow_succ]
    omega

theorem valBE_zeros (n : Nat) : valBE (zeros n) = 0 := by
  induction n with
  | zero => rfl
  | succ n ih => rw [zeros, List.replicate_succ, valBE_cons, ← zeros, ih]; exact Nat.zero_mul _

theorem valBE_pos (bs : List Bool) (h : true ∈ bs) : 0 < valBE bs := by
  induction bs with
  | nil => cases h
  | cons b bs ih =>
    rw [valBE_cons]
    rcases List.mem_cons.1 h with rfl | h
    · exact Nat.add_pos_left (Nat.mul_pos Nat.one_pos (Nat.two_pow_pos _)) _
    · exact Nat.add_pos_right _ (ih h)

theorem polyModFrom_toNat (bs : List Bool) (r : BitVec 24) (h : valFrom r.toNat bs < 2 ^ 24) :
    (polyModFrom r bs).toNat = valFrom r.toNat bs := by
  induction bs generalizing r with
  | nil => rfl
  | cons b bs ih =>
    have hr : r.toNat < 2 ^ 23 := by
      have : 2 * r.toNat + b.toNat ≤ valFrom r.toNat (b :: bs) := by
        rw [valFrom_cons, valFrom_eq]
        exact Nat.le_add_right_of_le (Nat.le_mul_of_pos_right _ (Nat.two_pow_pos _))
      omega
    rw [valFrom_cons, ← feed_toNat r b hr] at h ⊢
    exact ih _ h

theorem polyMod_short (bs : List Bool) (hl : bs.length ≤ 24) : (polyMod bs).toNat = valBE bs :=
  polyModFrom_toNat bs 0#24 (Nat.lt_of_lt_of_le (valBE_lt bs) (Nat.pow_le_pow_right (by decide) hl))

theorem stepN_small (k : Nat) (r : BitVec 24) (h : r.toNat * 2 ^ k < 2 ^ 24) : stepN k r = r <<< k := by
  have hv : valFrom r.toNat (zeros k) = r.toNat * 2 ^ k := by
    rw [valFrom_eq, valBE_zeros, zeros_length]; rfl
  apply BitVec.eq_of_toNat_eq
  rw [stepN, polyModFrom_toNat _ _ (by rw [hv]; exact h), hv, BitVec.toNat_shiftLeft, Nat.shiftLeft_eq,
    Nat.mod_eq_of_lt h]

theorem polyMod_short_ne_zero (bs : List Bool) (hl : bs.length ≤ 24) (h : true ∈ bs) :
    polyMod bs ≠ 0#24 := by
  intro hz
  have h1 := polyMod_short bs hl
  rw [hz] at h1
  exact Nat.ne_of_gt (valBE_pos bs h) h1.symm

theorem xor_top (a p : Nat) (ha : a < 2 ^ 24) (hp : p < 2 ^ 24) :
    (2 ^ 24 + a) ^^^ (2 ^ 24 + p) = a ^^^ p := by
  have hm : ((2 ^ 24 + a) ^^^ (2 ^ 24 + p)) % 2 ^ 24 = a ^^^ p := by
    rw [Nat.xor_mod_two_pow]
    congr 1 <;> omega
  have hd : ((2 ^ 24 + a) ^^^ (2 ^ 24 + p)) / 2 ^ 24 = 0 := by
    rw [← Nat.shiftRight_eq_div_pow, Nat.shiftRight_xor_distrib, Nat.shiftRight_eq_div_pow,
      Nat.shiftRight_eq_div_pow]
    have h1 : (2 ^ 24 + a) / 2 ^ 24 = 1 := by omega
    have h2 : (2 ^ 24 + p) / 2 ^ 24 = 1 := by omega
    rw [h1, h2]; rfl
  have := Nat.mod_add_div ((2 ^ 24 + a) ^^^ (2 ^ 24 + p)) (2 ^ 24)
  rw [hm, hd] at this
  omega

theorem divStep_eq (r : BitVec 24) (b : Bool) : divStep r.toNat b = (feed r b).toNat := by
  have hr := r.isLt
  have hb := Bool.toNat_le b
  unfold divStep
  by_cases h : r.toNat < 2 ^ 23
  · rw [feed_toNat r b h]
    exact if_neg (by omega)
  · -- the bit shifted out of the register is the degree-24 coefficient that the generator cancels
    have hG : GENERATOR = 2 ^ 24 + P.toNat := by decide
    have ht : 2 * r.toNat + b.toNat = 2 ^ 24 + (2 * (r.toNat - 2 ^ 23) + b.toNat) := by omega
    have hs : (r <<< 1).toNat = 2 * (r.toNat - 2 ^ 23) := by
      rw [BitVec.toNat_shiftLeft, Nat.shiftLeft_eq]; omega
    simp only
    rw [if_pos (by omega), hG, ht, xor_top _ _ (by omega) P.isLt, ← two_mul_xor_bit, feed, step0,
      msb_eq_true r h, if_pos rfl, BitVec.toNat_xor, BitVec.toNat_xor, hs, Nat.xor_assoc, Nat.xor_assoc,
      Nat.xor_comm P.toNat]

theorem polyModNat_from (bs : List Bool) (r : BitVec 24) :
    bs.foldl divStep r.toNat = (polyModFrom r bs).toNat := by
  induction bs generalizing r with
  | nil => rfl
  | cons b bs ih => rw [List.foldl_cons, divStep_eq, ih, polyModFrom_cons]

/-- the 24-bit register formulation is schoolbook long division by the 25-bit generator -/
theorem polyModNat_eq (bs : List Bool) : polyModNat bs = (polyMod bs).toNat :=
  polyModNat_from bs 0#24

theorem true_not_mem_zeros (n : Nat) : true ∉ zeros n :=
  fun h => Bool.noConfusion (List.eq_of_mem_replicate h)

theorem eq_zeros (bs : List Bool) (h : ∀ i (hi : i < bs.length), bs[i] = false) : bs = zeros bs.length :=
  List.eq_replicate_iff.2 ⟨rfl, fun b hb => by obtain ⟨i, hi, rfl⟩ := List.getElem_of_mem hb; exact h i hi⟩

theorem window_split (e : List Bool) (s w : Nat)
    (hwin : ∀ i (h : i < e.length), e[i] = true → s ≤ i ∧ i < s + w) :
    ∃ a p c, e = zeros a ++ p ++ zeros c ∧ p.length ≤ w := by
  have hpre : e.take s = zeros (e.take s).length := eq_zeros _ fun i hi => by
    rw [List.getElem_take]
    refine Bool.eq_false_iff.2 fun hv => ?_
    have := (hwin i _ hv).1
    rw [List.length_take] at hi
    omega
  have hpost : (e.drop s).drop w = zeros ((e.drop s).drop w).length := eq_zeros _ fun i hi => by
    rw [List.getElem_drop, List.getElem_drop]
    refine Bool.eq_false_iff.2 fun hv => ?_
    have := (hwin _ _ hv).2
    omega
  refine ⟨(e.take s).length, (e.drop s).take w, ((e.drop s).drop w).length, ?_,
    by rw [List.length_take]; exact Nat.min_le_left _ _⟩
  rw [← hpre, ← hpost, List.append_assoc, List.take_append_drop, List.take_append_drop]

theorem burst_syndrome_ne_zero (a c : Nat) (p : List Bool) (hl : p.length ≤ 24) (hp : true ∈ p) :
    polyMod (zeros a ++ p ++ zeros c) ≠ 0#24 := by
  rw [polyMod_append_zeros, polyMod_zeros_append]
  exact stepN_ne_zero _ _ (polyMod_short_ne_zero p hl hp)

/-- the pattern `x^d + 1`: two errors `d` positions apart -/
def pair (d : Nat) : List Bool := true :: (zeros (d - 1) ++ [true])

theorem polyMod_pair (d : Nat) (h : 1 ≤ d) : polyMod (pair d) = stepN d 1#24 ^^^ 1#24 := by
  obtain ⟨k, rfl⟩ : ∃ k, d = k + 1 := ⟨d - 1, by omega⟩
  have e : pair (k + 1) = [true] ++ zeros k ++ [true] := rfl
  rw [e, polyMod_append, polyMod_append_zeros, stepN_add k 1]
  rfl

/-- none of the next `n` powers `r·x, r·x², …` (modulo `G`) is 1 -/
def orbitAvoidsOne : Nat → BitVec 24 → Bool
  | 0, _ => true
  | n + 1, r => step0 r != 1#24 && orbitAvoidsOne n (step0 r)

theorem stepN_ne_one (n : Nat) (r : BitVec 24) (h : orbitAvoidsOne n r = true) (d : Nat) (h1 : 1 ≤ d)
    (h2 : d ≤ n) : stepN d r ≠ 1#24 := by
  induction n generalizing r d with
  | zero => omega
  | succ n ih =>
    obtain ⟨k, rfl⟩ : ∃ k, d = k + 1 := ⟨d - 1, by omega⟩
    rw [orbitAvoidsOne, Bool.and_eq_true, bne_iff_ne] at h
    rw [stepN_succ]
    cases k with
    | zero => exact h.1
    | succ k => exact ih _ h.2 _ (by omega) (by omega)

/-- `x^d + 1` is not a multiple of the generator for d = 1 … 111: the powers of `x` modulo `G`
    (one pass of 111 register steps in the kernel) do not return to 1 -/
theorem pair_ne_zero (d : Nat) (h1 : 1 ≤ d) (h2 : d ≤ 111) : polyMod (pair d) ≠ 0#24 := by
  have h : orbitAvoidsOne 111 1#24 = true := by decide +kernel
  rw [polyMod_pair d h1, ne_eq, BitVec.xor_eq_zero_iff]
  exact stepN_ne_one 111 _ h d h1 h2
theorem double_syndrome_ne_zero (a d c : Nat) (h1 : 1 ≤ d) (h2 : d ≤ 111) :
    polyMod (zeros a ++ pair d ++ zeros c) ≠ 0#24 := by
  rw [polyMod_append_zeros, polyMod_zeros_append]
  exact stepN_ne_zero _ _ (pair_ne_zero d h1 h2)

theorem getElem?_zeros_true (a : Nat) (rest : List Bool) (k : Nat) :
    (zeros a ++ true :: rest)[k]? =
      if k < a then some false else if k = a then some true else rest[k - a - 1]? := by
  rw [List.getElem?_append, zeros_length]
  split
  · rw [zeros, List.getElem?_replicate, if_pos ‹_›]
  · split
    · subst k; rw [Nat.sub_self]; rfl
    · rw [show k - a = (k - a - 1) + 1 by omega]; rfl

theorem pair_length (d : Nat) (h : 1 ≤ d) : (pair d).length = d + 1 := by
  rw [pair, List.length_cons, List.length_append, zeros_length, List.length_singleton]
  omega

theorem double_length (i j : Nat) (hij : i < j) (hj : j < 112) :
    (zeros i ++ pair (j - i) ++ zeros (111 - j)).length = 112 := by
  rw [List.length_append, List.length_append, zeros_length, zeros_length, pair_length _ (by omega)]
  omega

theorem bitsN_length (n v : Nat) : (bitsN n v).length = n := by
  induction n with
  | zero => rfl
  | succ n ih => rw [bitsN, List.length_cons, ih]

theorem bits8_length (b : Nat) : (bits8 b).length = 8 := bitsN_length 8 b

theorem bits_length (bs : List Nat) : (bits bs).length = 8 * bs.length := by
  induction bs with
  | nil => rfl
  | cons b bs ih => rw [bits, List.length_append, bits8_length, ih, List.length_cons]; omega

theorem bits_append (xs ys : List Nat) : bits (xs ++ ys) = bits xs ++ bits ys := by
  induction xs with
  | nil => rfl
  | cons x xs ih => rw [List.cons_append, bits, bits, ih, List.append_assoc]

theorem bitsN_xor (n a b : Nat) : bitsN n (a ^^^ b) = xorBits (bitsN n a) (bitsN n b) := by
  induction n with
  | zero => rfl
  | succ n ih => rw [bitsN, bitsN, bitsN, xorBits, List.zipWith_cons_cons, Nat.testBit_xor, ih]; rfl

theorem valBE_bitsN (n v : Nat) : valBE (bitsN n v) = v % 2 ^ n := by
  induction n with
  | zero => simp [bitsN, valBE, Nat.mod_one]
  | succ n ih =>
    rw [bitsN, valBE_cons, ih, bitsN_length, Nat.toNat_testBit]
    have := Nat.mod_pow_succ (x := v) (b := 2) (k := n)
    rw [this, Nat.mul_comm]; omega

theorem valBE_inj : ∀ (xs ys : List Bool), xs.length = ys.length → valBE xs = valBE ys → xs = ys
  | [], [], _, _ => rfl
  | x :: xs, y :: ys, hl, hv => by
    have hl' : xs.length = ys.length := Nat.succ.inj hl
    have hx := valBE_lt xs
    have hy := valBE_lt ys
    rw [valBE_cons, valBE_cons, hl'] at hv
    rw [hl'] at hx
    generalize 2 ^ ys.length = p at hv hx hy
    cases x <;> cases y <;>
      simp only [Bool.toNat_false, Bool.toNat_true, Nat.zero_mul, Nat.one_mul, Nat.zero_add] at hv
    · rw [valBE_inj xs ys hl' hv]
    · omega
    · omega
    · rw [valBE_inj xs ys hl' (by omega)]

theorem bitsN_valBE (bs : List Bool) : bitsN bs.length (valBE bs) = bs :=
  valBE_inj _ _ (bitsN_length _ _) (by rw [valBE_bitsN, Nat.mod_eq_of_lt (valBE_lt bs)])

def Bytes (bs : List Nat) : Prop := ∀ b ∈ bs, b < 256

instance (bs : List Nat) : Decidable (Bytes bs) := by unfold Bytes; infer_instance

/-- a bit string on which `pack` takes its second branch has fewer than eight bits -/
theorem length_lt_eight (bs : List Bool)
    (hne : ∀ b7 b6 b5 b4 b3 b2 b1 b0 rest, bs = b7 :: b6 :: b5 :: b4 :: b3 :: b2 :: b1 :: b0 :: rest → False) :
    bs.length < 8 := by
  apply Nat.lt_of_not_le
  intro h
  have hl : (bs.take 8).length = 8 := by rw [List.length_take]; omega
  match hm : bs.take 8, hl with
  | [b7, b6, b5, b4, b3, b2, b1, b0], _ =>
    exact hne b7 b6 b5 b4 b3 b2 b1 b0 (bs.drop 8) ((List.take_append_drop 8 bs).symm.trans (by rw [hm]; rfl))

theorem bits_pack : ∀ (bs : List Bool), bs.length % 8 = 0 → bits (pack bs) = bs := by
  intro bs
  fun_induction pack bs with
  | case1 b7 b6 b5 b4 b3 b2 b1 b0 rest ih =>
    intro h
    have hr : rest.length % 8 = 0 := by simp only [List.length_cons] at h; omega
    rw [bits, ih hr]
    exact congrArg (· ++ rest) (bitsN_valBE [b7, b6, b5, b4, b3, b2, b1, b0])
  | case2 bs hne =>
    intro h
    have h0 : bs.length = 0 := by have := length_lt_eight bs hne; omega
    exact (List.eq_nil_of_length_eq_zero h0).symm

theorem pack_length (bs : List Bool) : (pack bs).length = bs.length / 8 := by
  fun_induction pack bs with
  | case1 b7 b6 b5 b4 b3 b2 b1 b0 rest ih => simp only [List.length_cons, ih]; omega
  | case2 bs hne => have := length_lt_eight bs hne; simp only [List.length_nil]; omega

theorem pack_bytes (bs : List Bool) : Bytes (pack bs) := by
  fun_induction pack bs with
  | case1 b7 b6 b5 b4 b3 b2 b1 b0 rest ih =>
    intro x hx
    rcases List.mem_cons.1 hx with rfl | hx
    · simpa using valBE_lt [b7, b6, b5, b4, b3, b2, b1, b0]
    · exact ih x hx
  | case2 bs hne => intro x hx; cases hx

theorem pack_append (a b : List Bool) (h : a.length % 8 = 0) : pack (a ++ b) = pack a ++ pack b := by
  fun_induction pack a with
  | case1 b7 b6 b5 b4 b3 b2 b1 b0 rest ih =>
    have hr : rest.length % 8 = 0 := by simp only [List.length_cons] at h; omega
    simp only [List.cons_append, pack, ih hr]
  | case2 bs hne =>
    have h0 : bs.length = 0 := by have := length_lt_eight bs hne; omega
    rw [List.eq_nil_of_length_eq_zero h0]
    rfl

end Rs1090.Proofs.Crc
