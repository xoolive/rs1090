/-
C14 — the two arithmetic schemes, United States (`n_reg`) and Japan (`ja_reg`): neither panics; what one returns is
well formed, comes from exactly one address (mixed-radix left inverse), and lies in a block whose national pattern
matches `N`, resp. `JA`.
-/
import Rs1090.Proofs.TailDefs
namespace Rs1090.Proofs.Tail
open Rs1090 Rs1090.Model.Tail Rs1090.Gen.Tail

theorem limited_len : LIMITED_ALPHABET.length = 24 := by decide

theorem nthL_bind {β} {i : Nat} (h : i < 24) (x : Outcome β) : (nthU LIMITED_ALPHABET i).bind (fun _ => x) = x :=
  nthU_bind (limited_len ▸ h) x

/-- the range gate of `n_reg` / `ja_reg`: past it, the wrapping subtraction is the plain one -/
theorem wsub32_lt {h b c : Nat} (hh : h < 4294967296) (hb : b < 4294967296) (hc : ¬ c ≤ wsub32 h b)
    (hcb : b + c ≤ 4294967296) : b ≤ h ∧ wsub32 h b = h - b := by
  unfold wsub32 at hc ⊢
  omega

theorem nLetter_spec (rem : Nat) (h : rem ≤ 24) :
    ∃ ls, nLetter rem = .ok ls ∧ (∀ l ∈ ls, l < 24) ∧ letterInv ls = rem := by
  unfold nLetter
  simp only [NL_ZERO, NL_DEC]
  split
  · rename_i h0
    exact ⟨[], rfl, nofun, h0 ▸ rfl⟩
  · simp (disch := omega) only [subU_ok, Outcome.bind_ok, nthL_bind]
    refine ⟨[rem - 1], rfl, ?_, ?_⟩
    · rw [List.forall_mem_singleton]; omega
    · simp only [letterInv, NL_DEC]; omega

theorem nLetters_spec (rem : Nat) (h : rem ≤ 600) :
    ∃ ls, nLetters rem = .ok ls ∧ (∀ l ∈ ls, l < 24) ∧ lettersInv ls = rem := by
  unfold nLetters
  simp only [NLS_ZERO, NLS_DEC, NLS_DIV, NLS_MOD]
  split
  · rename_i h0
    exact ⟨[], rfl, nofun, h0 ▸ rfl⟩
  · obtain ⟨l, e, hl, hi⟩ := nLetter_spec ((rem - 1) % 25) (by omega)
    simp (disch := omega) only [subU_ok, divU_ok, modU_ok, Outcome.bind_ok, nthL_bind, e]
    refine ⟨(rem - 1) / 25 :: l, rfl, ?_, ?_⟩
    · rw [List.forall_mem_cons]; exact ⟨by omega, hl⟩
    · simp only [lettersInv, hi, NLS_DIV, NLS_DEC]; omega

/-- one step down the tree of `n_reg`: drop the short forms, then the next digit and what is left -/
theorem level_bind {β} {s D d o : Nat} (h : o < D) (f : Nat → Nat → Outcome β) :
    ((subU (s + (d * D + o)) s).bind fun x => (divU x D).bind fun q => (modU x D).bind fun r => f q r) = f d o := by
  rw [subU_ok (Nat.le_add_right _ _), Outcome.bind_ok, Nat.add_sub_cancel_left, divU_radix h, Outcome.bind_ok,
    modU_radix h, Outcome.bind_ok]

theorem n_country : countryOkB N_BASE (N_BASE + N_COUNT - 1) ['N'] = true := by decide +kernel

/-- The decision tree of `n_reg` is walked once, one mixed-radix level at a time: the offset of a level is split into
    quotient and remainder as variables (`radix_split`), the tests passed so far bound them, so every checked
    operation up to the next test succeeds, and at a leaf the digits are below 10 and the sum `nInv` of the digits
    and letters is the offset again — all linear arithmetic. -/
theorem nReg_good (h : Nat) (hh : h < 2 ^ 32) : Good h (nReg h) := by
  unfold nReg
  simp only [N_COUNT, N_D1_DIV, N_D1_ADD, N_D1_MOD, N_L1_MAX, N_L1_SUB, N_D2_DIV, N_D2_MOD, N_L2_MAX,
    N_L2_SUB, N_D3_DIV, N_D3_MOD, N_L3_MAX, N_L3_SUB, N_D4_DIV, N_D4_MOD, N_L4_MAX, N_L4_SUB]
  split
  · exact good_none h
  · rename_i hc
    obtain ⟨hb, hoff⟩ := wsub32_lt (by omega) (by decide) hc (by decide)
    rw [hoff] at hc ⊢
    obtain ⟨off, rfl⟩ := Nat.exists_eq_add_of_le hb
    rw [Nat.add_sub_cancel_left] at hc ⊢
    have leaf : ∀ ds ls, (∀ d ∈ ds, d < 10) → (∀ l ∈ ls, l < 24) → nInv ds ls = off →
        Good (N_BASE + off) (.ok (some (.n ds ls))) := fun ds ls hd hl hi =>
      good_some ⟨⟨hd, limited_len ▸ hl⟩, congrArg (N_BASE + ·) hi,
        countryFact_of (r := .n ds ls) n_country hb (by simp only [N_COUNT]; omega)⟩
    obtain ⟨d1, o1, rfl, l1⟩ := radix_split off 101711 (by decide)
    rw [divU_radix l1, Outcome.bind_ok, addU_ok (by omega), Outcome.bind_ok, modU_radix l1, Outcome.bind_ok]
    by_cases h1 : o1 ≤ 600
    · rw [if_pos h1]
      obtain ⟨ls, e, hl, hi⟩ := nLetters_spec _ h1
      rw [e, Outcome.bind_ok]
      refine leaf _ _ ?_ hl ?_
      · simp only [List.mem_cons, List.not_mem_nil, or_false, forall_eq]; omega
      · simp only [nInv, hi, N_D1_ADD, N_D1_DIV]; omega
    · rw [if_neg h1]
      obtain ⟨x, rfl⟩ := Nat.exists_eq_add_of_le (Nat.lt_of_not_le h1)
      obtain ⟨d2, o2, rfl, l2⟩ := radix_split x 10111 (by decide)
      rw [level_bind l2]
      by_cases h2 : o2 ≤ 600
      · rw [if_pos h2]
        obtain ⟨ls, e, hl, hi⟩ := nLetters_spec _ h2
        rw [e, Outcome.bind_ok]
        refine leaf _ _ ?_ hl ?_
        · simp only [List.mem_cons, List.not_mem_nil, or_false, forall_eq_or_imp, forall_eq]; omega
        · simp only [nInv, hi, N_D1_ADD, N_D1_DIV, N_L1_SUB, N_D2_DIV]; omega
      · rw [if_neg h2]
        obtain ⟨x, rfl⟩ := Nat.exists_eq_add_of_le (Nat.lt_of_not_le h2)
        obtain ⟨d3, o3, rfl, l3⟩ := radix_split x 951 (by decide)
        rw [level_bind l3]
        by_cases h3 : o3 ≤ 600
        · rw [if_pos h3]
          obtain ⟨ls, e, hl, hi⟩ := nLetters_spec _ h3
          rw [e, Outcome.bind_ok]
          refine leaf _ _ ?_ hl ?_
          · simp only [List.mem_cons, List.not_mem_nil, or_false, forall_eq_or_imp, forall_eq]; omega
          · simp only [nInv, hi, N_D1_ADD, N_D1_DIV, N_L1_SUB, N_D2_DIV, N_L2_SUB, N_D3_DIV]; omega
        · rw [if_neg h3]
          obtain ⟨x, rfl⟩ := Nat.exists_eq_add_of_le (Nat.lt_of_not_le h3)
          obtain ⟨d4, o4, rfl, l4⟩ := radix_split x 35 (by decide)
          rw [level_bind l4]
          by_cases h4 : o4 ≤ 24
          · rw [if_pos h4]
            obtain ⟨ls, e, hl, hi⟩ := nLetter_spec _ h4
            rw [e, Outcome.bind_ok]
            refine leaf _ _ ?_ hl ?_
            · simp only [List.mem_cons, List.not_mem_nil, or_false, forall_eq_or_imp, forall_eq]; omega
            · simp only [nInv, hi, N_D1_ADD, N_D1_DIV, N_L1_SUB, N_D2_DIV, N_L2_SUB, N_D3_DIV, N_L3_SUB, N_D4_DIV]
              omega
          · rw [if_neg h4, subU_ok (by omega), Outcome.bind_ok]
            refine leaf _ _ ?_ nofun ?_
            · simp only [List.mem_cons, List.not_mem_nil, or_false, forall_eq_or_imp, forall_eq]; omega
            · simp only [nInv, N_D1_ADD, N_D1_DIV, N_L1_SUB, N_D2_DIV, N_L2_SUB, N_D3_DIV, N_L3_SUB, N_D4_DIV,
                N_L4_SUB]
              omega

theorem ja_country : countryOkB JA_BASE (JA_BASE + JA_COUNT - 1) ['J', 'A'] = true := by decide +kernel

/-- The same walk as for `n_reg`: one `radix_split` per level, linear arithmetic at the leaves. -/
theorem jaReg_good (h : Nat) (hh : h < 2 ^ 32) : Good h (jaReg h) := by
  unfold jaReg
  simp only [JA_COUNT, JA_D1_DIV, JA_D1_MAX, JA_D1_MOD, JA_D2_DIV, JA_D2_MAX, JA_D2_MOD, JA_SPLIT, JA_D3_DIV,
    JA_D3_MOD, JA_D4_LIM, JA_D4_SUB, JA_L_SUB, JA_L3_DIV, JA_L4_MOD]
  split
  · exact good_none h
  · rename_i hc
    obtain ⟨hb, hoff⟩ := wsub32_lt (by omega) (by decide) hc (by decide)
    rw [hoff] at hc ⊢
    obtain ⟨off, rfl⟩ := Nat.exists_eq_add_of_le hb
    rw [Nat.add_sub_cancel_left] at hc ⊢
    have leaf : ∀ ds ls, (∀ d ∈ ds, d < 10) → (∀ l ∈ ls, l < 24) → jaInv ds ls = off →
        Good (JA_BASE + off) (.ok (some (.ja ds ls))) := fun ds ls hd hl hi =>
      good_some ⟨⟨hd, limited_len ▸ hl⟩, congrArg (JA_BASE + ·) hi,
        countryFact_of (r := .ja ds ls) ja_country hb (by simp only [JA_COUNT]; omega)⟩
    obtain ⟨d1, o1, rfl, l1⟩ := radix_split off 22984 (by decide)
    rw [divU_radix l1, Outcome.bind_ok]
    split
    · exact good_none _
    · obtain ⟨d2, o2, rfl, l2⟩ := radix_split o1 916 (by decide)
      rw [modU_radix l1, Outcome.bind_ok, divU_radix l2, Outcome.bind_ok]
      split
      · exact good_none _
      · rw [modU_radix l2, Outcome.bind_ok]
        by_cases hs : o2 < 340
        · obtain ⟨d3, o3, rfl, l3⟩ := radix_split o2 34 (by decide)
          rw [if_pos hs, divU_radix l3, Outcome.bind_ok, modU_radix l3, Outcome.bind_ok]
          by_cases h4 : o3 < 10
          · rw [if_pos h4]
            refine leaf _ _ ?_ nofun ?_
            · simp only [List.mem_cons, List.not_mem_nil, or_false, forall_eq_or_imp, forall_eq]; omega
            · simp only [jaInv, JA_D1_DIV, JA_D2_DIV, JA_D3_DIV]; omega
          · rw [if_neg h4, subU_ok (by omega), Outcome.bind_ok, nthL_bind (by omega)]
            refine leaf _ _ ?_ ?_ ?_
            · simp only [List.mem_cons, List.not_mem_nil, or_false, forall_eq_or_imp, forall_eq]; omega
            · rw [List.forall_mem_singleton]; omega
            · simp only [jaInv, JA_D1_DIV, JA_D2_DIV, JA_D3_DIV, JA_D4_SUB]; omega
        · obtain ⟨x, rfl⟩ := Nat.exists_eq_add_of_le (Nat.le_of_not_lt hs)
          obtain ⟨l3, l4, rfl, hl4⟩ := radix_split x 24 (by decide)
          rw [if_neg hs, subU_ok (by omega), Outcome.bind_ok, Nat.add_sub_cancel_left, divU_radix hl4, Outcome.bind_ok,
            nthL_bind (by omega), modU_radix hl4, Outcome.bind_ok, nthL_bind hl4]
          refine leaf _ _ ?_ ?_ ?_
          · simp only [List.mem_cons, List.not_mem_nil, or_false, forall_eq_or_imp, forall_eq]; omega
          · simp only [List.mem_cons, List.not_mem_nil, or_false, forall_eq_or_imp, forall_eq]; omega
          · simp only [jaInv, JA_D1_DIV, JA_D2_DIV, JA_L_SUB, JA_L3_DIV]; omega

end Rs1090.Proofs.Tail
