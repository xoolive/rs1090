/-
Air-air surveillance replies (DF 0 / DF 16) and the all-call reply (DF 11).

  * `tryFrom_df0`  — `buildAir0`:  AC field at bit 19 behind VS / CC / SL / RI, address from the AP overlay
  * `tryFrom_df16` — `buildAir16`: the same head (VS, SL, RI are reported), any 56-bit MV field, AP overlay
  * `tryFrom_df11` — `buildAllCall`: capability and the ANNOUNCED address (bits 9–32), for every interrogator
                     code overlaid on the parity
-/
import Rs1090.Proofs.C03Commb
namespace Rs1090.Proofs.C03
open Rs1090 Rs1090.Model Rs1090.Spec.Encode Rs1090.Model.Message

theorem tryFrom_df0 (vs cc sl ri code addr alt : Nat)
    (hvs : vs < 2 ^ 1) (hcc : cc < 2 ^ 1) (hsl : sl < 2 ^ 3) (hri : ri < 2 ^ 4) (hcode : code < 2 ^ 13)
    (haddr : addr < 2 ^ 24) (halt : ac13 code = .ok alt) :
    tryFrom (buildAir0 vs cc sl ri code addr) = .ok (toDecoded (.ok
      [dfTag (key! "0"), fld (key! "altitude") (jnat alt), fld (key! "icao24") (jhex6 addr)])) := by
  refine tryFrom_encodeAP (airHeader0 vs cc sl ri code) 0 addr 7 _ rfl (by simp [width, airHeader0]) rfl ?_ haddr
    (by omega) ?_
  · simp [fits, airHeader0, hvs, hcc, hsl, hri, hcode]
  · intro F _ hlen hC
    simp only [Carries, airHeader0, Nat.reduceAdd] at hC
    simp (disch := decide) only [frame_run, dfBody, ac13Field, ↓wpOk_bits 14, ↓hC, halt, hlen]

theorem tryFrom_df16 (vs sl ri code addr alt : Nat) (mv : List Field)
    (hvs : vs < 2 ^ 1) (hsl : sl < 2 ^ 3) (hri : ri < 2 ^ 4) (hcode : code < 2 ^ 13) (haddr : addr < 2 ^ 24)
    (hw : width mv = 56) (hfit : fits mv = true) (halt : ac13 code = .ok alt) :
    tryFrom (buildAir16 vs sl ri code addr mv) = .ok (toDecoded (.ok
      [dfTag (key! "16"), fld (key! "vs") (jnat vs), fld (key! "sl") (jnat sl), fld (key! "ri") (jnat ri),
       fld (key! "altitude") (jnat alt), fld (key! "icao24") (jhex6 addr)])) := by
  refine tryFrom_long (airHeader16 vs sl ri code) mv 16 addr _ rfl rfl hw rfl
    (by simp [fits, airHeader16, hvs, hsl, hri, hcode]) hfit haddr (by decide) fun F hb hlen hbuf hC => ?_
  simp only [Carries, airHeader16, Nat.reduceAdd] at hC
  simp (disch := decide) only [frame_run, dfBody, ac13Field, ↓wpOk_mb F _ hb hlen hbuf, ↓hC, halt, hlen]

theorem tryFrom_df11 (ca aa ic : Nat) (hca : ca < 2 ^ 3) (haa : aa < 2 ^ 24) (hic : ic < 2 ^ 24) :
    tryFrom (buildAllCall ca aa ic) = .ok (toDecoded (.ok
      [dfTag (key! "11"), fld (key! "capability") (.lit (capabilityName ca)), fld (key! "icao24") (jhex6 aa)])) := by
  refine tryFrom_encodeAP [(5, 11), (3, ca), (24, aa)] 11 ic 7 _ rfl (by simp [width]) rfl ?_ hic (by omega) ?_
  · simp [fits, hca, haa]
  · intro F _ hlen hC
    simp only [Carries, Nat.reduceAdd] at hC
    simp only [frame_run, dfBody, ↓wpOk_bits 24 (by decide) F 32, ↓hC, hlen]

end Rs1090.Proofs.C03
