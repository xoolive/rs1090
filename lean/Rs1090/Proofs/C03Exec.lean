/-
Symbolic execution of the reader monad on a buffer whose content is known field by field.

`wpOk m Q s`: running `m` from `s` *succeeds* and the result satisfies `Q` (the `wp` of
`Proofs/Decode/Wp.lean` accepts errors; here they are excluded).  `Carries F p fs`: the buffer `F` holds the
Spec fields `fs` from bit `p` on, stated as what a reader sees — reading them in turn succeeds and returns their
values.  A reader is run by `simp` with the structural rules below and the unfolded `Carries` hypothesis, in
which every field of the layout is one rewrite rule at its literal bit offset.
-/
import Rs1090.Proofs.C03Bits
import Rs1090.Model.Decode.Message
namespace Rs1090.Proofs.C03
open Rs1090 Rs1090.Model Rs1090.Spec.Encode
open Rs1090.Spec.Crc (pack bitsN)
open Rs1090.Proofs.Crc (Bytes bits_length bits_append bits_pack bitsN_length valBE_bitsN)

def wpOk {α} (m : R α) (Q : α → Rd → Prop) (s : Rd) : Prop :=
  match m s with
  | .ok (a, s') => Q a s'
  | _ => False

theorem wpOk_iff {α} {m : R α} {Q : α → Rd → Prop} {s : Rd} :
    wpOk m Q s ↔ ∃ a s', m s = .ok (a, s') ∧ Q a s' := by
  unfold wpOk
  cases m s with
  | ok v => exact ⟨fun h => ⟨v.1, v.2, rfl, h⟩, fun ⟨_, _, e, h⟩ => by cases e; exact h⟩
  | err e => simp
  | panic x => simp

theorem wpOk_mono {α} {m : R α} {Q Q' : α → Rd → Prop} {s : Rd}
    (h : wpOk m Q s) (hq : ∀ a s', Q a s' → Q' a s') : wpOk m Q' s := by
  obtain ⟨a, s', hm, hQ⟩ := wpOk_iff.1 h
  exact wpOk_iff.2 ⟨a, s', hm, hq _ _ hQ⟩

/-- With this congruence rule `simp` rewrites the reader and the state of a `wpOk` goal but does not descend into
    the continuation `Q`; it gets there when a read rule hands the value over.  The rules of a run are given as
    `↓` rules (tried before the subterms are visited): a run is then one pass over the reader, where visiting `Q` at
    every step makes it quadratic. -/
@[congr] theorem wpOk_congr {α} {m m' : R α} {s s' : Rd} (Q : α → Rd → Prop) (hm : m = m') (hs : s = s') :
    wpOk m Q s = wpOk m' Q s' := by
  rw [hm, hs]

theorem wpOk_pure {α} (a : α) (Q : α → Rd → Prop) (s : Rd) : wpOk (pure a : R α) Q s ↔ Q a s := Iff.rfl

theorem wpOk_bind {α β} (m : R α) (f : α → R β) (Q : β → Rd → Prop) (s : Rd) :
    wpOk (m >>= f) Q s ↔ wpOk m (fun a s' => wpOk (f a) Q s') s := by
  show wpOk (R.bind m f) Q s ↔ _
  unfold wpOk R.bind
  cases m s with
  | ok v => cases v; simp
  | err e => simp
  | panic x => simp

theorem wpOk_fail {α} (e : ErrKind) (Q : α → Rd → Prop) (s : Rd) : wpOk (R.fail e : R α) Q s ↔ False := by
  simp [wpOk, R.fail]

theorem wpOk_lift_of {α} {o : Outcome α} {a : α} (ho : o = .ok a) (Q : α → Rd → Prop) (s : Rd) :
    wpOk (R.lift o) Q s ↔ Q a s := by
  rw [ho]; rfl

theorem wpOk_lift {α} (a : α) (Q : α → Rd → Prop) (s : Rd) : wpOk (R.lift (.ok a)) Q s ↔ Q a s :=
  wpOk_lift_of rfl Q s

theorem wpOk_ite {α} (c : Prop) [Decidable c] (a b : R α) (Q : α → Rd → Prop) (s : Rd) :
    wpOk (if c then a else b) Q s ↔ (c → wpOk a Q s) ∧ (¬ c → wpOk b Q s) := by
  by_cases h : c <;> simp [h]

abbrev st (F : List Nat) (p last nread : Nat) : Rd := { bytes := F, p := p, last := last, nread := nread }

theorem wpOk_bits (n : Nat) (hn : n ≠ 0) (F : List Nat) (p : Nat) (Q : Nat → Rd → Prop) (l r : Nat) :
    wpOk (bits n) Q (st F p l r) ↔
      ceilDiv8 (p + n) ≤ F.length ∧ Q (bitsBE F p n) (st F (p + n) (l + n) (r + n)) := by
  unfold wpOk bits
  have : (n == 0) = false := by simp [hn]
  simp only [this]
  by_cases hl : ceilDiv8 (p + n) ≤ F.length <;> simp [hl]

theorem wpOk_bitsLE (n : Nat) (hn : n ≠ 0) (F : List Nat) (p : Nat) (Q : Nat → Rd → Prop) (l r : Nat) :
    wpOk (bitsLE n) Q (st F p l r) ↔
      ceilDiv8 (p + n) ≤ F.length ∧ Q (leValue F p n) (st F (p + n) (l + n) (r + n)) := by
  unfold wpOk bitsLE
  have : (n == 0) = false := by simp [hn]
  simp only [this]
  by_cases hl : ceilDiv8 (p + n) ≤ F.length <;> simp [hl]

/-- an enum discriminant is a plain read after `last_bits_read_amt` has been reset -/
theorem wpOk_enumId (n : Nat) (Q : Nat → Rd → Prop) (F : List Nat) (p l r : Nat) :
    wpOk (enumId n) Q (st F p l r) ↔ wpOk (bits n) Q (st F p 0 r) := Iff.rfl

theorem wpOk_bits_zero (Q : Nat → Rd → Prop) (s : Rd) : wpOk (bits 0) Q s ↔ Q 0 s := Iff.rfl

theorem wpOk_seekLast (Q : Unit → Rd → Prop) (F : List Nat) (p l r : Nat) :
    wpOk seekLast Q (st F p l r) ↔
      ceilDiv8 l ≤ ceilDiv8 p ∧ Q () (st F (8 * (ceilDiv8 p - ceilDiv8 l)) l (r - l)) := by
  unfold wpOk seekLast
  by_cases h : ceilDiv8 l ≤ ceilDiv8 p <;> simp [h]

theorem wpOk_bytesN (F : List Nat) (hF : Bytes F) : ∀ (k : Nat) (Q : List Nat → Rd → Prop) (j l r : Nat),
    j + k ≤ F.length →
    (wpOk (bytesN k) Q (st F (8 * j) l r) ↔
      Q ((F.drop j).take k) (st F (8 * (j + k)) (l + 8 * k) (r + 8 * k)))
  | 0, Q, j, l, r, _ => by
    simp only [bytesN, wpOk_pure, List.take_zero, Nat.add_zero, Nat.mul_zero]
  | k + 1, Q, j, l, r, h => by
    have hj : j < F.length := by omega
    have h1 : ceilDiv8 (8 * j + 8) ≤ F.length := by unfold ceilDiv8; omega
    have e : (F.drop j).take (k + 1) = F.getD j 0 :: (F.drop (j + 1)).take k := by
      rw [List.drop_eq_getElem_cons hj, List.take_succ_cons, List.getD_eq_getElem?_getD,
        List.getElem?_eq_getElem hj, Option.getD_some]
    simp only [bytesN, wpOk_bind, wpOk_pure]
    rw [wpOk_bits 8 (by decide), bitsBE_byte F j hF hj, show 8 * j + 8 = 8 * (j + 1) by omega,
      wpOk_bytesN F hF k _ (j + 1) (l + 8) (r + 8) (by omega), e,
      show 8 * (j + 1 + k) = 8 * (j + (k + 1)) by omega, show l + 8 + 8 * k = l + 8 * (k + 1) by omega,
      show r + 8 + 8 * k = r + 8 * (k + 1) by omega]
    exact and_iff_right h1

/-- Unfolded along a literal layout (`simp only [Carries, …] at h`) this is one read rule per field, each at
    its literal offset, which `simp` then finds by matching instead of searching the layout. -/
def Carries (F : List Nat) : Nat → List Field → Prop
  | _, [] => True
  | p, (w, v) :: rest =>
    (∀ (Q : Nat → Rd → Prop) l r, wpOk (bits w) Q (st F p l r) ↔ Q v (st F (p + w) (l + w) (r + w))) ∧
    Carries F (p + w) rest

theorem carries_head {F : List Nat} {p w v : Nat} : ∀ {fs : List Field}, Carries F p fs → fieldAt fs 0 w = some v →
    ∀ (Q : Nat → Rd → Prop) l r, wpOk (bits w) Q (st F p l r) ↔ Q v (st F (p + w) (l + w) (r + w))
  | [], _, h => by cases h
  | (w', v') :: _, hC, h => by
    unfold fieldAt at h
    rw [if_pos rfl] at h
    split at h
    · next hw => cases h; subst hw; exact hC.1
    · cases h

theorem carries_append (F : List Nat) : ∀ (a b : List Field) (p : Nat),
    Carries F p (a ++ b) ↔ Carries F p a ∧ Carries F (p + width a) b
  | [], b, p => by simp [Carries, width]
  | (w, v) :: a, b, p => by
    simp only [List.cons_append, Carries, width, carries_append F a b (p + w), Nat.add_assoc, and_assoc]

theorem carries_of_bits (F : List Nat) : ∀ (fs : List Field) (p : Nat) (tail : List Bool),
    fits fs = true → (Spec.Crc.bits F).drop p = layout fs ++ tail → Carries F p fs
  | [], _, _, _, _ => trivial
  | (w, v) :: rest, p, tail, hf, h => by
    simp only [fits, Bool.and_eq_true, decide_eq_true_eq] at hf
    rw [layout, List.append_assoc] at h
    refine ⟨fun Q l r => ?_, carries_of_bits F rest (p + w) tail hf.2 ?_⟩
    · by_cases hw : w = 0
      · subst hw
        have hv : v = 0 := by have := hf.1; omega
        rw [hv]; exact wpOk_bits_zero Q _
      · have hlen : p + w ≤ (Spec.Crc.bits F).length := by
          have := congrArg List.length h
          simp only [List.length_drop, List.length_append, bitsN_length] at this
          omega
        have hval : bitsBE F p w = v := by
          rw [bitsBE_eq F p w hlen, h, List.take_append_of_le_length (Nat.le_of_eq (bitsN_length w v).symm),
            List.take_of_length_le (Nat.le_of_eq (bitsN_length w v)), valBE_bitsN, Nat.mod_eq_of_lt hf.1]
        rw [wpOk_bits w hw, hval]
        rw [bits_length] at hlen
        exact and_iff_right (by unfold ceilDiv8; omega)
    · rw [← List.drop_drop, h, List.drop_append_of_le_length (Nat.le_of_eq (bitsN_length w v).symm),
        List.drop_of_length_le (Nat.le_of_eq (bitsN_length w v)), List.nil_append]

theorem carries_pack (fs : List Field) (tail : List Nat) (h8 : width fs % 8 = 0) (hf : fits fs = true) :
    Carries (pack (layout fs) ++ tail) 0 fs :=
  carries_of_bits _ fs 0 (Spec.Crc.bits tail) hf (by
    rw [List.drop_zero, bits_append, bits_pack _ (by rw [layout_length]; exact h8)])

end Rs1090.Proofs.C03
