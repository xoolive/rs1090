/-
C15 helper lemmas: what the f64 code adds to the exact model of `decode_groundspeed` / `decode_track`.
-/
import Rs1090.Proofs.FlarmTrack
import Rs1090.Proofs.F64Wrap
import Mathlib.Tactic.Linarith
import Mathlib.Tactic.Ring
import Mathlib.Tactic.NormNum
namespace Rs1090.Proofs.Flarm
open Rs1090 Rs1090.Model.Flarm Rs1090.Gen.Flarm
open Rs1090.Proofs.CprFloat Rs1090.Proofs.IeeeRound Rs1090.Proofs.F64Wrap

/-- hypothesis on the `sqrt` parameter (asked only on the range the decoder uses, `0 ≤ x ≤ 2·96²`): the result
    is non-negative and its square exceeds `x` by at most 1.  True of the real square root, and of the correctly
    rounded binary64 one (`s² ≤ x(1 + 2⁻⁵³)² ≤ x + 10⁻¹¹` there). -/
def SqrtSound (sqrt : Rat → Rat) : Prop := ∀ x, 0 ≤ x → x ≤ 18432 → 0 ≤ sqrt x ∧ sqrt x * sqrt x ≤ x + 1

theorem SqrtSound.le {sqrt : Rat → Rat} (h : SqrtSound sqrt) {x : Rat} (h0 : 0 ≤ x) (h1 : x ≤ 18432) :
    0 ≤ sqrt x ∧ sqrt x ≤ 136 := by
  obtain ⟨a, b⟩ := h x h0 h1
  refine ⟨a, ?_⟩
  by_contra hc
  have hc := not_le.mp hc
  nlinarith

/-- a velocity component (`i8 × mult`, `mult ≤ 3`) -/
@[reducible] def VelOk (p : Int × Int) : Prop := (-384 ≤ p.1 ∧ p.1 ≤ 381) ∧ (-384 ≤ p.2 ∧ p.2 ≤ 381)

theorem sq_quarter_bound (n : Int) (h1 : -384 ≤ n) (h2 : n ≤ 381) :
    0 ≤ (n : Rat) / 4 * ((n : Rat) / 4) ∧ (n : Rat) / 4 * ((n : Rat) / 4) ≤ 9216 := by
  have a : (-384 : Rat) ≤ (n : Rat) := by exact_mod_cast h1
  have b : (n : Rat) ≤ 381 := by exact_mod_cast h2
  constructor
  · exact mul_self_nonneg _
  · nlinarith

theorem zip_velOk (ns ew : List Int) (hb : ∀ x ∈ ns ++ ew, -384 ≤ x ∧ x ≤ 381) :
    ∀ p ∈ ns.zip ew, VelOk p := by
  intro p hp
  obtain ⟨a, b⟩ := List.of_mem_zip (a := p.1) (b := p.2) hp
  exact ⟨hb _ (by simp [a]), hb _ (by simp [b])⟩

/-- one step of `decode_groundspeed` in f64: `n as f64 / 4.0`, `e as f64 / 4.0`, two products, a sum, `sqrt`
    (the parameter: its result is a binary64 value already), the running sum -/
def fGsStep (fl sqrt : Rat → Rat) (acc : Rat) (p : Int × Int) : Rat :=
  let a := fl ((p.1 : Rat) / 4)
  let b := fl ((p.2 : Rat) / 4)
  fl (acc + sqrt (fl (fl (a * a) + fl (b * b))))

/-- `decode_groundspeed` in f64 -/
def fGroundspeed (fl sqrt : Rat → Rat) (ns ew : List Int) : Rat :=
  fl ((ns.zip ew).foldl (fGsStep fl sqrt) 0 / 4)

/-- the model's exact ground speed is the rounded one with no rounding (the generated divisors
    `SPEED_COMP_DIV_NS`, `SPEED_COMP_DIV_EW`, `SPEED_MEAN_DIV` are the literals `4.` of `fGsStep`, `fGroundspeed`) -/
theorem groundspeed_eq_fGroundspeed (F : FloatOps) (ns ew : List Int) :
    groundspeed F ns ew = fGroundspeed id F.sqrt ns ew := rfl

theorem fe0 : F64Exact (0 : Rat) := f64exact_of_int 0 (by norm_num) (by norm_num)
theorem fe9216 : F64Exact (9216 : Rat) := f64exact_of_int 9216 (by norm_num) (by norm_num)
theorem fe18432 : F64Exact (18432 : Rat) := f64exact_of_int 18432 (by norm_num) (by norm_num)
theorem fe136 : F64Exact (136 : Rat) := f64exact_of_int 136 (by norm_num) (by norm_num)

/-- `n as f64 / 4.0` is exact for a velocity component -/
theorem fl_quarter_exact {fl : Rat → Rat} (R : Rounding fl) (n : Int) (h1 : -384 ≤ n) (h2 : n ≤ 381) :
    fl ((n : Rat) / 4) = (n : Rat) / 4 := by
  have h := f64exact_div_pow n 2 (by norm_num) (abs_lt.mpr ⟨by omega, by omega⟩)
  norm_num at h
  exact R.exact _ h

theorem fGsStep_bound {fl sqrt : Rat → Rat} (R : Rounding fl) (hs : SqrtSound sqrt) (k : Nat) (hk : k < 1000)
    (acc : Rat) (p : Int × Int) (hp : VelOk p) (h0 : 0 ≤ acc) (h1 : acc ≤ ((136 * k : Nat) : Rat)) :
    0 ≤ fGsStep fl sqrt acc p ∧ fGsStep fl sqrt acc p ≤ ((136 * (k + 1) : Nat) : Rat) := by
  unfold fGsStep
  simp only [fl_quarter_exact R p.1 hp.1.1 hp.1.2, fl_quarter_exact R p.2 hp.2.1 hp.2.2]
  have a := sq_quarter_bound p.1 hp.1.1 hp.1.2
  have b := sq_quarter_bound p.2 hp.2.1 hp.2.2
  generalize (p.1 : Rat) / 4 * ((p.1 : Rat) / 4) = A at a ⊢
  generalize (p.2 : Rat) / 4 * ((p.2 : Rat) / 4) = B at b ⊢
  have a' := R.between fe0 fe9216 a.1 a.2
  have b' := R.between fe0 fe9216 b.1 b.2
  have c' := R.between (x := fl A + fl B) fe0 fe18432 (by linarith [a'.1, b'.1]) (by linarith [a'.2, b'.2])
  have s := hs.le c'.1 c'.2
  exact R.between (x := acc + sqrt (fl (fl A + fl B))) fe0 (f64exact_natCast _ (by omega)) (by linarith [s.1])
    (by push_cast at h1 ⊢; linarith [s.2])

theorem fGsFold_bound {fl sqrt : Rat → Rat} (R : Rounding fl) (hs : SqrtSound sqrt) :
    ∀ (l : List (Int × Int)) (k : Nat) (acc : Rat), k + l.length < 1000 → (∀ p ∈ l, VelOk p) →
      0 ≤ acc → acc ≤ ((136 * k : Nat) : Rat) →
      0 ≤ l.foldl (fGsStep fl sqrt) acc ∧ l.foldl (fGsStep fl sqrt) acc ≤ ((136 * (k + l.length) : Nat) : Rat) := by
  intro l
  induction l with
  | nil => intro k acc _ _ h0 h1; exact ⟨h0, by simpa using h1⟩
  | cons p l ih =>
    intro k acc hk h h0 h1
    simp only [List.length_cons] at hk
    have s := fGsStep_bound R hs k (by omega) acc p (h p (by simp)) h0 h1
    have := ih (k + 1) (fGsStep fl sqrt acc p) (by omega) (fun q hq => h q (by simp [hq])) s.1 s.2
    simp only [List.foldl_cons, List.length_cons]
    rw [show k + (l.length + 1) = k + 1 + l.length by omega]
    exact this

/-- every intermediate is in `[0, 18432]`, for every rounding satisfying `Rounding` (IEEE-754: `rounding_fl64`):
    nothing overflows, no NaN arises (the argument of `sqrt` is `≥ 0`) -/
theorem fGroundspeed_bounds {fl sqrt : Rat → Rat} (R : Rounding fl) (hs : SqrtSound sqrt) (ns ew : List Int)
    (hl : ns.length = 4) (hb : ∀ x ∈ ns ++ ew, -384 ≤ x ∧ x ≤ 381) :
    0 ≤ fGroundspeed fl sqrt ns ew ∧ fGroundspeed fl sqrt ns ew ≤ 136 := by
  unfold fGroundspeed
  have hlen : (ns.zip ew).length ≤ 4 := by rw [List.length_zip, hl]; exact Nat.min_le_left _ _
  have h := fGsFold_bound R hs (ns.zip ew) 0 0 (by omega) (zip_velOk ns ew hb) le_rfl (by simp)
  have hle : (((136 * (0 + (ns.zip ew).length) : Nat)) : Rat) ≤ 544 := by
    have : 136 * (0 + (ns.zip ew).length) ≤ 544 := by omega
    exact_mod_cast this
  exact R.between (x := (ns.zip ew).foldl (fGsStep fl sqrt) 0 / 4) fe0 fe136
    (by apply div_nonneg; exact h.1; norm_num)
    (by rw [div_le_iff₀ (by norm_num)]; linarith [h.2])

/-- the model's exact ground speed is the case of no rounding -/
theorem groundspeed_bounds (F : FloatOps) (hs : SqrtSound F.sqrt) (ns ew : List Int)
    (hl : ns.length = 4) (hb : ∀ x ∈ ns ++ ew, -384 ≤ x ∧ x ≤ 381) :
    0 ≤ groundspeed F ns ew ∧ groundspeed F ns ew ≤ 136 := by
  rw [groundspeed_eq_fGroundspeed]
  exact fGroundspeed_bounds rounding_id hs ns ew hl hb

/-- `SqrtSound` is satisfiable: the integer square root of the integer part -/
def isqrt (x : Rat) : Rat := ((Nat.sqrt x.floor.toNat : Nat) : Rat)

theorem isqrt_sound : SqrtSound isqrt := by
  intro x h0 _
  unfold isqrt
  refine ⟨by positivity, ?_⟩
  have hf : 0 ≤ x.floor := Rat.le_floor_iff.mpr (by exact_mod_cast h0)
  have h1 : Nat.sqrt x.floor.toNat * Nat.sqrt x.floor.toNat ≤ x.floor.toNat := Nat.sqrt_le _
  have h2 : ((x.floor.toNat : Nat) : Rat) ≤ x := by
    rw [← Int.cast_natCast, Int.toNat_of_nonneg hf]; exact Rat.floor_le x
  have h3 : (((Nat.sqrt x.floor.toNat * Nat.sqrt x.floor.toNat : Nat)) : Rat) ≤ ((x.floor.toNat : Nat) : Rat) := by
    exact_mod_cast h1
  push_cast at h3
  linarith

/-- the last two statements of `decode_track` in binary64: `track.rem_euclid(360.)` (fmod exact, the addition
    `r + 360.` rounded to nearest-even) followed by `if track >= 360. { 0. }` is in `[0, 360)` for EVERY `track` -/
theorem wrapR_ieee (t : Rat) : 0 ≤ wrapR fl64 t ∧ wrapR fl64 t < 360 :=
  wrapR_range fl64 (fun _ _ h => fl64_mono h) fl64_zero fl64_360 t

/-- std's `rem_euclid` returns exactly 360.0 iff the truncated remainder is in `[−2⁻⁴⁵, 0)` -/
theorem remEuclidR_ieee_eq_360_iff (t : Rat) :
    remEuclidR fl64 t 360 = 360 ↔ (-(1 / 2 ^ 45) ≤ fmodPos t 360 ∧ fmodPos t 360 < 0) := by
  unfold remEuclidR
  have h := fmodPos_range t 360 (by norm_num)
  simp only
  split
  · rename_i hneg
    rw [wrap360_eq_iff (le_of_lt hneg)]
    exact ⟨fun a => ⟨a, hneg⟩, fun a => a.1⟩
  · rename_i hpos
    constructor
    · intro e; linarith [h.2]
    · intro a; exact absurd a.2 hpos

/-- … and it is reached, by IEEE rounding itself (not by an artificial one): `track = −2⁻⁴⁶` -/
theorem remEuclidR_ieee_corner :
    remEuclidR fl64 (-(1 / 2 ^ 46)) 360 = 360 ∧ wrapR fl64 (-(1 / 2 ^ 46)) = 0 := by
  have hf : fmodPos (-(1 / 2 ^ 46)) 360 = -(1 / 2 ^ 46) := by decide +kernel
  have h1 : remEuclidR fl64 (-(1 / 2 ^ 46)) 360 = 360 :=
    (remEuclidR_ieee_eq_360_iff _).mpr (by rw [hf]; constructor <;> norm_num)
  refine ⟨h1, ?_⟩
  unfold wrapR
  simp only [WRAP_FULL, WRAP_CORNER, WRAP_CORNER_VALUE, Nat.cast_ofNat, Nat.cast_zero]
  rw [h1, if_pos (le_refl _)]

end Rs1090.Proofs.Flarm
