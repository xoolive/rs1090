/-
For Props/C09.lean: a pure view of `next_msg`'s re-framing loop on the not yet consumed suffix of the buffer
(`scan`, `iter`, `F`), equal to the checked model of `Model/Beast.lean` (`iterO_eq`, `stepO_eq`, `runO_eq`), so
that the loop neither panics nor runs out of fuel.  An iteration that does not `break` is the same on a longer
buffer (`iter_cont`); from this `F_append`: running the loop, appending and running again is running it once on
the whole, hence `F_idem` and `run_eq_F` (the frames handed on do not depend on how the stream is cut in chunks).

The literals are the generated constants of `Gen/Beast.lean`: 26 is `ESC_SYNC` in `position 26`, `ESC_DATA` in
the first test of `scan` and `ESC_NEXT` in the second; 23 is `LOOKAHEAD_RESYNC` in `iter` and `LOOKAHEAD` in `F`;
52 is `DROPPED_TYPE`; the 2 at which `scan` starts is `SCAN_START`.  `iterO_eq` and `loopO_eq` check that.
-/
import Rs1090.Model.Beast
namespace Rs1090.Proofs.Beast
open Rs1090 Rs1090.Model.Beast Rs1090.Gen.Beast

/-- the un-escape loop seen on the not yet scanned suffix `data[idx..]` -/
def scan (size : Nat) : Bytes → Bytes → Nat → Bytes × Nat
  | [], msg, i => (msg, i)
  | b :: rest, msg, i =>
    if msg.length < size then
      if b = 26 then
        match rest with
        | [] => (msg, i)
        | c :: rest' =>
          if c = 26 then scan size rest' (msg ++ [c]) (i + 1 + 1)
          else scan size (c :: rest') (msg ++ [b]) (i + 1)
      else scan size rest (msg ++ [b]) (i + 1)
    else (msg, i)

/-- the iteration after the resync: the buffer starts at the 0x1A and has at least 23 bytes -/
def iterTail : Bytes → Iter
  | b :: t :: r =>
    if VALID_TYPES.contains t then
      let s := scan (msgSize t) r [b, t] 2
      if s.1.length < msgSize t then .brk (b :: t :: r)
      else .cont ((b :: t :: r).drop s.2) (if t ≠ 52 then some s.1 else none)
    else .cont (t :: r) none
  | d => .brk d

def iter (d : Bytes) : Iter :=
  match position 26 d with
  | none => .brk d
  | some it => if (d.drop it).length < 23 then .brk (d.drop it) else iterTail (d.drop it)

theorem position_eq_some {e : Nat} : ∀ {d : Bytes} {it : Nat},
    position e d = some it ↔ ∃ pre rest, d = pre ++ e :: rest ∧ e ∉ pre ∧ it = pre.length
  | [], it => by simp [position]
  | b :: d, it => by
    by_cases hb : b = e
    · rw [position, if_pos hb]
      constructor
      · rintro ⟨⟩; exact ⟨[], d, by rw [hb]; rfl, List.not_mem_nil, rfl⟩
      · rintro ⟨pre, rest, h, hn, rfl⟩
        cases pre with
        | nil => rfl
        | cons p pre => exact absurd ((List.cons.inj h).1 ▸ hb ▸ List.mem_cons_self) hn
    · rw [position, if_neg hb, Option.map_eq_some_iff]
      constructor
      · rintro ⟨j, hj, rfl⟩
        obtain ⟨pre, rest, rfl, hn, rfl⟩ := position_eq_some.mp hj
        exact ⟨b :: pre, rest, rfl, fun h => (List.mem_cons.mp h).elim (fun h => hb h.symm) hn, rfl⟩
      · rintro ⟨pre, rest, h, hn, rfl⟩
        cases pre with
        | nil => exact absurd (List.cons.inj h).1 hb
        | cons p pre =>
          exact ⟨pre.length, position_eq_some.mpr
            ⟨pre, rest, (List.cons.inj h).2, fun h' => hn (List.mem_cons_of_mem _ h'), rfl⟩, rfl⟩

theorem scan_idx_le (sz : Nat) (rest msg : Bytes) (i : Nat) :
    (scan sz rest msg i).2 ≤ i + rest.length ∧ i ≤ (scan sz rest msg i).2 := by
  fun_induction scan sz rest msg i <;> simp_all <;> omega

theorem scan_nil (sz : Nat) (msg : Bytes) (i : Nat) : scan sz [] msg i = (msg, i) := by
  simp [scan]
theorem scan_full {sz : Nat} {msg : Bytes} (rest : Bytes) (i : Nat) (h : ¬ msg.length < sz) :
    scan sz rest msg i = (msg, i) := by
  cases rest with
  | nil => simp [scan]
  | cons b r => rw [scan.eq_def]; simp [h]
theorem scan_esc_end {sz : Nat} {msg : Bytes} (i : Nat) (h : msg.length < sz) :
    scan sz [26] msg i = (msg, i) := by
  rw [scan.eq_def]; simp [h]
theorem scan_esc_esc {sz : Nat} {msg : Bytes} (r : Bytes) (i : Nat) (h : msg.length < sz) :
    scan sz (26 :: 26 :: r) msg i = scan sz r (msg ++ [26]) (i + 1 + 1) := by
  rw [scan.eq_def]; simp [h]
theorem scan_esc_other {sz : Nat} {msg : Bytes} {c : Nat} (r : Bytes) (i : Nat) (h : msg.length < sz)
    (hc : ¬ c = 26) : scan sz (26 :: c :: r) msg i = scan sz (c :: r) (msg ++ [26]) (i + 1) := by
  rw [scan.eq_def]; simp [h, hc]
theorem scan_plain {sz : Nat} {msg : Bytes} {b : Nat} (r : Bytes) (i : Nat) (h : msg.length < sz)
    (hb : ¬ b = 26) : scan sz (b :: r) msg i = scan sz r (msg ++ [b]) (i + 1) := by
  rw [scan.eq_def]; simp [h, hb]

theorem scan_complete_append (sz : Nat) (rest msg : Bytes) (i : Nat) (x : Bytes)
    (h : sz ≤ (scan sz rest msg i).1.length) :
    scan sz (rest ++ x) msg i = scan sz rest msg i := by
  fun_induction scan sz rest msg i with
  | case1 msg i => exact scan_full _ _ (by simp at h; omega)
  | case2 msg i hlt => simp at h; omega
  | case3 msg i hlt r ih => simp only [List.cons_append]; rw [scan_esc_esc _ _ hlt]; exact ih h
  | case4 msg i hlt c r hc ih =>
    simp only [List.cons_append] at ih ⊢; rw [scan_esc_other _ _ hlt hc]; exact ih h
  | case5 b r msg i hlt hb ih => simp only [List.cons_append]; rw [scan_plain _ _ hlt hb]; exact ih h
  | case6 b r msg i hlt => exact scan_full _ _ hlt

theorem scan_msg_le (sz : Nat) (rest msg : Bytes) (i : Nat) :
    msg.length ≤ (scan sz rest msg i).1.length := by
  fun_induction scan sz rest msg i <;> simp_all <;> omega

theorem iter_sync {pre : Bytes} (r : Bytes) (h : 26 ∉ pre) :
    iter (pre ++ 26 :: r) =
      if (26 :: r).length < 23 then .brk (26 :: r) else iterTail (26 :: r) := by
  rw [iter, position_eq_some.mpr ⟨pre, r, rfl, h, rfl⟩]
  simp only [List.drop_left]

theorem iter_cases (d : Bytes) : iter d = .brk d ∨ ∃ pre r, 26 ∉ pre ∧ d = pre ++ 26 :: r := by
  cases hp : position 26 d with
  | none => exact .inl (by rw [iter, hp])
  | some it =>
    obtain ⟨pre, r, rfl, h, -⟩ := position_eq_some.mp hp
    exact .inr ⟨pre, r, h, rfl⟩

theorem exists_cons_of_long {b : Nat} {r : Bytes} (h : ¬ (b :: r).length < 23) :
    ∃ t r', r = t :: r' := by
  cases r with
  | nil => exact absurd (by simp : [b].length < 23) h
  | cons t r => exact ⟨t, r, rfl⟩

theorem iterTail_brk : ∀ {e d' : Bytes}, iterTail e = .brk d' → d' = e
  | b :: t :: r, d', h => by
    rw [iterTail] at h
    by_cases hv : VALID_TYPES.contains t = true
    · rw [if_pos hv] at h
      by_cases hc : (scan (msgSize t) r [b, t] 2).1.length < msgSize t
      · rw [if_pos hc] at h; injection h with h; exact h.symm
      · rw [if_neg hc] at h; cases h
    · rw [if_neg hv] at h; cases h
  | [], _, h | [_], _, h => by injection h with h; exact h.symm

theorem iterTail_cont {b t : Nat} {r d' : Bytes} {o : Option Bytes}
    (h : iterTail (b :: t :: r) = .cont d' o) :
    d'.length < (b :: t :: r).length ∧
    ∀ x, iterTail (b :: t :: r ++ x) = .cont (d' ++ x) o := by
  rw [iterTail] at h
  simp only [List.cons_append, iterTail]
  by_cases hv : VALID_TYPES.contains t = true
  · rw [if_pos hv] at h
    by_cases hc : (scan (msgSize t) r [b, t] 2).1.length < msgSize t
    · rw [if_pos hc] at h; cases h
    · rw [if_neg hc] at h
      obtain ⟨rfl, rfl⟩ := Iter.cont.inj h
      have hle := scan_idx_le (msgSize t) r [b, t] 2
      refine ⟨by simp only [List.length_drop, List.length_cons]; omega, fun x => ?_⟩
      rw [if_pos hv, scan_complete_append _ _ _ _ x (Nat.le_of_not_lt hc), if_neg hc,
        ← List.cons_append, ← List.cons_append,
        List.drop_append_of_le_length (by simp only [List.length_cons]; omega)]
  · rw [if_neg hv] at h
    obtain ⟨rfl, rfl⟩ := Iter.cont.inj h
    exact ⟨Nat.lt_succ_self _, fun x => by rw [if_neg hv]; rfl⟩

theorem iter_cont {d d' : Bytes} {o : Option Bytes} (h : iter d = .cont d' o) :
    d'.length < d.length ∧ ∀ x, iter (d ++ x) = .cont (d' ++ x) o := by
  rcases iter_cases d with h1 | ⟨pre, r, hpre, rfl⟩
  · rw [h1] at h; cases h
  · rw [iter_sync r hpre] at h
    split at h
    · cases h
    · rename_i h23
      obtain ⟨t, r, rfl⟩ := exists_cons_of_long h23
      obtain ⟨hlt, happ⟩ := iterTail_cont h
      refine ⟨by rw [List.length_append]; omega, fun x => ?_⟩
      rw [List.append_assoc, List.cons_append, iter_sync _ hpre,
        if_neg (by simp only [List.length_cons, List.length_append] at h23 ⊢; omega)]
      exact happ x

theorem drop_eq_cons {d : Bytes} {i b : Nat} {rest : Bytes} (h : d.drop i = b :: rest) :
    d[i]? = some b ∧ d.drop (i + 1) = rest ∧ i < d.length := by
  have h1 : (d.drop i)[0]? = some b := by rw [h]; rfl
  rw [List.getElem?_drop] at h1
  have h2 : (d.drop i).drop 1 = rest := by rw [h]; rfl
  rw [List.drop_drop] at h2
  refine ⟨by simpa using h1, by simpa [Nat.add_comm] using h2, ?_⟩
  rcases Nat.lt_or_ge i d.length with hc | hc
  · exact hc
  · rw [List.drop_eq_nil_of_le hc] at h
    cases h

theorem idx_ok {d : Bytes} {i b : Nat} (h : d[i]? = some b) : idx d i = .ok b := by
  simp [idx, h]

theorem scanO_eq (sz : Nat) (data : Bytes) : ∀ (fuel : Nat) (msg : Bytes) (i : Nat),
    data.length - i < fuel →
    scanO sz data fuel msg i = .ok (scan sz (data.drop i) msg i) := by
  intro fuel
  induction fuel with
  | zero => intro msg i h; omega
  | succ fuel ih =>
    intro msg i hf
    rw [scanO]
    cases hd : data.drop i with
    | nil =>
      have : data.length ≤ i := List.drop_eq_nil_iff.mp hd
      rw [if_neg (by omega), scan_nil]
    | cons b rest =>
      obtain ⟨hb, hr, hlt⟩ := drop_eq_cons hd
      by_cases hm : msg.length < sz
      · rw [if_pos ⟨hm, hlt⟩, idx_ok hb, Outcome.bind_ok]
        by_cases hb26 : b = 26
        · subst hb26
          rw [if_pos (by rfl)]
          cases rest with
          | nil =>
            have : data[i + 1]? = none := by
              have := List.drop_eq_nil_iff.mp hr
              exact List.getElem?_eq_none this
            rw [this, scan_esc_end _ hm]
          | cons c rest' =>
            obtain ⟨hc, hr', hlt'⟩ := drop_eq_cons hr
            rw [hc]
            simp only
            by_cases hc26 : c = 26
            · subst hc26
              rw [if_pos (by rfl), idx_ok hc, Outcome.bind_ok, ih _ _ (by omega), hr',
                scan_esc_esc _ _ hm]
            · rw [if_neg (by simpa [ESC_NEXT] using hc26), ih _ _ (by omega), hr,
                scan_esc_other _ _ hm hc26]
        · rw [if_neg (by simpa [ESC_DATA] using hb26), ih _ _ (by omega), hr,
            scan_plain _ _ hm hb26]
      · rw [if_neg (by intro h; exact hm h.1), scan_full _ _ hm]

theorem iterO_eq (d : Bytes) : iterO d = .ok (iter d) := by
  unfold iterO
  rw [show ESC_SYNC = 26 from rfl]
  cases hp : position 26 d with
  | none => rw [iter, hp]
  | some it =>
    obtain ⟨pre, r, rfl, hpre, rfl⟩ := position_eq_some.mp hp
    simp only
    rw [iter_sync r hpre, splitOff, if_pos (by simp), Outcome.bind_ok, List.drop_left]
    by_cases he : (26 :: r).length < 23
    · rw [if_pos he]; exact if_pos he
    · rw [if_neg he]
      refine (if_neg he).trans ?_
      obtain ⟨t, r, rfl⟩ := exists_cons_of_long he
      show (if VALID_TYPES.contains t then _ else _) = _
      rw [iterTail]
      cases hv : VALID_TYPES.contains t with
      | false => rfl
      | true =>
        have hle := (scan_idx_le (msgSize t) r [26, t] 2).1
        simp only [if_true]
        rw [sliceTo, if_pos (by simp [HEADER_LEN]), Outcome.bind_ok,
          scanO_eq _ _ _ _ _ (by simp only [List.length_cons, SCAN_START]; omega)]
        show (if (scan (msgSize t) r [26, t] 2).1.length < msgSize t then _ else _) = _
        split
        · rfl
        · rw [drainTo, if_pos]
          · rfl
          · exact Nat.le_trans hle (by simp only [List.length_cons]; omega)

/-- the while loop on a buffer: remaining buffer and frames handed on -/
def F (d : Bytes) : Bytes × List Bytes :=
  if d.length < 23 then (d, []) else
    match _ : iter d with
    | .brk d' => (d', [])
    | .cont d' o => ((F d').1, o.toList ++ (F d').2)
termination_by d.length
decreasing_by all_goals exact (iter_cont ‹_›).1

def run : Bytes → List Bytes → Bytes × List Bytes
  | buf, [] => (buf, [])
  | buf, c :: cs => ((run (F (buf ++ c)).1 cs).1, (F (buf ++ c)).2 ++ (run (F (buf ++ c)).1 cs).2)

theorem F_unfold (d : Bytes) :
    F d = if d.length < 23 then (d, []) else
      match iter d with
      | .brk d' => (d', [])
      | .cont d' o => ((F d').1, o.toList ++ (F d').2) := by
  rw [F]
  split
  · rfl
  · split <;> simp_all

theorem F_short {d : Bytes} (h : d.length < 23) : F d = (d, []) := by
  rw [F_unfold, if_pos h]

theorem F_nil : F [] = ([], []) := F_short (by simp)

theorem loopO_eq : ∀ (fuel : Nat) (d : Bytes) (acc : List Bytes), d.length < fuel →
    loopO fuel d acc = .ok ((F d).1, acc ++ (F d).2) := by
  intro fuel
  induction fuel with
  | zero => intro d acc h; omega
  | succ fuel ih =>
    intro d acc h
    rw [loopO, F_unfold]
    by_cases h23 : d.length < 23
    · rw [if_neg (by simpa [LOOKAHEAD] using h23), if_pos h23]; simp
    · rw [if_pos (by simpa [LOOKAHEAD] using h23), if_neg h23, iterO_eq, Outcome.bind_ok]
      cases hi : iter d with
      | brk d' => simp
      | cont d' o =>
        have := (iter_cont hi).1
        simp only
        rw [ih d' _ (by omega)]
        simp [List.append_assoc]

theorem stepO_eq (buf chunk : Bytes) : stepO buf chunk = .ok (F (buf ++ chunk)) := by
  unfold stepO
  simp only
  rw [loopO_eq _ _ _ (Nat.lt_succ_self _)]
  simp

theorem runO_eq : ∀ (cs : List Bytes) (buf : Bytes) (acc : List Bytes),
    runO buf cs acc = .ok ((run buf cs).1, acc ++ (run buf cs).2) := by
  intro cs
  induction cs with
  | nil => intro buf acc; simp [runO, run]
  | cons c cs ih =>
    intro buf acc
    rw [runO, stepO_eq, Outcome.bind_ok]
    simp only
    rw [ih, run]
    simp [List.append_assoc]

theorem iter_of_head {r : Bytes} (h : 23 ≤ (26 :: r).length) : iter (26 :: r) = iterTail (26 :: r) :=
  (iter_sync (pre := []) r List.not_mem_nil).trans (if_neg (by omega))

theorem F_sync {pre : Bytes} (r : Bytes) (hp : 26 ∉ pre) (hd : 23 ≤ (pre ++ 26 :: r).length) :
    F (pre ++ 26 :: r) = F (26 :: r) := by
  rw [F_unfold, if_neg (by omega), iter_sync r hp]
  by_cases h : (26 :: r).length < 23
  · rw [if_pos h, F_short h]
  · rw [if_neg h, F_unfold (26 :: r), if_neg h, iter_of_head (by omega)]

theorem iter_brk_append {d d' : Bytes} (x : Bytes) (h : iter d = .brk d') (hd : 23 ≤ d.length) :
    F (d ++ x) = F (d' ++ x) := by
  rcases iter_cases d with h1 | ⟨pre, r, hpre, rfl⟩
  · rw [h1] at h; injection h with h; rw [h]
  · have hd' : d' = 26 :: r := by
      rw [iter_sync r hpre] at h
      split at h
      · injection h with h; exact h.symm
      · exact iterTail_brk h
    rw [hd', List.append_assoc, List.cons_append,
      F_sync _ hpre (by simp only [List.length_append, List.length_cons] at hd ⊢; omega)]

theorem F_append (x d : Bytes) :
    F (d ++ x) = ((F ((F d).1 ++ x)).1, (F d).2 ++ (F ((F d).1 ++ x)).2) := by
  fun_induction F d with
  | case1 d h23 => rfl
  | case2 d h23 d' hi => rw [iter_brk_append x hi (Nat.le_of_not_lt h23)]; rfl
  | case3 d h23 d' o hi ih =>
    rw [F_unfold (d ++ x), if_neg (by rw [List.length_append]; omega), (iter_cont hi).2 x]
    simp only
    rw [ih, List.append_assoc]

theorem F_idem (d : Bytes) : F (F d).1 = ((F d).1, []) := by
  have h := F_append [] d
  simp only [List.append_nil] at h
  exact Prod.ext (congrArg Prod.fst h).symm (List.self_eq_append_right.mp (congrArg Prod.snd h))

theorem run_eq_F : ∀ (cs : List Bytes) (buf : Bytes), F buf = (buf, []) →
    run buf cs = F (buf ++ cs.flatten)
  | [], buf, h => by simp [run, h]
  | c :: cs, buf, _ => by
    rw [run, run_eq_F cs _ (F_idem _), List.flatten_cons, ← List.append_assoc, F_append cs.flatten (buf ++ c)]

theorem flatten_reads (n : Nat) : ∀ (fuel : Nat) (c : Bytes), (reads n fuel c).flatten = c
  | 0, c => by simp [reads]
  | fuel + 1, c => by
    rw [reads]
    split
    · simp
    · rw [List.flatten_cons, flatten_reads n fuel, List.take_append_drop]

end Rs1090.Proofs.Beast
