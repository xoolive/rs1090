/-
For Props/C10.lean, whole histories: conservation, the records sent, arrival order, the
consequences of non-decreasing arrival times, and the window `[first, first + w)` of a group, in which
all members of an open group lie and all but possibly the LAST of a group that leaves (the arrival
that closed it joined it first when it carries the same frame).

A run is a sequence of steps; what it says about a closed group is what the step that closed it says,
taken from the state the run had reached (`mem_runG_closed`, `inv_runG`).
-/
import Rs1090.Proofs.Dedup
namespace Rs1090.Dedup
open Rs1090.Spec.Dedup (firstT closes WellFormed members recordOf records before Ordered Spaced
  StrictlyOrdered)

theorem members_cons (g : Group) (gs : List Group) : members (g :: gs) = g.2 ++ members gs := rfl

theorem members_append (a b : List Group) : members (a ++ b) = members a ++ members b := by
  simp only [members, List.map_append, List.flatten_append]

theorem members_perm {a b : List Group} (h : a.Perm b) : (members a).Perm (members b) :=
  (h.map _).flatten

theorem members_push (c : Cache) (a : Arrival) : (members (push c a)).Perm (members c ++ [a]) := by
  rcases push_cases c a with ⟨l, ms, r, rfl, _, hp⟩ | ⟨_, hp⟩
  · simp only [hp, members_append, members_cons, List.append_assoc]
    exact (List.perm_append_comm.append_left _).append_left _
  · rw [hp, members_append]; exact .refl _

theorem stepG_wf {w : Nat} {s : State} (a : Arrival) (hinv : Inv w s) :
    ∀ g ∈ (stepG w s a).2, WellFormed g := fun g hg =>
  push_wf a hinv.wf g ((mem_stepG_closed a hinv).mp hg).1

theorem stepG_members {w : Nat} {s : State} (a : Arrival) (hinv : Inv w s) :
    (members (stepG w s a).2 ++ pending (stepG w s a).1).Perm (pending s ++ [a]) := by
  show (members _ ++ members _).Perm (members _ ++ [a])
  rw [← members_append]
  exact (members_perm (stepG_partition a hinv)).trans (members_push _ _)

theorem runG_snoc (w : Nat) : ∀ (hist : List Arrival) (s : State) (a : Arrival),
    runG w s (hist ++ [a]) =
      ((stepG w (runG w s hist).1 a).1, (runG w s hist).2 ++ (stepG w (runG w s hist).1 a).2)
  | [], s, a => by simp [runG]
  | b :: bs, s, a => by simp [runG, runG_snoc w bs (stepG w s b).1 a, List.append_assoc]

theorem mem_runG_closed {w : Nat} : ∀ (hist : List Arrival) {s : State} {g : Group},
    g ∈ (runG w s hist).2 →
    ∃ pre a post, hist = pre ++ a :: post ∧ g ∈ (stepG w (runG w s pre).1 a).2
  | [], _, _, h => by cases h
  | a :: as, s, g, h => by
    rcases List.mem_append.mp h with h | h
    · exact ⟨[], a, as, rfl, h⟩
    · obtain ⟨pre, b, post, rfl, hg⟩ := mem_runG_closed as h
      exact ⟨a :: pre, b, post, rfl, hg⟩

theorem inv_runG {w : Nat} : ∀ (hist : List Arrival) {s : State}, Inv w s → Inv w (runG w s hist).1
  | [], _, h => h
  | a :: as, _, h => inv_runG as (stepG_spec a h).inv

theorem reach (w : Nat) (hist : List Arrival) : Inv w (runG w init hist).1 :=
  inv_runG hist (inv_init w)

theorem runG_zero : ∀ hist : List Arrival, runG 0 init hist = (init, hist.map fun a => (a.frame, [a]))
  | [] => rfl
  | a :: as => by
    have h1 : stepG 0 init a = (init, [(a.frame, [a])]) := by
      simp [stepG, init, push, get, expire, popMin, minKey, remove, isFirst_eq, expiry_eq, notExpired_eq]
    simp only [runG, h1, runG_zero as, List.map_cons, List.singleton_append]

theorem runG_wf {w : Nat} (hist : List Arrival) {s : State} (h : Inv w s) :
    ∀ g ∈ (runG w s hist).2, WellFormed g := fun g hg => by
  obtain ⟨pre, a, post, rfl, hg'⟩ := mem_runG_closed _ hg
  exact stepG_wf a (inv_runG pre h) g hg'

theorem runG_members {w : Nat} : ∀ (hist : List Arrival) {s : State}, Inv w s →
    (members (runG w s hist).2 ++ pending (runG w s hist).1).Perm (pending s ++ hist)
  | [], _, _ => by simp [runG, members]
  | a :: as, s, h => by
    have h1 := stepG_members a h
    have h2 := runG_members as (stepG_spec a h).inv
    simp only [runG, members_append]
    -- members c1 ++ members c2 ++ pending s2  ~ members c1 ++ (pending s1 ++ as) ~ (pending s ++ [a]) ++ as
    rw [List.append_assoc]
    refine (List.Perm.append_left _ h2).trans ?_
    rw [← List.append_assoc]
    refine (List.Perm.append_right _ h1).trans ?_
    rw [List.append_assoc]; exact .refl _

theorem emit_wf (dec : Frame → Bool) {g : Group} (h : WellFormed g) :
    emit dec g = if dec g.1 then [recordOf g] else [] := by
  obtain ⟨f, ms⟩ := g
  cases ms with
  | nil => exact absurd rfl h.1
  | cons m ms =>
    have : m.frame = f := h.2 m (by simp)
    simp [emit, recordOf, firstT, this]

theorem flatMap_emit (dec : Frame → Bool) : ∀ {gs : List Group}, (∀ g ∈ gs, WellFormed g) →
    gs.flatMap (emit dec) = records dec gs
  | [], _ => rfl
  | g :: gs, h => by
    have ih := flatMap_emit dec (gs := gs) (fun x hx => h x (by simp [hx]))
    simp only [List.flatMap_cons, ih, emit_wf dec (h g (by simp)), records, List.filter_cons]
    split <;> simp

theorem records_append (dec : Frame → Bool) (a b : List Group) :
    records dec (a ++ b) = records dec a ++ records dec b := by
  simp [records]

theorem run_eq {w : Nat} (dec : Frame → Bool) : ∀ (hist : List Arrival) {s : State}, Inv w s →
    run w dec s hist = ((runG w s hist).1, records dec (runG w s hist).2)
  | [], _, _ => rfl
  | a :: as, s, h => by
    have ih := run_eq dec as (stepG_spec a h).inv
    simp only [run, runG, step, records_append, flatMap_emit dec (stepG_wf a h)] at ih ⊢
    rw [ih]

theorem push_sublist {past : List Arrival} (a : Arrival) {c : Cache}
    (h : ∀ g ∈ c, g.2.Sublist past) : ∀ g ∈ push c a, g.2.Sublist (past ++ [a]) := by
  intro g hg
  rcases mem_push hg with h1 | ⟨ms, h1, rfl⟩ | rfl
  · exact (h g h1).trans (List.sublist_append_left _ _)
  · exact (h _ h1).append (.refl _)
  · exact List.sublist_append_right _ _

theorem runG_cache_sublist {w : Nat} : ∀ (hist : List Arrival) {s : State} {past : List Arrival}, Inv w s →
    (∀ g ∈ s.cache, g.2.Sublist past) → ∀ g ∈ (runG w s hist).1.cache, g.2.Sublist (past ++ hist)
  | [], _, _, _, h => by simpa [runG] using h
  | a :: as, s, past, hinv, h => by
    have := runG_cache_sublist as (past := past ++ [a]) (stepG_spec a hinv).inv
      (fun g hg => push_sublist a h g ((mem_stepG_cache a hinv).mp hg).1)
    simpa only [runG, List.append_assoc, List.singleton_append] using this

theorem runG_closed_sublist {w : Nat} (hist : List Arrival) {s : State} {past : List Arrival} (hinv : Inv w s)
    (h : ∀ g ∈ s.cache, g.2.Sublist past) : ∀ g ∈ (runG w s hist).2, g.2.Sublist (past ++ hist) := by
  intro g hg
  obtain ⟨pre, a, post, rfl, hg'⟩ := mem_runG_closed hist hg
  have := push_sublist a (runG_cache_sublist pre hinv h) g ((mem_stepG_closed a (inv_runG pre hinv)).mp hg').1
  rw [show past ++ (pre ++ a :: post) = past ++ pre ++ [a] ++ post by simp]
  exact this.trans (List.sublist_append_left _ _)

theorem before_of_lt {g h : Group} (hlt : firstT g < firstT h) : before g h = true := by
  simp [before, hlt]

theorem firstT_le_of_before {g h : Group} (hb : before g h = true) : firstT g ≤ firstT h := by
  simp only [before, Bool.or_eq_true, Bool.and_eq_true, decide_eq_true_eq, beq_iff_eq] at hb
  omega

theorem push_origin (a : Arrival) {c : Cache} (h : ∀ g ∈ c, g.2 ≠ []) : ∀ g ∈ push c a,
    (∃ g0 ∈ c, g0.1 = g.1 ∧ firstT g0 = firstT g) ∨ g = (a.frame, [a]) := by
  intro g hg
  rcases mem_push hg with h1 | ⟨ms, h1, rfl⟩ | rfl
  · exact .inl ⟨g, h1, rfl, rfl⟩
  · exact .inl ⟨_, h1, rfl, (firstT_snoc a (h _ h1)).symm⟩
  · exact .inr rfl

/-- every open group began at or before `now` and is not yet due at `now` -/
def Bounded (w now : Nat) (s : State) : Prop :=
  ∀ g ∈ s.cache, firstT g ≤ now ∧ now < firstT g + w

/-- arrival times do not decrease and none lies before `now` -/
def MonoFrom (now : Nat) (hist : List Arrival) : Prop :=
  hist.Pairwise (fun a b => a.t ≤ b.t) ∧ ∀ a ∈ hist, now ≤ a.t

theorem MonoFrom.tail {now : Nat} {a : Arrival} {as : List Arrival} (h : MonoFrom now (a :: as)) :
    now ≤ a.t ∧ MonoFrom a.t as :=
  ⟨h.2 a List.mem_cons_self, (List.pairwise_cons.mp h.1).2, (List.pairwise_cons.mp h.1).1⟩

theorem stepG_bounded {w now : Nat} {s : State} (a : Arrival) (hinv : Inv w s)
    (hb : Bounded w now s) (ha : now ≤ a.t) : Bounded w a.t (stepG w s a).1 := by
  intro g hg
  obtain ⟨hg, hopen⟩ := (mem_stepG_cache a hinv).mp hg
  refine ⟨?_, hopen⟩
  rcases push_origin a (fun x hx => (hinv.wf x hx).1) g hg with ⟨g0, h0, _, h2⟩ | rfl
  · have := (hb g0 h0).1; omega
  · exact Nat.le_refl _

theorem stepG_frames {w : Nat} {s : State} (a : Arrival) (hinv : Inv w s) :
    ((stepG w s a).2 ++ (stepG w s a).1.cache).Pairwise (fun g h => g.1 ≠ h.1) :=
  List.pairwise_map.mp
    (((stepG_partition a hinv).map _).nodup_iff.mpr (push_inv (w := w) a hinv).nodup)

/-- A group closed during a monotone history was either open at the start (same frame, same first
    arrival) or opened by one of its arrivals. -/
theorem runG_origin {w : Nat} : ∀ (hist : List Arrival) {s : State} {now : Nat}, Inv w s →
    MonoFrom now hist →
    ∀ g ∈ (runG w s hist).2, (∃ g0 ∈ s.cache, g0.1 = g.1 ∧ firstT g0 = firstT g) ∨ now ≤ firstT g
  | [], _, _, _, _ => fun _ h => by cases h
  | a :: as, s, now, hinv, hm => by
    intro g hg
    obtain ⟨ha, hm'⟩ := hm.tail
    have origin : ∀ x ∈ push s.cache a,
        (∃ g0 ∈ s.cache, g0.1 = x.1 ∧ firstT g0 = firstT x) ∨ now ≤ firstT x := fun x hx =>
      (push_origin a (fun x hx => (hinv.wf x hx).1) x hx).imp_right (fun e => by rw [e]; exact ha)
    rcases List.mem_append.mp hg with hg | hg
    · exact origin g ((mem_stepG_closed a hinv).mp hg).1
    · rcases runG_origin as (stepG_spec a hinv).inv hm' g hg with
        ⟨g0, h0, h1, h2⟩ | h
      · rcases origin g0 ((mem_stepG_cache a hinv).mp h0).1 with ⟨g1, h3, h4, h5⟩ | h3
        · exact .inl ⟨g1, h3, h4.trans h1, h5.trans h2⟩
        · exact .inr (h2 ▸ h3)
      · exact .inr (Nat.le_trans ha h)

theorem runG_closed_ordered {w : Nat} : ∀ (hist : List Arrival) {s : State} {now : Nat}, Inv w s →
    Bounded w now s → MonoFrom now hist →
    Ordered (runG w s hist).2 ∧ Spaced w (runG w s hist).2 ∧
    (0 < w → StrictlyOrdered (runG w s hist).2)
  | [], _, _, _, _, _ => ⟨.nil, .nil, fun _ => .nil⟩
  | a :: as, s, now, hinv, hb, hm => by
    obtain ⟨ha, hm'⟩ := hm.tail
    have hinv' := (stepG_spec a hinv).inv
    have hb' := stepG_bounded a hinv hb ha
    obtain ⟨i1, i2, i3⟩ := runG_closed_ordered as hinv' hb' hm'
    obtain ⟨hfr1, -, hfr2⟩ := List.pairwise_append.mp (stepG_frames a hinv)
    have hstep := (stepG_spec a hinv).sorted
    -- g closed now, h closed later: h was open and not closed at `a.t`, or was opened later
    have cross : ∀ g ∈ (stepG w s a).2, ∀ h ∈ (runG w (stepG w s a).1 as).2,
        firstT g ≤ firstT h ∧ (g.1 = h.1 → firstT g + w ≤ firstT h) ∧
        (0 < w → firstT g < firstT h) := by
      intro g hg h hh
      have h1 := ((mem_stepG_closed a hinv).mp hg).2
      rcases runG_origin as hinv' hm' h hh with ⟨h0, hh0, e1, e2⟩ | hlate
      · have := (hb' h0 hh0).2
        exact ⟨by omega, fun e => absurd (e.trans e1.symm) (hfr2 g hg h0 hh0), by omega⟩
      · exact ⟨by omega, fun _ => by omega, fun _ => by omega⟩
    exact ⟨List.pairwise_append.mpr
        ⟨hstep.imp firstT_le_of_before, i1, fun g hg h hh => (cross g hg h hh).1⟩,
      List.pairwise_append.mpr
        ⟨hfr1.imp (fun hne e => absurd e hne), i2, fun g hg h hh => (cross g hg h hh).2.1⟩,
      fun hw => List.pairwise_append.mpr
        ⟨hstep, i3 hw, fun g hg h hh => before_of_lt ((cross g hg h hh).2.2 hw)⟩⟩

theorem mono_init (w : Nat) {hist : List Arrival} (hm : Spec.Dedup.Monotone hist) :
    Bounded w 0 init ∧ MonoFrom 0 hist :=
  ⟨fun _ h => (nomatch h), ⟨hm, fun _ _ => Nat.zero_le _⟩⟩

theorem pairwise_records {R : Group → Group → Prop} {Q : Record → Record → Prop}
    (dec : Frame → Bool) {gs : List Group} (h : gs.Pairwise R)
    (hq : ∀ g h, R g h → Q (recordOf g) (recordOf h)) : (records dec gs).Pairwise Q := by
  simp only [records]
  exact List.pairwise_map.mpr ((h.sublist List.filter_sublist).imp (hq _ _))

/-- every member of an open group arrived inside the group's window -/
def Within (w : Nat) (c : Cache) : Prop := ∀ g ∈ c, ∀ m ∈ g.2, m.t < firstT g + w

theorem within_nil (w : Nat) : Within w [] := fun _ h => nomatch h

theorem push_within {w : Nat} (a : Arrival) {c : Cache} (hne : ∀ g ∈ c, g.2 ≠ []) (hc : Within w c) :
    ∀ g ∈ push c a, (∀ m ∈ g.2.dropLast, m.t < firstT g + w) ∧
      (∀ m ∈ g.2, m = a ∨ m.t < firstT g + w) := by
  intro g hg
  rcases mem_push hg with h1 | ⟨ms, h1, rfl⟩ | rfl
  · exact ⟨fun m hm => hc g h1 m (List.dropLast_subset _ hm), fun m hm => .inr (hc g h1 m hm)⟩
  · have hf := firstT_snoc (f := a.frame) a (hne _ h1)
    refine ⟨fun m hm => ?_, fun m hm => ?_⟩
    · rw [List.dropLast_concat] at hm
      rw [hf]; exact hc _ h1 m hm
    · rcases List.mem_append.mp hm with hm | hm
      · right; rw [hf]; exact hc _ h1 m hm
      · exact .inl (List.mem_singleton.mp hm)
  · exact ⟨fun m hm => (nomatch hm), fun m hm => .inl (List.mem_singleton.mp hm)⟩

theorem stepG_within {w : Nat} {s : State} (a : Arrival) (hinv : Inv w s) (hc : Within w s.cache) :
    Within w (stepG w s a).1.cache ∧
    (∀ g ∈ (stepG w s a).2, ∀ m ∈ g.2.dropLast, m.t < firstT g + w) ∧
    (∀ g ∈ (stepG w s a).2, ∀ m ∈ g.2, m = a ∨ m.t < firstT g + w) := by
  have hp := push_within a (fun g hg => (hinv.wf g hg).1) hc
  refine ⟨fun g hg m hm => ?_, fun g hg => (hp g ((mem_stepG_closed a hinv).mp hg).1).1,
    fun g hg => (hp g ((mem_stepG_closed a hinv).mp hg).1).2⟩
  -- a group that stays is not closed at `a.t`: the arrival itself is inside its window too
  obtain ⟨hg, hopen⟩ := (mem_stepG_cache a hinv).mp hg
  rcases (hp g hg).2 m hm with rfl | h1
  · exact hopen
  · exact h1

theorem runG_cache_within {w : Nat} : ∀ (hist : List Arrival) {s : State}, Inv w s → Within w s.cache →
    Within w (runG w s hist).1.cache
  | [], _, _, hc => hc
  | a :: as, _, hinv, hc => runG_cache_within as (stepG_spec a hinv).inv (stepG_within a hinv hc).1

theorem runG_closed_within {w : Nat} (hist : List Arrival) {s : State} (hinv : Inv w s)
    (hc : Within w s.cache) : ∀ g ∈ (runG w s hist).2, ∀ m ∈ g.2.dropLast, m.t < firstT g + w := by
  intro g hg
  obtain ⟨pre, a, post, rfl, hg'⟩ := mem_runG_closed hist hg
  exact (stepG_within a (inv_runG pre hinv) (runG_cache_within pre hinv hc)).2.1 g hg'

end Rs1090.Dedup
