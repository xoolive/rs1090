/-
For Props/C10.lean: decode1090's copy of the loop (`expireD`/`stepGD`/`runD`, the operators extracted from
crates/decode1090/src/main.rs) is the loop of dedup.rs; what the end-of-file flush writes.
-/
import Rs1090.Proofs.DedupSpec
namespace Rs1090.Dedup
open Rs1090.Spec.Dedup (firstT closes WellFormed members recordOf records sortBy)

/-! ### The two copies carry the same operators

`CopiesAgree` is what the lemmas on decode1090's copy need of the operators extracted from it; it is proved,
by name, in `Props/C10.lean: copies_agree_ops` — that is where a changed operator, constant or a removed
flush of decode1090's copy stops the proofs. -/

structure CopiesAgree : Prop where
  notExpired : ∀ curtime t, Gen.Dedup.Decode1090.notExpired curtime t = Gen.Dedup.Jet.notExpired curtime t
  expiry : ∀ t w, Gen.Dedup.Decode1090.expiry t w = Gen.Dedup.Jet.expiry t w
  isFirst : ∀ len, Gen.Dedup.Decode1090.isFirst len = Gen.Dedup.Jet.isFirst len
  flushD : Gen.Dedup.Decode1090.flushAtEof = true
  flushJ : Gen.Dedup.Jet.flushAtEof = false

theorem expireD_eq (ha : CopiesAgree) (t : Nat) : ∀ (n : Nat) (s : State), expireD t n s = expire t n s
  | 0, _ => rfl
  | n + 1, s => by
    simp only [expireD, expire, ha.notExpired]
    cases popMin s.heap with
    | none => rfl
    | some kh =>
      simp only
      cases remove s.cache kh.1.2 with
      | none => simp only [expireD_eq ha t n]
      | some v => simp only [expireD_eq ha t n]

theorem stepGD_eq (ha : CopiesAgree) (w : Nat) (s : State) (a : Arrival) : stepGD w s a = stepG w s a := by
  simp only [stepGD, stepG, expireD_eq ha, ha.isFirst, ha.expiry]

theorem runD_eq (ha : CopiesAgree) (w : Nat) (dec : Frame → Bool) : ∀ (hist : List Arrival) (s : State),
    runD w dec s hist = run w dec s hist
  | [], _ => rfl
  | a :: as, s => by
    simp only [runD, run, step, stepGD_eq ha, runD_eq ha w dec as]

theorem runFlush_eq (ha : CopiesAgree) (w : Nat) (dec : Frame → Bool) (hist : List Arrival) :
    runFlush w dec hist = (run w dec init hist).2 ++
      (flush (run w dec init hist).1.heap.length (run w dec init hist).1).flatMap (emit dec) := by
  simp [runFlush, runD_eq ha, ha.flushD]

theorem runClose_eq (ha : CopiesAgree) (w : Nat) (dec : Frame → Bool) (hist : List Arrival) :
    runClose w dec hist = (run w dec init hist).2 := by
  simp [runClose, ha.flushJ]

/-- the groups decode1090 writes for a file, in the order it writes them -/
def fileGroups (w : Nat) (hist : List Arrival) : List Group :=
  (runG w init hist).2 ++ sortBy (runG w init hist).1.cache

theorem flushed_wf (w : Nat) (hist : List Arrival) :
    ∀ g ∈ sortBy (runG w init hist).1.cache, WellFormed g := fun g hg =>
  (reach w hist).wf g ((sortBy_perm _).subset hg)

theorem fileGroups_wf (w : Nat) (hist : List Arrival) : ∀ g ∈ fileGroups w hist, WellFormed g := by
  intro g hg
  rcases List.mem_append.mp hg with hg | hg
  · exact runG_wf hist (inv_init w) g hg
  · exact flushed_wf w hist g hg

theorem fileGroups_sublist (w : Nat) (hist : List Arrival) : ∀ g ∈ fileGroups w hist, g.2.Sublist hist := by
  intro g hg
  have h0 : ∀ g ∈ (init : State).cache, g.2.Sublist [] := fun _ hg => nomatch hg
  rcases List.mem_append.mp hg with hg | hg
  · exact runG_closed_sublist (w := w) hist (inv_init w) h0 g hg
  · exact runG_cache_sublist (w := w) hist (inv_init w) h0 g ((sortBy_perm _).subset hg)

theorem fileGroups_members (w : Nat) (hist : List Arrival) : hist.Perm (members (fileGroups w hist)) := by
  have h := runG_members (w := w) hist (inv_init w)
  simp only [pending, init, List.map_nil, List.flatten_nil, List.nil_append] at h
  simp only [fileGroups, members_append]
  exact ((List.Perm.append_left _ (members_perm (sortBy_perm _))).trans h).symm

theorem runFlush_groups (ha : CopiesAgree) (w : Nat) (dec : Frame → Bool) (hist : List Arrival) :
    runFlush w dec hist = records dec (fileGroups w hist) := by
  rw [runFlush_eq ha, run_eq dec hist (inv_init w)]
  simp only [fileGroups, flush_eq_sortBy (reach w hist), flatMap_emit dec (flushed_wf w hist),
    records_append]

theorem members_filter (dec : Frame → Bool) : ∀ (gs : List Group), (∀ g ∈ gs, WellFormed g) →
    (members gs).filter (fun a => dec a.frame) = members (gs.filter (fun g => dec g.1))
  | [], _ => rfl
  | g :: gs, h => by
    have ih := members_filter dec gs (fun x hx => h x (List.mem_cons_of_mem _ hx))
    have hg : g.2.filter (fun a => dec a.frame) = g.2.filter (fun _ => dec g.1) :=
      List.filter_congr fun m hm => by rw [(h g List.mem_cons_self).2 m hm]
    rw [members_cons, List.filter_append, hg, ih, List.filter_cons]
    cases dec g.1 <;> simp [members_cons]

theorem records_rx (dec : Frame → Bool) (gs : List Group) :
    (records dec gs).flatMap (·.rx) = (members (gs.filter (fun g => dec g.1))).flatMap (·.rx) := by
  simp only [records, members]
  induction gs.filter (fun g => dec g.1) with
  | nil => rfl
  | cons g gs ih => simp [List.flatMap_cons, List.flatMap_append, ih, recordOf]

theorem flatMap_filter_sublist {α β : Type} (p : α → Bool) (f : α → List β) :
    ∀ l : List α, ((l.filter p).flatMap f).Sublist (l.flatMap f)
  | [] => List.Sublist.refl _
  | a :: l => by
    have ih := flatMap_filter_sublist p f l
    cases h : p a
    · simp only [List.filter_cons, h, List.flatMap_cons]
      exact List.sublist_append_of_sublist_right ih
    · simp only [List.filter_cons, h, List.flatMap_cons, if_true]
      exact ih.append_left _

end Rs1090.Dedup
