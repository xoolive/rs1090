import Rs1090.Proofs.CprLocal
/-!
C05, assembled: reports produced by the DO-260B encoder (`report`, `Proofs/CprEnc.lean`), decoded by the model's
`airborneWithRef` / `surfaceWithRef` against a reference.
-/
namespace Rs1090.Proofs.Cpr
open Rs1090 Rs1090.Model.Cpr Rs1090.Spec.Cpr

theorem dLatOf_report (s i : Nat) (hi : i ≤ 1) (lat lon : ℚ) :
    dLatOf (360 / 2 ^ s) (report (17 + s) i lat lon) = dlat i / 2 ^ s := by
  obtain rfl | rfl : i = 0 ∨ i = 1 := by omega
  · rw [dLatOf, if_pos (by rfl), dlat0]; ring
  · rw [dLatOf, if_neg nofun, dlat1]; ring

theorem fmt_report (nb i : Nat) (hi : i ≤ 1) (lat lon : ℚ) : fmt (report nb i lat lon) = i := by
  obtain rfl | rfl : i = 0 ∨ i = 1 := by omega
  · rfl
  · rfl

theorem niOf_eq (i : Nat) (x : ℚ) : niOf i x = max (NL x - i) 1 := by
  unfold niOf; rw [nl_eq_NL]

theorem dLonOf_report (s i : Nat) (hi : i ≤ 1) (lat lon x : ℚ) :
    dLonOf (360 / 2 ^ s) (report (17 + s) i lat lon) x = dlon i x / 2 ^ s := by
  unfold dLonOf
  rw [fmt_report _ i hi, niOf_eq, dlon_eq]
  ring

/-- C05 for `Nb = 17 + s` bits (zones of `1/2^s` of the airborne size, `full = 360 / 2^s`): a reference within
    half a zone of the report's lattice point (longitude on the turn `k`) in both coordinates makes the
    decoder return exactly that lattice point -/
theorem local_exact (s i : Nat) (hi : i ≤ 1) (lat lon latRef lonRef : ℚ) (k : ℤ)
    (hlat : -90 ≤ lat ∧ lat ≤ 90)
    (h1 : |rlat (17 + s) i lat - latRef| < dlat i / 2 ^ s / 2)
    (h2 : |rlon (17 + s) i (rlat (17 + s) i lat) lon + 360 * k - lonRef|
            < dlon i (rlat (17 + s) i lat) / 2 ^ s / 2) :
    withRef (360 / 2 ^ s) (report (17 + s) i lat lon) latRef lonRef
      = .ok (some ⟨rlat (17 + s) i lat, rlon (17 + s) i (rlat (17 + s) i lat) lon + 360 * k⟩) := by
  have hd := dlat_pos i hi
  have hdl := dlon_pos i (rlat (17 + s) i lat)
  set rl := rlat (17 + s) i lat with hrl
  set ni : ℕ := max (NL rl - i) 1 with hni
  have hniq : dlon i rl = 360 / (ni : ℚ) := dlon_eq i rl
  have hni0 : (0 : ℚ) < (ni : ℚ) := by
    have : 1 ≤ ni := le_max_right _ _
    exact_mod_cast this
  have eT : rl = dlat i / 2 ^ s * ((rnd (lat / (dlat i / 2 ^ s)) : ℚ) / 131072) := by
    rw [hrl, rlat_eq_recv, recv_eq _ _ _ hd.ne']
  -- a turn is `2^s · ni` longitude zones
  have eV : rlon (17 + s) i rl lon + 360 * k
      = dlon i rl / 2 ^ s
        * (((rnd (lon / (dlon i rl / 2 ^ s)) + k * (2 ^ s * ni) * 131072 : ℤ) : ℚ) / 131072) := by
    rw [rlon_eq_recv, recv_eq _ _ _ hdl.ne', hniq]
    push_cast
    field_simp
  have key := withRef_exact (360 / 2 ^ s) (by positivity) (report (17 + s) i lat lon) latRef lonRef
    (rnd (lat / (dlat i / 2 ^ s))) (rnd (lon / (dlon i rl / 2 ^ s)) + k * (2 ^ s * ni) * 131072)
    (report_lat s i hi lat lon) (by rw [report_lon, frac17_add_mul])
  rw [dLatOf_report s i hi, ← eT, dLonOf_report s i hi, ← eV] at key
  exact key (rlat_range s i hi lat hlat) h1 h2

theorem local_exact_air (i : Nat) (hi : i ≤ 1) (lat lon latRef lonRef : ℚ) (k : ℤ)
    (hlat : -90 ≤ lat ∧ lat ≤ 90)
    (h1 : |rlat 17 i lat - latRef| < dlat i / 2)
    (h2 : |rlon 17 i (rlat 17 i lat) lon + 360 * k - lonRef| < dlon i (rlat 17 i lat) / 2) :
    airborneWithRef (report 17 i lat lon) latRef lonRef
      = .ok (some ⟨rlat 17 i lat, rlon 17 i (rlat 17 i lat) lon + 360 * k⟩) := by
  have h := local_exact 0 i hi lat lon latRef lonRef k hlat (by simpa using h1) (by simpa using h2)
  simpa [airborneWithRef] using h

theorem local_exact_surf (i : Nat) (hi : i ≤ 1) (lat lon latRef lonRef : ℚ) (k : ℤ)
    (hlat : -90 ≤ lat ∧ lat ≤ 90)
    (h1 : |rlat 19 i lat - latRef| < dlat i / 4 / 2)
    (h2 : |rlon 19 i (rlat 19 i lat) lon + 360 * k - lonRef| < dlon i (rlat 19 i lat) / 4 / 2) :
    surfaceWithRef (report 19 i lat lon) latRef lonRef
      = .ok (some ⟨rlat 19 i lat, rlon 19 i (rlat 19 i lat) lon + 360 * k⟩) := by
  have h := local_exact 2 i hi lat lon latRef lonRef k hlat (by norm_num; exact h1) (by norm_num; exact h2)
  norm_num at h
  exact h

end Rs1090.Proofs.Cpr
