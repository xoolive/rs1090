/-
C14 — formatting is injective on the registrations the model produces:
`wf r₁ → wf r₂ → render r₁ = render r₂ → r₁ = r₂`.

Ingredients, all checked by the kernel on the generated tables:
 * the digit characters and the two alphabets are duplicate free, digits and letters are disjoint;
 * every formatted registration starts with the constant national prefix `key r` of its scheme / row;
 * prefixes of different schemes / rows are incomparable (neither is a prefix of the other), except
   - the arms of `hl_reg` (all `HL`): their value ranges are pairwise disjoint,
   - stride rows with the same prefix: same alphabet and disjoint first-letter ranges.
-/
import Rs1090.Proofs.TailRows
import Rs1090.Proofs.TailN
namespace Rs1090.Proofs.Tail
open Rs1090 Rs1090.Model.Tail Rs1090.Gen.Tail

theorem dch_ne_symL : ∀ a, a < 10 → ∀ b, b < 24 → dch a ≠ symL b := by decide +kernel
theorem digits_nodup : DIGITS.Nodup := by decide +kernel
theorem limited_nodup : LIMITED_ALPHABET.Nodup := by decide +kernel

theorem dch_inj (a b : Nat) (ha : a < 16) (hb : b < 16) (h : dch a = dch b) : a = b :=
  (List.getD_inj ha hb digits_nodup).mp h

theorem symL_inj (a b : Nat) (ha : a < LIMITED_ALPHABET.length) (hb : b < LIMITED_ALPHABET.length)
    (h : symL a = symL b) : a = b :=
  (List.getD_inj ha hb limited_nodup).mp h

theorem flatMap_dec (ds : List Nat) (h : ∀ d ∈ ds, d < 10) : ds.flatMap dec = ds.map dch := by
  induction ds with
  | nil => rfl
  | cons d ds ih =>
    rw [List.forall_mem_cons] at h
    rw [List.flatMap_cons, List.map_cons, ih h.2, dec, digits_of_lt h.1]
    rfl

/-- digits-then-letters bodies of the N and JA schemes -/
theorem dl_inj (ds ds' ls ls' : List Nat) (h1 : ∀ d ∈ ds, d < 10) (h1' : ∀ d ∈ ds', d < 10)
    (h2 : ∀ l ∈ ls, l < LIMITED_ALPHABET.length) (h2' : ∀ l ∈ ls', l < LIMITED_ALPHABET.length)
    (h : ds.flatMap dec ++ ls.map symL = ds'.flatMap dec ++ ls'.map symL) : ds = ds' ∧ ls = ls' := by
  rw [flatMap_dec ds h1, flatMap_dec ds' h1'] at h
  exact split_inj dch symL (· < 10) (· < LIMITED_ALPHABET.length)
    (fun a b ha hb => dch_inj a b (by omega) (by omega)) symL_inj
    (fun a b ha hb => dch_ne_symL a ha b (limited_len ▸ hb)) ds ds' ls ls' h1 h1' h2 h2' h

/-- a numeric registration is its row's prefix followed by the zero-padded number -/
theorem render_num {m : NumRow} (hm : m ∈ numericRows) {v : Nat} (hv : v ≤ numVMax m) :
    m.template.take (m.template.length - (dec v).length) ++ dec v =
      numKey m ++ (List.replicate (numW m - (digits 10 v).length) 0 ++ digits 10 v).map dch := by
  obtain ⟨_, _, _, ht, _⟩ := num_rows_ok m hm
  have hlen := dec_length_le hm hv
  generalize numKey m = K at ht ⊢
  generalize numW m = W at ht hlen ⊢
  rw [ht, dec, List.length_map, List.length_append, List.length_replicate, Nat.add_sub_assoc hlen,
    List.take_length_add_append, List.take_replicate, Nat.min_eq_left (Nat.sub_le _ _), List.append_assoc,
    List.map_append, List.map_replicate]
  rfl

theorem key_prefix (r : Reg) (hr : wf r) : key r <+: render r := by
  cases r with
  | num k v => exact ⟨_, (render_num (getD_mem hr.1) hr.2).symm⟩
  | _ => exact ⟨_, rfl⟩

def comparableB (a b : List Char) : Bool := a.isPrefixOf b || b.isPrefixOf a

theorem comparableB_of {a b : List Char} (h : a <+: b ∨ b <+: a) : comparableB a b = true := by
  unfold comparableB
  rw [Bool.or_eq_true, List.isPrefixOf_iff_prefix, List.isPrefixOf_iff_prefix]
  exact h

theorem comparable_of_render_eq (r₁ r₂ : Reg) (h₁ : wf r₁) (h₂ : wf r₂) (h : render r₁ = render r₂) :
    comparableB (key r₁) (key r₂) = true :=
  comparableB_of (List.prefix_or_prefix_of_prefix (key_prefix r₁ h₁) (h ▸ key_prefix r₂ h₂))

def fixedKeys : List (List Char) := [['N'], ['J', 'A'], ['H', 'L']]

theorem fixed_fixed : pairwiseB (fun a b => !comparableB a b) fixedKeys = true := by decide

/-- the scheme, and for the two mapping tables the row, that produced a registration: the registration with its
    payload erased (all arms of `hl_reg` are one scheme: they share the prefix `HL`).  `key` depends on it only. -/
def scheme : Reg → Reg
  | .n _ _ => .n [] []
  | .ja _ _ => .ja [] []
  | .hl _ _ => .hl 0 0
  | .num k _ => .num k 0
  | .stride k _ _ _ => .stride k 0 0 0

def strideRow? : Reg → Option StrideRow
  | .stride k _ _ _ => some (strideRows.getD k default)
  | _ => none

def schemes : List Reg :=
  [.n [] [], .ja [] [], .hl 0 0] ++ (List.range numericRows.length).map (.num · 0) ++
    (List.range strideRows.length).map (.stride · 0 0 0)

/-- two schemes never produce the same string: incomparable prefixes, or two stride rows with the same prefix, the
    same alphabet and disjoint ranges of first letters -/
def schemeCompat (a b : Reg) : Bool :=
  !comparableB (key a) (key b) ||
    match strideRow? a, strideRow? b with
    | some s, some t =>
      s.pre == t.pre && s.alphabet == t.alphabet && (decide (strideHi s < strideLo t) || decide (strideHi t < strideLo s))
    | _, _ => false

theorem schemes_ok : pairwiseB schemeCompat schemes = true := by decide +kernel

theorem scheme_mem (r : Reg) (hr : wf r) : scheme r ∈ schemes := by
  unfold schemes
  cases r with
  | num k v => exact List.mem_append_left _ (List.mem_append_right _ (List.mem_map.mpr ⟨k, List.mem_range.mpr hr.1, rfl⟩))
  | stride k i1 i2 i3 => exact List.mem_append_right _ (List.mem_map.mpr ⟨k, List.mem_range.mpr hr.1, rfl⟩)
  | _ => exact List.mem_append_left _ (List.mem_append_left _ (by simp [scheme]))

theorem render_stride {r : Reg} {s : StrideRow} (hr : wf r) (hs : strideRow? r = some s) :
    s ∈ strideRows ∧ ∃ i1 i2 i3,
      render r = s.pre ++ [s.alphabet.getD i1 '?', s.alphabet.getD i2 '?', s.alphabet.getD i3 '?'] ∧
      i1 < s.alphabet.length ∧ strideLo s ≤ i1 ∧ i1 ≤ strideHi s := by
  cases r with
  | stride k i1 i2 i3 =>
    obtain rfl : strideRows.getD k default = s := Option.some.inj hs
    exact ⟨getD_mem hr.1, i1, i2, i3, rfl, hr.2.1, hr.2.2.2.2.1, hr.2.2.2.2.2⟩
  | _ => cases hs

theorem key_scheme (r : Reg) : key (scheme r) = key r := by cases r <;> rfl
theorem strideRow?_scheme (r : Reg) : strideRow? (scheme r) = strideRow? r := by cases r <;> rfl

/-- registrations of two compatible schemes have different texts: else the prefixes are comparable, so both are
    stride rows with the same prefix and alphabet, and the first letters after the prefix are the same symbol of a
    duplicate-free alphabet although their ranges are disjoint -/
theorem compat_render_ne {r₁ r₂ : Reg} (h₁ : wf r₁) (h₂ : wf r₂)
    (hc : schemeCompat (scheme r₁) (scheme r₂) = true) : render r₁ ≠ render r₂ := by
  intro h
  unfold schemeCompat at hc
  rw [key_scheme, key_scheme, comparable_of_render_eq r₁ r₂ h₁ h₂ h, strideRow?_scheme, strideRow?_scheme] at hc
  simp only [Bool.not_true, Bool.false_or] at hc
  split at hc
  · rename_i s t hs ht
    simp only [Bool.and_eq_true, beq_iff_eq, Bool.or_eq_true, decide_eq_true_eq] at hc
    obtain ⟨⟨hpre, halph⟩, hdis⟩ := hc
    obtain ⟨_, i1, i2, i3, e₁, a1, alo, ahi⟩ := render_stride h₁ hs
    obtain ⟨ht', j1, j2, j3, e₂, b1, blo, bhi⟩ := render_stride h₂ ht
    rw [e₁, e₂, hpre, halph] at h
    have := (List.getD_inj (halph ▸ a1) b1 (stride_rows_ok t ht').2.2.2.2.1).mp
      (List.cons.inj (List.append_cancel_left h)).1
    omega
  · cases hc

theorem hl_hl : pairwiseB (fun a b => decide (hlVHi a < hlVLo b) || decide (hlVHi b < hlVLo a)) hlRows = true := by
  decide +kernel

theorem hl_inj (k v k' v' : Nat) (h₁ : wf (.hl k v)) (h₂ : wf (.hl k' v'))
    (h : render (.hl k v) = render (.hl k' v')) : Reg.hl k v = Reg.hl k' v' := by
  obtain ⟨hk, hlo, hhi⟩ := h₁
  obtain ⟨hk', hlo', hhi'⟩ := h₂
  have hv : v < 16 ^ 33 :=
    Nat.lt_trans (Nat.lt_of_le_of_lt hhi (hl_rows_ok _ (getD_mem hk)).2.1) (by decide)
  have hv' : v' < 16 ^ 33 :=
    Nat.lt_trans (Nat.lt_of_le_of_lt hhi' (hl_rows_ok _ (getD_mem hk')).2.1) (by decide)
  simp only [render, hex, List.cons.injEq, true_and] at h
  obtain rfl := digits_inj 16 (by decide) hv hv' (map_inj_on dch (· < 16) dch_inj _ _
    (digits_spec 16 (by decide) v).1 (digits_spec 16 (by decide) v').1 h)
  by_cases hkk : k = k'
  · rw [hkk]
  · rw [getD_eq hk] at hlo hhi
    rw [getD_eq hk'] at hlo' hhi'
    rcases pairwiseB_ne hl_hl hk hk' hkk with d | d <;> simp only [Bool.or_eq_true, decide_eq_true_eq] at d <;> omega

theorem num_inj (k v v' : Nat) (h₁ : wf (.num k v)) (h₂ : wf (.num k v'))
    (h : render (.num k v) = render (.num k v')) : v = v' := by
  have hm := getD_mem h₁.1
  have h := List.append_cancel_left ((render_num hm h₁.2).symm.trans (h.trans (render_num hm h₂.2)))
  obtain ⟨hmax, _⟩ := num_rows_ok _ hm
  have hlt : ∀ w, ∀ d ∈ List.replicate (numW (numericRows.getD k default) - (digits 10 w).length) 0 ++ digits 10 w,
      d < 10 := fun w d hd => by
    rcases List.mem_append.mp hd with hd | hd
    · rw [(List.mem_replicate.mp hd).2]; decide
    · exact (digits_spec 10 (by decide) w).1 d hd
  have hval := congrArg (val 10 0) (map_inj_on dch (· < 10) (fun a b ha hb => dch_inj a b (by omega) (by omega)) _ _
    (hlt v) (hlt v') h)
  rwa [val_replicate_zero, val_replicate_zero, (digits_spec 10 (by decide) v).2.2 (by have := h₁.2; omega),
    (digits_spec 10 (by decide) v').2.2 (by have := h₂.2; omega)] at hval

/-- **formatting is injective** on well-formed registrations: equal texts come from the same scheme and row
    (`schemes_ok`), and within one scheme the text determines the payload -/
theorem render_inj (r₁ r₂ : Reg) (h₁ : wf r₁) (h₂ : wf r₂) (h : render r₁ = render r₂) : r₁ = r₂ := by
  by_cases hs : scheme r₁ = scheme r₂
  · cases r₁ <;> cases r₂ <;> cases hs
    next ds ls ds' ls' =>
      simp only [render, List.cons.injEq, true_and] at h
      obtain ⟨e1, e2⟩ := dl_inj ds ds' ls ls' h₁.1 h₂.1 h₁.2 h₂.2 h
      rw [e1, e2]
    next ds ls ds' ls' =>
      simp only [render, List.cons.injEq, true_and] at h
      obtain ⟨e1, e2⟩ := dl_inj ds ds' ls ls' h₁.1 h₂.1 h₁.2 h₂.2 h
      rw [e1, e2]
    next k v k' v' => exact hl_inj k v k' v' h₁ h₂ h
    next k v v' => rw [num_inj k v v' h₁ h₂ h]
    next k i1 i2 i3 j1 j2 j3 =>
      obtain ⟨hk, a1, a2, a3, _⟩ := h₁
      obtain ⟨_, b1, b2, b3, _⟩ := h₂
      have nd := (stride_rows_ok _ (getD_mem hk)).2.2.2.2.1
      simp only [render, List.append_cancel_left_eq, List.cons.injEq, and_true] at h
      rw [(List.getD_inj a1 b1 nd).mp h.1, (List.getD_inj a2 b2 nd).mp h.2.1, (List.getD_inj a3 b3 nd).mp h.2.2]
  · exfalso
    rcases pairwiseB_mem schemes_ok (scheme_mem r₁ h₁) (scheme_mem r₂ h₂) hs with hc | hc
    · exact compat_render_ne h₁ h₂ hc h
    · exact compat_render_ne h₂ h₁ hc h.symm

end Rs1090.Proofs.Tail
