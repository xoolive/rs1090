import Rs1090.Proofs.CprGlobal
import Rs1090.Proofs.CprLocalSpec
/-!
Globally unambiguous decoding of an even and an odd report produced by the DO-260B encoder, by the model's
`airbornePosition` in both orders.

The two reports may have been encoded from TWO positions — the situation of a trajectory: the stored report
of the other parity was encoded up to 10 s earlier, from where the aircraft was then.  The zone arithmetic
has slack: the decoder's `⌊(n−1)·a − n·b + ½⌋` recovers the zone indices as long as `(n−1)·za − n·zb` — zero
for one point — stays within 2/5 (`zone_floor_near`).  In degrees (`zone_near_of_deg`, with `n = 60` latitude
zones resp. `n = NL` longitude zones):

    |lat_e − lat_o| ≤ 12/295 °  (≈ 0.0407°, 4.5 km)
    NL·(NL−1)·|lon_e − lon_o| ≤ 144 °                       (≈ 4.7 km at the equator, more elsewhere)

with `NL` the common number of longitude zones of the two recovered latitudes (the decoder refuses the pair
when they differ).  Under these two conditions the decoder returns exactly the encoder's lattice point of
the LATER report (`global_pair`).  The pair of ONE point (C04: `lat_recovered`, `global_correct`,
`global_none_iff`) is the diagonal.
-/
namespace Rs1090.Proofs.Cpr
open Rs1090 Rs1090.Model.Cpr Rs1090.Spec.Cpr

theorem gJ_enc (late lone lato lono : ℚ) (hbox : |late - lato| ≤ 12 / 295) :
    gJ (report 17 0 late lone) (report 17 1 lato lono)
      = 60 * (rnd (lato / dlat 1) / 131072) - 59 * (rnd (late / dlat 0) / 131072) := by
  unfold gJ
  rw [report_lat17 0 (by norm_num), report_lat17 1 (by norm_num)]
  have h := zone_floor_near 60 (by norm_num) (by norm_num) (late / dlat 0) (lato / dlat 1)
    (zone_near_of_deg _ _ _ _ _ (by norm_num) (by rw [dlat0]; norm_num) (by rw [dlat1]; norm_num)
      (by norm_num; linarith))
  norm_num at h
  exact h

/-- the decoder's `lat_even` / `lat_odd` (after the `≥ 270` wraps) are the encoder's `Rlat₀` of the one point and
    `Rlat₁` of the other -/
theorem lat_recovered_two_points (late lone lato lono : ℚ) (he : -90 ≤ late ∧ late ≤ 90)
    (ho : -90 ≤ lato ∧ lato ≤ 90) (hbox : |late - lato| ≤ 12 / 295) :
    gLatE (report 17 0 late lone) (report 17 1 lato lono) = rlat 17 0 late ∧
    gLatO (report 17 0 late lone) (report 17 1 lato lono) = rlat 17 1 lato := by
  have hj := gJ_enc late lone lato lono hbox
  have r0 := rlat_range_air 0 (by norm_num) late he
  have r1 := rlat_range_air 1 (by norm_num) lato ho
  rw [rlat_eq_recv, recv17 _ _ (dlat_pos _ (by norm_num)).ne'] at r0 r1
  constructor
  · unfold gLatE
    rw [report_lat17 0 (by norm_num), dLatEven_eq, ← dlat0, rlat_eq_recv,
      recv17 _ _ (dlat_pos 0 (by norm_num)).ne']
    exact lat_wrap 60 (by norm_num) _ (by rw [dlat0]; norm_num) _ _ (by rw [hj]; omega) r0
  · unfold gLatO
    rw [report_lat17 1 (by norm_num), dLatOdd_eq, ← dlat1, rlat_eq_recv,
      recv17 _ _ (dlat_pos 1 (by norm_num)).ne']
    exact lat_wrap 59 (by norm_num) _ (by rw [dlat1]; norm_num) _ _ (by rw [hj]; omega) r1

theorem report_ne (late lone lato lono : ℚ) : report 17 1 lato lono ≠ report 17 0 late lone :=
  fun h => by cases congrArg Msg.parity h

/-- The even report was encoded from `(late, lone)`, the odd one from `(lato, lono)`.  If the two recovered
    latitudes lie in different NL bands both orders are refused (`.ok none`); otherwise either order returns the
    lattice point of the LATER report's own position (longitude brought into [-180, 180)). -/
theorem global_pair (late lone lato lono : ℚ) (he : -90 ≤ late ∧ late ≤ 90) (ho : -90 ≤ lato ∧ lato ≤ 90)
    (hlat : |late - lato| ≤ 12 / 295)
    (hlon : NL (rlat 17 0 late) = NL (rlat 17 1 lato) →
      (NL (rlat 17 0 late) : ℚ) * ((NL (rlat 17 0 late) : ℚ) - 1) * |lone - lono| ≤ 144) :
    (airbornePosition (report 17 0 late lone) (report 17 1 lato lono) =
      if NL (rlat 17 0 late) ≠ NL (rlat 17 1 lato) then .ok none
      else .ok (some ⟨rlat 17 1 lato, norm180 (rlon 17 1 (rlat 17 1 lato) lono)⟩)) ∧
    (airbornePosition (report 17 1 lato lono) (report 17 0 late lone) =
      if NL (rlat 17 0 late) ≠ NL (rlat 17 1 lato) then .ok none
      else .ok (some ⟨rlat 17 0 late, norm180 (rlon 17 0 (rlat 17 0 late) lone)⟩)) := by
  obtain ⟨hE, hO⟩ := lat_recovered_two_points late lone lato lono he ho hlat
  obtain ⟨a1, a2⟩ := airbornePosition_eo (report 17 0 late lone) (report 17 1 lato lono) rfl rfl
  have i0 : inLatRange (rlat 17 0 late) = true :=
    (inLatRange_iff _).2 (rlat_range_air 0 (by norm_num) late he)
  have i1 : inLatRange (rlat 17 1 lato) = true :=
    (inLatRange_iff _).2 (rlat_range_air 1 (by norm_num) lato ho)
  have hpe : (report 17 0 late lone).parity = .even := rfl
  have hpo : (report 17 1 lato lono).parity = .odd := rfl
  rw [a1, a2, globalCore_eq, globalCore_eq, hE, hO, i0, i1, nl_eq_NL, nl_eq_NL]
  simp only [Bool.not_true, Bool.or_self, Bool.false_eq_true, if_false, report_ne late lone lato lono, hpe,
    hpo, reduceCtorEq, if_true]
  by_cases hnl : NL (rlat 17 0 late) = NL (rlat 17 1 lato)
  · -- the two longitude fields were encoded with `NL` resp. `NL − 1` zones, at either recovered latitude
    have g := fun latp hn => gLon_enc (report 17 0 late lone) (report 17 1 lato lono) lone lono latp
      (NL (rlat 17 0 late)) hn (hlon hnl) (by rw [report_lon17, dlon_eq]) (by rw [report_lon17, dlon_eq, hnl])
    have g1 := (g (rlat 17 1 lato) (by rw [nl_eq_NL, hnl])).2
    have g0 := (g (rlat 17 0 late) (nl_eq_NL _)).1
    rw [hnl, ← dlon_eq, ← recv17 _ _ (dlon_pos 1 _).ne', ← rlon_eq_recv] at g1
    rw [← dlon_eq, ← recv17 _ _ (dlon_pos 0 _).ne', ← rlon_eq_recv] at g0
    rw [g0, g1]
    exact ⟨rfl, rfl⟩
  · simp only [if_pos hnl, and_self]

theorem lat_recovered (lat lon : ℚ) (hlat : -90 ≤ lat ∧ lat ≤ 90) :
    gLatE (report 17 0 lat lon) (report 17 1 lat lon) = rlat 17 0 lat ∧
    gLatO (report 17 0 lat lon) (report 17 1 lat lon) = rlat 17 1 lat ∧
    (-90 ≤ rlat 17 0 lat ∧ rlat 17 0 lat ≤ 90) ∧ (-90 ≤ rlat 17 1 lat ∧ rlat 17 1 lat ≤ 90) :=
  have h := lat_recovered_two_points lat lon lat lon hlat hlat (by norm_num)
  ⟨h.1, h.2, rlat_range_air 0 (by norm_num) lat hlat, rlat_range_air 1 (by norm_num) lat hlat⟩

theorem global_correct (lat lon : ℚ) (hlat : -90 ≤ lat ∧ lat ≤ 90)
    (hnl : NL (rlat 17 0 lat) = NL (rlat 17 1 lat)) :
    airbornePosition (report 17 0 lat lon) (report 17 1 lat lon)
      = .ok (some ⟨rlat 17 1 lat, norm180 (rlon 17 1 (rlat 17 1 lat) lon)⟩) ∧
    airbornePosition (report 17 1 lat lon) (report 17 0 lat lon)
      = .ok (some ⟨rlat 17 0 lat, norm180 (rlon 17 0 (rlat 17 0 lat) lon)⟩) := by
  have h := global_pair lat lon lat lon hlat hlat (by norm_num) fun _ => by norm_num
  rwa [if_neg (not_not.mpr hnl), if_neg (not_not.mpr hnl)] at h

theorem global_none_iff (lat lon : ℚ) (hlat : -90 ≤ lat ∧ lat ≤ 90) :
    (airbornePosition (report 17 0 lat lon) (report 17 1 lat lon) = .ok none
        ↔ NL (rlat 17 0 lat) ≠ NL (rlat 17 1 lat)) ∧
    (airbornePosition (report 17 1 lat lon) (report 17 0 lat lon) = .ok none
        ↔ NL (rlat 17 0 lat) ≠ NL (rlat 17 1 lat)) := by
  obtain ⟨h1, h2⟩ := global_pair lat lon lat lon hlat hlat (by norm_num) fun _ => by norm_num
  constructor
  · rw [h1]; split_ifs with h <;> simp [h]
  · rw [h2]; split_ifs with h <;> simp [h]

end Rs1090.Proofs.Cpr
