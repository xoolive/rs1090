import Rs1090.Proofs.IeeeRound
/-!
The f64 wrap `h + 360.` of a negative angle, for IEEE-754 binary64 round-to-nearest-even (`fl64` of
`Proofs/IeeeRound.lean`).  Used by C08 (BDS 0,9 ground track; BDS 5,0 / 6,0 / 0,6 / 0,9 dyadic angles) and by
C15 (the `rem_euclid(360.)` of the FLARM track, whose only rounded operation is the same addition).

`360 = 45·2³` lies in the binade `[256, 512)`, where binary64 values are `2⁻⁴⁴` apart.  Its predecessor is
`360 − 2⁻⁴⁴`; the midpoint `360 − 2⁻⁴⁵` is a tie which goes to the EVEN significand, and that is 360's
(`360·2⁴⁴` is even).  Hence, for every rational `x`

    fl64 x < 360  ↔  x < 360 − 2⁻⁴⁵                                   (`fl64_lt_360_iff`)

and for the wrap of a negative angle `h`

    fl64 (h + 360) = 360  ↔  −2⁻⁴⁵ ≤ h      (`wrap360_eq_iff`, `h ≤ 0`) — the sharp threshold, 2.8·10⁻¹⁴ degrees;
    −360 ≤ h < −2⁻⁴⁵  →  0 ≤ fl64 (h + 360) ≤ 360 − 2⁻⁴⁴ < 360        (`wrap360_range`).
-/
namespace Rs1090.Proofs.F64Wrap
open Rs1090.Proofs.CprFloat Rs1090.Proofs.IeeeRound

theorem fl64_int_div_pow2 (m : ℤ) (n : ℕ) (hm : |m| < 2 ^ 53) (hn : n ≤ 1074) :
    fl64 ((m : ℚ) / 2 ^ n) = (m : ℚ) / 2 ^ n :=
  fl64_exact _ (f64exact_div_pow m n hn hm)

theorem fl64_int (m : ℤ) (hm : |m| < 2 ^ 53) : fl64 (m : ℚ) = m := fl64_exact _ (f64exact_int m hm)

theorem fl64_360 : fl64 360 = 360 := by
  have := fl64_int 360 (by norm_num)
  simpa using this

theorem rne_lt_of_lt {y : ℚ} {N : ℤ} (h : y < (N : ℚ) - 1 / 2) : rne y < N := by
  have h1 := abs_le.mp (abs_rne_sub_le y)
  have : ((rne y : ℤ) : ℚ) < (N : ℚ) := by linarith [h1.2]
  exact_mod_cast this

theorem ulp_binade8 {x : ℚ} (h1 : 256 ≤ x) (h2 : x < 512) : ulp x = 1 / 2 ^ 44 := by
  have hx : |x| = x := abs_of_nonneg (by linarith)
  have : expo x = 8 :=
    expo_eq_of_normal (k := 8) (by norm_num) (by rw [hx]; norm_num; exact h1) (by rw [hx]; norm_num; exact h2)
  unfold ulp; rw [this]
  rw [show (8 - 52 : ℤ) = -((44 : ℕ) : ℤ) by norm_num, zpow_neg, zpow_natCast, one_div]

theorem fl64_le_pred360 {x : ℚ} (h : x < 360 - 1 / 2 ^ 45) : fl64 x ≤ 360 - 1 / 2 ^ 44 := by
  rcases le_or_gt x 256 with hx | hx
  · have := fl64_mono hx
    rw [show fl64 256 = 256 by simpa using fl64_int 256 (by norm_num)] at this
    norm_num at this ⊢; linarith
  · have hu := ulp_binade8 (le_of_lt hx) (by norm_num at h ⊢; linarith)
    have hlt : rne (x / ulp x) < 6333186975989760 := by
      apply rne_lt_of_lt
      rw [hu]; norm_num at h ⊢; linarith
    have hle : ((rne (x / ulp x) : ℤ) : ℚ) ≤ ((6333186975989759 : ℤ) : ℚ) := by
      exact_mod_cast (by omega : rne (x / ulp x) ≤ 6333186975989759)
    unfold fl64
    have := mul_le_mul_of_nonneg_right hle (le_of_lt (ulp_pos x))
    rw [hu] at this ⊢
    norm_num at this ⊢; linarith

theorem fl64_midpoint_360 : fl64 (360 - 1 / 2 ^ 45) = 360 := by
  rw [fl64_eq_of_normal (k := 8) (n := 6333186975989760) (by norm_num) (by norm_num [abs_of_pos])
    (by norm_num [abs_of_pos])
    (Or.inr ⟨by norm_num [abs_of_neg], ⟨3166593487994880, by norm_num⟩⟩)]
  norm_num

theorem fl64_lt_360_iff (x : ℚ) : fl64 x < 360 ↔ x < 360 - 1 / 2 ^ 45 := by
  constructor
  · intro h
    by_contra hc
    have := fl64_mono (not_lt.mp hc)
    rw [fl64_midpoint_360] at this
    linarith
  · intro h
    have := fl64_le_pred360 h
    norm_num at this ⊢; linarith

theorem fl64_eq_360_iff {x : ℚ} (hx : x ≤ 360) : fl64 x = 360 ↔ 360 - 1 / 2 ^ 45 ≤ x := by
  have hle : fl64 x ≤ 360 := by have := fl64_mono hx; rwa [fl64_360] at this
  constructor
  · intro h; by_contra hc
    have := (fl64_lt_360_iff x).mpr (not_le.mp hc); linarith
  · intro h
    have := fl64_mono h
    rw [fl64_midpoint_360] at this
    linarith

theorem wrap360_eq_iff {h : ℚ} (h0 : h ≤ 0) : fl64 (h + 360) = 360 ↔ -(1 / 2 ^ 45) ≤ h := by
  rw [fl64_eq_360_iff (by linarith)]
  constructor <;> intro h1 <;> linarith

theorem wrap360_range {h : ℚ} (h1 : -360 ≤ h) (h2 : h < -(1 / 2 ^ 45)) :
    0 ≤ fl64 (h + 360) ∧ fl64 (h + 360) < 360 ∧ fl64 (h + 360) ≤ 360 - 1 / 2 ^ 44 :=
  ⟨fl64_nonneg (by linarith), (fl64_lt_360_iff _).mpr (by linarith), fl64_le_pred360 (by linarith)⟩

/-! ### BDS 0,9 ground track: `let h = atan2(ew, ns) * (360 / 2π); if h < 0. { h + 360. } else { h }` -/

/-- the last statement of the `track` expression of bds09.rs on the computed angle `h`, with the addition
    rounded by `fl` -/
def track09 (fl : ℚ → ℚ) (h : ℚ) : ℚ := if h < 0 then fl (h + 360) else h

/-- The libm hypothesis of the BDS 0,9 track, on the binary64 value `h` the code computes as
    `libm::atan2(ew, ns) * (360.0 / (2.0 * PI))`: it lies in `[−181, 181]` (the exact angle is in `(−180, 180]`;
    one degree of slack for libm and the rounded conversion factor), and WHEN NEGATIVE it is at most `−b`.
    For integer components `|ew|, |ns| ≤ 4·1022` the exact angle, when negative, is below `−0.013°`
    (`Props/C03.track_negative_margin`; `−0.056°` for `≤ 1022`), so any `b < 0.013` holds for a libm whose
    atan2 is negative only when its first argument is and whose error is below `0.013° − b`
    (`Proofs/F64Track09.angleOk_of_libm` proves exactly that, over Mathlib's reals). -/
structure AngleOk (b h : ℚ) : Prop where
  lo : -181 ≤ h
  hi : h ≤ 181
  neg : h < 0 → h ≤ -b

theorem track09_range {b h : ℚ} (hb : 1 / 2 ^ 45 < b) (H : AngleOk b h) :
    0 ≤ track09 fl64 h ∧ track09 fl64 h < 360 := by
  unfold track09
  split
  · rename_i hneg
    have := wrap360_range (h := h) (by linarith [H.lo]) (by linarith [H.neg hneg])
    exact ⟨this.1, this.2.1⟩
  · rename_i hpos
    exact ⟨not_lt.mp hpos, by linarith [H.hi]⟩

/-- with the margin `b = 1/128` degree (a binary64 value below `atan(1/4088)·180/π = 0.01401…`) the track is at
    most `360 − 1/128`: 2.7·10¹¹ ulps below 360.0 -/
theorem track09_margin {h : ℚ} (H : AngleOk (1 / 128) h) :
    0 ≤ track09 fl64 h ∧ track09 fl64 h ≤ 360 - 1 / 128 := by
  unfold track09
  split
  · rename_i hneg
    have hlo : F64Exact ((-181 : ℚ) + 360) := by
      have := f64exact_int 179 (by norm_num); norm_num at this ⊢; exact this
    have hhi : F64Exact ((360 : ℚ) - 1 / 128) := by
      have := f64exact_div_pow 46079 7 (by norm_num) (by norm_num); norm_num at this ⊢; exact this
    -- the margin is a binary64 value (`360 − 1/128` exact), so the wrapped angle keeps it
    have := rounding_fl64.between (x := h + 360) hlo hhi (by linarith [H.lo]) (by linarith [H.neg hneg])
    exact ⟨by linarith [this.1], this.2⟩
  · rename_i hpos
    exact ⟨not_lt.mp hpos, by linarith [H.hi]⟩

/-- the hypothesis is satisfiable, on both arms -/
example : AngleOk (1 / 128) (-45) ∧ AngleOk (1 / 128) 90 ∧ AngleOk (1 / 128) 0 ∧ AngleOk (1 / 128) (-180) := by
  refine ⟨⟨?_, ?_, ?_⟩, ⟨?_, ?_, ?_⟩, ⟨?_, ?_, ?_⟩, ⟨?_, ?_, ?_⟩⟩ <;> norm_num

/-- … and it cannot be dropped: a negative angle of magnitude `2⁻⁴⁶`° wraps to exactly 360.0 -/
theorem track09_needs_margin : track09 fl64 (-(1 / 2 ^ 46)) = 360 := by
  unfold track09
  rw [if_pos (by norm_num)]
  exact (wrap360_eq_iff (by norm_num)).mpr (by norm_num)

/-! ### dyadic angles: `value as f64 * 90. / 512.` (+ 360.), `value as f64 * 360. / 128.`, `… / 1024.` -/

/-- `read_track` (bds50.rs) / `read_heading` (bds60.rs): `let mut t = k as f64 * 90. / 512.; if t < 0. { t += 360. }`
    for the signed 11-bit `k`, every operation rounded by `fl` -/
def angle11 (fl : ℚ → ℚ) (k : ℤ) : ℚ :=
  let t := fl (fl ((k : ℚ) * 90) / 512)
  if t < 0 then fl (t + 360) else t

/-- BDS 5,0 track / BDS 6,0 heading: every f64 operation is exact, so the binary64 result is the rational
    `((k·90) mod (360·512)) / 512` of the model -/
theorem angle11_exact (k : ℤ) (h1 : -1024 ≤ k) (h2 : k < 1024) :
    angle11 fl64 k = (((k * 90) % (360 * 512) : ℤ) : ℚ) / 512 ∧
      0 ≤ angle11 fl64 k ∧ angle11 fl64 k ≤ 360 - 90 / 512 := by
  have e1 : fl64 ((k : ℚ) * 90) = (k : ℚ) * 90 := by
    have := fl64_int (k * 90) (abs_lt.mpr (by omega))
    push_cast at this; exact this
  have e2 : fl64 ((k : ℚ) * 90 / 512) = (k : ℚ) * 90 / 512 := by
    have := fl64_int_div_pow2 (k * 90) 9 (abs_lt.mpr (by omega)) (by norm_num)
    push_cast at this; norm_num at this; exact this
  have e3 : fl64 ((k : ℚ) * 90 / 512 + 360) = (k : ℚ) * 90 / 512 + 360 := by
    have := fl64_int_div_pow2 (k * 90 + 184320) 9 (abs_lt.mpr (by omega)) (by norm_num)
    have e : (((k * 90 + 184320 : ℤ) : ℚ)) / 2 ^ 9 = (k : ℚ) * 90 / 512 + 360 := by push_cast; ring
    rwa [e] at this
  have hk1 : (-1024 : ℚ) ≤ (k : ℚ) := by exact_mod_cast h1
  have hk2 : (k : ℚ) ≤ 1023 := by exact_mod_cast (by omega : k ≤ 1023)
  unfold angle11
  simp only [e1, e2]
  split
  · rename_i hneg
    have hk : k < 0 := by exact_mod_cast (by linarith only [hneg] : (k : ℚ) < 0)
    have hk' : (k : ℚ) ≤ -1 := by exact_mod_cast (by omega : k ≤ -1)
    have hm : (k * 90) % (360 * 512) = k * 90 + 184320 := by omega
    rw [e3, hm]
    exact ⟨by push_cast; ring, by linarith only [hk1], by linarith only [hk']⟩
  · rename_i hpos
    have hk : 0 ≤ k := by exact_mod_cast (by linarith only [hpos] : (0 : ℚ) ≤ k)
    have hm : (k * 90) % (360 * 512) = k * 90 := by omega
    rw [hm]
    exact ⟨by push_cast; ring, not_lt.mp hpos, by linarith only [hk2]⟩

/-- `value as f64 * 360. / 2^n` for an unsigned code `v < 2^n` (BDS 0,6 track `n = 7`, BDS 0,9 heading `n = 10`):
    no wrap in the code -/
def angleU (fl : ℚ → ℚ) (n : ℕ) (v : ℕ) : ℚ := fl (fl ((v : ℚ) * 360) / 2 ^ n)

theorem angleU_exact (n v : ℕ) (hn : n ≤ 40) (hv : v < 2 ^ n) :
    angleU fl64 n v = (v : ℚ) * 360 / 2 ^ n ∧ 0 ≤ angleU fl64 n v ∧ angleU fl64 n v < 360 := by
  have hp : (2 : ℕ) ^ n ≤ 2 ^ 40 := Nat.pow_le_pow_right (by norm_num) hn
  have hb : |((v : ℤ) * 360)| < 2 ^ 53 := by
    rw [abs_of_nonneg (by positivity)]
    have : (v : ℤ) < 2 ^ 40 := by exact_mod_cast lt_of_lt_of_le hv hp
    omega
  have e1 : fl64 ((v : ℚ) * 360) = (v : ℚ) * 360 := by
    have := fl64_int ((v : ℤ) * 360) hb
    push_cast at this; exact this
  have e2 : fl64 ((v : ℚ) * 360 / 2 ^ n) = (v : ℚ) * 360 / 2 ^ n := by
    have := fl64_int_div_pow2 ((v : ℤ) * 360) n hb (by omega)
    push_cast at this; exact this
  have hpos : (0 : ℚ) < 2 ^ n := by positivity
  have hvq : (v : ℚ) < 2 ^ n := by exact_mod_cast hv
  unfold angleU
  rw [e1, e2]
  refine ⟨rfl, by positivity, ?_⟩
  rw [div_lt_iff₀ hpos]; linarith

end Rs1090.Proofs.F64Wrap
