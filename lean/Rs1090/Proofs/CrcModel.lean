/-
`modes_checksum` (the table-driven model over the generated `CRC_TABLE`) computes the
polynomial remainder of Spec/Crc.lean — for every byte string.
-/
import Rs1090.Proofs.Crc
import Rs1090.Model.Decode.Checksum
namespace Rs1090.Proofs.Crc
open Rs1090 Rs1090.Spec.Crc Rs1090.Model

/-- All 256 rows of `CRC_TABLE` (regenerated from crc.rs on every
    run) are the parities of the single bytes -/
theorem table_ok : Gen.Crc.crcTable = crcTableList := by decide +kernel

theorem idx_table (i : Nat) (h : i < 256) : idx Gen.Crc.crcTable i = .ok (crcTable i).toNat := by
  rw [table_ok]
  simp [idx, crcTableList, h]

theorem toNat_byte (m : Nat) (h : m < 256) : (BitVec.ofNat 24 m).toNat = m :=
  Nat.mod_eq_of_lt (by omega)

theorem polyMod_bits8 (m : Nat) (h : m < 256) : polyMod (bits8 m) = BitVec.ofNat 24 m := by
  apply BitVec.eq_of_toNat_eq
  rw [polyMod_short _ (by rw [bits8_length]; decide), bits8, valBE_bitsN, toNat_byte m h]
  omega

/-- a table row is its index carried through 24 register steps; the first 16 only shift -/
theorem stepN8_hi (h : Nat) (hh : h < 256) : stepN 8 (BitVec.ofNat 24 h <<< 16) = crcTable h := by
  rw [crcTable, parity_eq, polyMod_bits8 h hh, stepN_add 16 8,
    stepN_small 16 _ (by rw [toNat_byte h hh]; omega)]

theorem split_hi_lo (r : BitVec 24) : ∃ lo : BitVec 24, lo.toNat < 2 ^ 16 ∧ r = ((r >>> 16) <<< 16) ^^^ lo := by
  refine ⟨(r.setWidth 16).setWidth 24, ?_, ?_⟩
  · rw [BitVec.toNat_setWidth, BitVec.toNat_setWidth]
    exact Nat.lt_of_le_of_lt (Nat.mod_le _ _) (Nat.mod_lt _ (by decide))
  · ext i hi
    rw [BitVec.getElem_xor, BitVec.getElem_shiftLeft, BitVec.getElem_setWidth, BitVec.getLsbD_setWidth]
    by_cases h : i < 16
    · simp only [h, decide_true, Bool.not_true, Bool.false_and, Bool.false_xor, Bool.true_and]
      exact (BitVec.getLsbD_eq_getElem hi).symm
    · simp only [h, decide_false, Bool.not_false, Bool.true_and, Bool.false_and, Bool.xor_false]
      rw [BitVec.getElem_ushiftRight]
      exact getElem_congr_idx (by omega)

theorem hi_lt (r : BitVec 24) : (r >>> 16).toNat < 256 := by
  rw [BitVec.toNat_ushiftRight, Nat.shiftRight_eq_div_pow]
  have := r.isLt
  omega

/-- eight multiplications by `x` = shift by a byte and fold the byte shifted out through the table -/
theorem stepN8 (r : BitVec 24) : stepN 8 r = (r <<< 8) ^^^ crcTable (r >>> 16).toNat := by
  obtain ⟨lo, hlo, hs⟩ := split_hi_lo r
  -- the top byte goes through the table …
  have hH : stepN 8 ((r >>> 16) <<< 16) = crcTable (r >>> 16).toNat := by
    have := stepN8_hi (r >>> 16).toNat (hi_lt r)
    rwa [BitVec.ofNat_toNat, BitVec.setWidth_eq] at this
  -- … and is all that the shift loses
  have hsh : r <<< 8 = lo <<< 8 := by
    conv => lhs; rw [hs]
    rw [BitVec.shiftLeft_xor_distrib, ← BitVec.shiftLeft_add, BitVec.shiftLeft_eq_zero (by omega),
      BitVec.zero_xor]
  conv => lhs; rw [hs]
  rw [stepN_xor, hH, stepN_small 8 lo (by omega), hsh, BitVec.xor_comm]

theorem crcTable_xor (a b : Nat) : crcTable (a ^^^ b) = crcTable a ^^^ crcTable b := by
  unfold crcTable parity bits8
  have hl : (bitsN 8 a).length = (bitsN 8 b).length := by rw [bitsN_length, bitsN_length]
  rw [bitsN_xor, ← xorBits_zeros 24, ← xorBits_append _ _ _ _ hl, xorBits_zeros,
    polyMod_xor _ _ (by rw [List.length_append, List.length_append, hl])]

/-- one byte of the table-driven algorithm, on the specification side -/
def next (r : BitVec 24) (b : Nat) : BitVec 24 := (r <<< 8) ^^^ crcTable ((r >>> 16).toNat ^^^ b)

theorem parity_append_byte (xs : List Bool) (b : Nat) :
    parity (xs ++ bits8 b) = next (parity xs) b := by
  have h1 : parity (xs ++ bits8 b) = stepN 32 (polyMod xs) ^^^ crcTable b := by
    rw [parity, List.append_assoc, polyMod_append, List.length_append, bits8_length, zeros_length]
    rfl
  rw [h1, stepN_add 24 8, ← parity_eq, stepN8, next, crcTable_xor, BitVec.xor_assoc]

theorem foldl_next (data : List Nat) (xs : List Bool) :
    data.foldl next (parity xs) = parity (xs ++ bits data) := by
  induction data generalizing xs with
  | nil => rw [bits, List.append_nil]; rfl
  | cons b rest ih => rw [List.foldl_cons, ← parity_append_byte, ih, bits, List.append_assoc]

theorem crcLoop_cons (b : Nat) (rest : List Nat) (r : BitVec 24) (hb : b < 256) :
    crcLoop (b :: rest) r.toNat = crcLoop rest (next r b).toNat := by
  have hr := r.isLt
  have hidx : (r.toNat &&& 0xff0000) >>> 16 = (r >>> 16).toNat := by
    rw [BitVec.toNat_ushiftRight, Nat.shiftRight_and_distrib]
    have : (0xff0000 : Nat) >>> 16 = 2 ^ 8 - 1 := by decide
    rw [this, Nat.and_two_pow_sub_one_eq_mod, Nat.shiftRight_eq_div_pow]
    omega
  have hi := hi_lt r
  have hlt : b ^^^ (r >>> 16).toNat < 256 := Nat.xor_lt_two_pow (n := 8) hb hi
  rw [crcLoop, hidx]
  show Outcome.bind _ _ = _
  rw [idx_table _ hlt, Outcome.bind_ok]
  congr 1
  rw [next, BitVec.toNat_xor, BitVec.toNat_shiftLeft, Nat.xor_comm b]
  have ht := (crcTable ((r >>> 16).toNat ^^^ b)).isLt
  generalize (crcTable ((r >>> 16).toNat ^^^ b)).toNat = t at *
  have : (0xffffff : Nat) = 2 ^ 24 - 1 := by decide
  rw [this, Nat.and_two_pow_sub_one_eq_mod, Nat.xor_mod_two_pow, Nat.mod_eq_of_lt ht]
  congr 1
  omega

theorem crcLoop_foldl (data : List Nat) (r : BitVec 24) (hd : Bytes data) :
    crcLoop data r.toNat = .ok (data.foldl next r).toNat := by
  induction data generalizing r with
  | nil => rfl
  | cons b rest ih =>
    rw [crcLoop_cons b rest r (hd b List.mem_cons_self), ih _ (fun x hx => hd x (List.mem_cons_of_mem b hx))]
    rfl

theorem parity_nil : parity [] = 0#24 := by decide

theorem crcLoop_zero (data : List Nat) (hd : Bytes data) :
    crcLoop data 0 = .ok (parity (bits data)).toNat := by
  have := crcLoop_foldl data (parity []) hd
  rwa [foldl_next, parity_nil] at this

theorem polyMod_bits3 (m1 m2 m3 : Nat) (h1 : m1 < 256) (h2 : m2 < 256) (h3 : m3 < 256) :
    (polyMod (bits [m1, m2, m3])).toNat = (m1 <<< 16) ^^^ (m2 <<< 8) ^^^ m3 := by
  have e : bits [m1, m2, m3] = bits8 m1 ++ (bits8 m2 ++ bits8 m3) := by simp [bits]
  rw [e, polyMod_append, polyMod_append, polyMod_bits8 _ h1, polyMod_bits8 _ h2, polyMod_bits8 _ h3]
  simp only [List.length_append, bits8_length]
  rw [stepN_small 16 _ (by rw [toNat_byte m1 h1]; omega), stepN_small 8 _ (by rw [toNat_byte m2 h2]; omega)]
  simp only [BitVec.toNat_xor, BitVec.toNat_shiftLeft, BitVec.toNat_ofNat, Nat.shiftLeft_eq]
  rw [Nat.xor_assoc]
  congr 1
  · omega
  · congr 1 <;> omega

theorem idx_append_right {α} (xs ys : List α) (k : Nat) (a : α) (h : ys[k]? = some a) :
    idx (xs ++ ys) (xs.length + k) = .ok a := by
  rw [idx, List.getElem?_append_right (Nat.le_add_right _ _), Nat.add_sub_cancel_left, h]

/-- `modes_checksum` reads `bits / 8` bytes: a prefix `data`, then three bytes XORed in as they are -/
theorem modesChecksum_split (data tail : List Nat) (m1 m2 m3 nbits : Nat) (hn : nbits / 8 = data.length + 3)
    (hd : Bytes data) (h1 : m1 < 256) (h2 : m2 < 256) (h3 : m3 < 256) :
    modesChecksum (data ++ m1 :: m2 :: m3 :: tail) nbits
      = .ok (polyMod (bits (data ++ [m1, m2, m3]))).toNat := by
  have hc : ¬ (data.length + 3 < 3 ∨ (data ++ m1 :: m2 :: m3 :: tail).length < data.length + 3) := by
    rw [List.length_append, List.length_cons, List.length_cons, List.length_cons]
    omega
  rw [modesChecksum]
  simp only [hn, Bool.or_eq_true, decide_eq_true_eq, hc, ↓reduceIte, Nat.add_sub_cancel]
  have i1 : idx (data ++ m1 :: m2 :: m3 :: tail) data.length = .ok m1 := idx_append_right data _ 0 m1 rfl
  have i2 : idx (data ++ m1 :: m2 :: m3 :: tail) (data.length + 3 - 2) = .ok m2 :=
    idx_append_right data _ 1 m2 rfl
  have i3 : idx (data ++ m1 :: m2 :: m3 :: tail) (data.length + 3 - 1) = .ok m3 :=
    idx_append_right data _ 2 m3 rfl
  rw [List.take_left' rfl, crcLoop_zero data hd, i1, i2, i3]
  simp only [Outcome.bind_ok', Outcome.pure_eq]
  rw [bits_append, polyMod_append24 _ _ (bits_length _), BitVec.toNat_xor, polyMod_bits3 _ _ _ h1 h2 h3]

theorem split_at3 (msg : List Nat) (k : Nat) (h : k + 3 ≤ msg.length) :
    ∃ m1 m2 m3 tail, msg = msg.take k ++ m1 :: m2 :: m3 :: tail := by
  have hd : 3 ≤ (msg.drop k).length := by rw [List.length_drop]; omega
  match hm : msg.drop k, hd with
  | a :: b :: c :: tail, _ => exact ⟨a, b, c, tail, by rw [← hm, List.take_append_drop]⟩

/-- The checksum is the polynomial remainder of the first `bits / 8` bytes, whatever `bits` is:
    an error when that is fewer than three bytes or more than the message has, never a panic
    (the table index is always < 256) -/
theorem modesChecksum_spec (msg : List Nat) (nbits : Nat) (hb : Bytes msg) :
    modesChecksum msg nbits =
      if nbits / 8 < 3 ∨ msg.length < nbits / 8 then .err .incomplete
      else .ok (polyMod (bits (msg.take (nbits / 8)))).toNat := by
  by_cases hc : nbits / 8 < 3 ∨ msg.length < nbits / 8
  · rw [if_pos hc, modesChecksum]
    simp only [Bool.or_eq_true, decide_eq_true_eq, hc, ↓reduceIte]
  · rw [if_neg hc]
    obtain ⟨m1, m2, m3, tail, e⟩ := split_at3 msg (nbits / 8 - 3) (by omega)
    have hlen : (msg.take (nbits / 8 - 3)).length = nbits / 8 - 3 := by rw [List.length_take]; omega
    generalize msg.take (nbits / 8 - 3) = data at e hlen
    subst e
    have hn : nbits / 8 = data.length + 3 := by omega
    have ht : (data ++ m1 :: m2 :: m3 :: tail).take (nbits / 8) = data ++ [m1, m2, m3] := by
      rw [hn, List.take_append, List.take_of_length_le (Nat.le_add_right _ _), Nat.add_sub_cancel_left]
      rfl
    rw [ht]
    exact modesChecksum_split data tail m1 m2 m3 nbits hn (fun x hx => hb x (List.mem_append_left _ hx))
      (hb m1 (by simp)) (hb m2 (by simp)) (hb m3 (by simp))

theorem modesChecksum_noPanic (msg : List Nat) (nbits : Nat) (hb : Bytes msg) :
    (modesChecksum msg nbits).isPanic = false := by
  rw [modesChecksum_spec msg nbits hb]
  split <;> rfl

theorem modesChecksum_lt (msg : List Nat) (nbits crc : Nat) (hb : Bytes msg)
    (h : modesChecksum msg nbits = .ok crc) : crc < 2 ^ 24 := by
  rw [modesChecksum_spec msg nbits hb] at h
  split at h
  · cases h
  · cases h
    exact BitVec.isLt _

/-- the decoder's call: `bits` is the length of the message -/
theorem modesChecksum_eq (msg : List Nat) (h : 3 ≤ msg.length) (hb : Bytes msg) :
    modesChecksum msg (8 * msg.length) = .ok (polyMod (bits msg)).toNat := by
  rw [modesChecksum_spec msg _ hb, Nat.mul_div_cancel_left _ (by decide), if_neg (by omega), List.take_length]

theorem apField_bits (data : List Nat) (a : Nat) :
    bits (apField data a) = bitsN 24 ((parity (bits data)).toNat ^^^ a) :=
  bits_pack _ (by rw [bitsN_length])

theorem apField_length (data : List Nat) (a : Nat) : (apField data a).length = 3 := by
  rw [apField, pack_length, bitsN_length]

theorem encodeAP_bytes (data : List Nat) (a : Nat) (hd : Bytes data) : Bytes (encodeAP data a) := by
  intro x hx
  simp only [encodeAP, List.mem_append] at hx
  rcases hx with hx | hx
  · exact hd x hx
  · exact pack_bytes _ x hx

theorem encodeAP_length (data : List Nat) (a : Nat) : (encodeAP data a).length = data.length + 3 := by
  simp [encodeAP, apField_length]

theorem syndrome_encodeAP (data : List Nat) (a : Nat) (ha : a < 2 ^ 24) :
    (polyMod (bits (encodeAP data a))).toNat = a := by
  unfold encodeAP
  rw [bits_append, apField_bits, polyMod_append24 _ _ (bitsN_length _ _), BitVec.toNat_xor,
    polyMod_short _ (by rw [bitsN_length]; decide), valBE_bitsN]
  have hp := (parity (bits data)).isLt
  generalize (parity (bits data)).toNat = p at *
  rw [Nat.mod_eq_of_lt (Nat.xor_lt_two_pow hp ha), ← Nat.xor_assoc, Nat.xor_self, Nat.zero_xor]

end Rs1090.Proofs.Crc
