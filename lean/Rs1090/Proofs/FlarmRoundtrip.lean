/-
C15 helper lemmas: a packet built by the Spec encoder decodes to the record of its own words,
and what the decoder's shifts, masks and window arithmetic extract from those words.
-/
import Rs1090.Proofs.FlarmTotal
namespace Rs1090.Proofs.Flarm
open Rs1090 Rs1090.Model.Flarm Rs1090.Gen.Flarm

theorem le32_wordBytes (c : BitVec 32) :
    BitVec.ofNat 32 (le32 (c.toNat % 256) (c.toNat / 256 % 256) (c.toNat / 65536 % 256)
      (c.toNat / 16777216 % 256)) = c := by
  have h : c.toNat < 4294967296 := c.isLt
  have : le32 (c.toNat % 256) (c.toNat / 256 % 256) (c.toNat / 65536 % 256)
      (c.toNat / 16777216 % 256) = c.toNat := by
    unfold le32; omega
  rw [this, BitVec.ofNat_toNat, BitVec.setWidth_eq]

theorem readWords_wordBytes (ws : List (BitVec 32)) (tail : List Nat) :
    readWords ws.length (ws.flatMap Spec.Flarm.wordBytes ++ tail) = .ok (ws, tail) := by
  induction ws with
  | nil => rfl
  | cons c ws ih =>
    simp only [List.flatMap_cons, Spec.Flarm.wordBytes, List.cons_append, List.nil_append,
      List.length_cons, readWords, ih, Outcome.bind_ok, le32_wordBytes]

theorem keyAddr_eq (addr : Nat) :
    BitVec.ofNat 32 (((addr <<< ADDR_SHL) % 2 ^ 32) &&& ADDR_MASK) = Spec.Flarm.keyAddress addr := by
  have e : ((addr <<< ADDR_SHL) % 2 ^ 32) &&& ADDR_MASK = addr * 256 % 2 ^ 24 := by
    show ((addr <<< 8) % 2 ^ 32) &&& 16777215 = _
    rw [show (16777215 : Nat) = 2 ^ 24 - 1 from rfl, Nat.and_two_pow_sub_one_eq_mod, Nat.shiftLeft_eq,
      Nat.mod_mod_of_dvd _ (by decide)]
  rw [e]; rfl

theorem decodeBtea_cipher (ts : Nat) (hts : ts < 2 ^ 32) (f : Spec.Flarm.Fields) (tail : List Nat) :
    decodeBtea ts f.addr ((Spec.Flarm.cipher ts f).flatMap Spec.Flarm.wordBytes ++ tail)
      = .ok (Spec.Flarm.words f, tail) := by
  have hkey : makeKey ts (((f.addr <<< ADDR_SHL) % 2 ^ 32) &&& ADDR_MASK)
      = Spec.Flarm.makeKey (BitVec.ofNat 32 ts) (Spec.Flarm.keyAddress f.addr) := by
    rw [makeKey_spec ts _ hts (Nat.lt_of_le_of_lt Nat.and_le_right (by decide)), keyAddr_eq]
  have hkl := makeKey_length ts (((f.addr <<< ADDR_SHL) % 2 ^ 32) &&& ADDR_MASK)
  rw [hkey] at hkl
  have hcl : (Spec.Flarm.cipher ts f).length = 5 := bteaEnc_length _ _
  unfold decodeBtea
  simp only [hkey, ← hcl, readWords_wordBytes, Outcome.bind_ok]
  rw [Spec.Flarm.cipher, btea_bteaEnc _ _ rfl hkl, Outcome.bind_ok]

theorem magic_build (b : Bool) : magicValue (if b then 0x10 else 0x20) = .ok b := by
  cases b <;> decide

theorem fromRecord_buildPacket (F : FloatOps) (ts : Nat) (hts : ts < 2 ^ 32)
    (f : Spec.Flarm.Fields) (haddr : f.addr < 2 ^ 24) (roundLat roundLon : Int)
    (hlat : IsI32 roundLat) (hlon : IsI32 roundLon) (t0 t1 : Nat) (extra : List Nat) :
    ∃ m, fromRecord F ts true roundLat roundLon (Spec.Flarm.buildPacket ts f (t0 :: t1 :: extra))
        = .ok (recordOf F f.addr f.addrIsIcao roundLat roundLon
            (BitVec.ofNat 32 (Spec.Flarm.word0 f)) (BitVec.ofNat 32 (Spec.Flarm.word1 f))
            (BitVec.ofNat 32 (Spec.Flarm.word2 f)) (BitVec.ofNat 32 (Spec.Flarm.word3 f))
            (BitVec.ofNat 32 (Spec.Flarm.word4 f)) m) := by
  obtain ⟨m, hm, h0, h3⟩ := decodeMult_ok (BitVec.ofNat 32 (Spec.Flarm.word2 f)).toNat
  have haddr' : f.addr % 256 + 256 * (f.addr / 256 % 256) + 65536 * (f.addr / 65536 % 256) = f.addr := by
    omega
  refine ⟨m, ?_⟩
  rw [Spec.Flarm.buildPacket, List.append_assoc]
  simp only [List.cons_append, List.nil_append]
  rw [fromRecord_cons, magic_build, Outcome.bind_ok, haddr', decodeBtea_cipher ts hts, Outcome.bind_ok,
    Spec.Flarm.words, fields_eq F _ _ _ _ hlat hlon _ _ _ _ _ _ m hm h0 h3]
  exact if_neg (by simp only [List.length_cons]; omega)

theorem b2n_le (b : Bool) : Spec.Flarm.b2n b ≤ 1 := by cases b <;> decide

theorem bit_eq_b2n (x : Nat) (b : Bool) (h : x = Spec.Flarm.b2n b) : (x == 1) = b := by
  subst h; cases b <;> rfl

theorem coordBits_lt (x : Int) (k : Nat) : Spec.Flarm.coordBits x k < 2 ^ k := by
  have hpos : (0 : Int) < 2 ^ k := Int.pow_pos (by decide)
  rw [Spec.Flarm.coordBits, Int.toNat_lt (Int.emod_nonneg _ (Int.ne_of_gt hpos)), Int.natCast_pow]
  exact Int.emod_lt_of_pos _ hpos

theorem word0_extract (f : Spec.Flarm.Fields) (hf : f.WF) :
    let w := (BitVec.ofNat 32 (Spec.Flarm.word0 f)).toNat
    (w >>> ACTYPE_SHR) &&& ACTYPE_MASK = f.actype ∧
    (((w >>> NOTRACK_SHR) &&& NOTRACK_MASK) == NOTRACK_VAL) = f.noTrack ∧
    (((w >>> STEALTH_SHR) &&& STEALTH_MASK) == STEALTH_VAL) = f.stealth ∧
    (w >>> GPS_SHR) &&& GPS_MASK = f.gps ∧
    w &&& VS_MASK = f.vs := by
  have := hf.vs; have := hf.spareA; have := hf.spareB; have := hf.gps; have := hf.actype
  have := b2n_le f.stealth; have := b2n_le f.noTrack
  have hw : (BitVec.ofNat 32 (Spec.Flarm.word0 f)).toNat = Spec.Flarm.word0 f :=
    Nat.mod_eq_of_lt (by unfold Spec.Flarm.word0; omega)
  simp only [hw]
  show (Spec.Flarm.word0 f >>> 28) &&& (2 ^ 4 - 1) = f.actype ∧
    (((Spec.Flarm.word0 f >>> 14) &&& (2 ^ 1 - 1)) == 1) = f.noTrack ∧
    (((Spec.Flarm.word0 f >>> 13) &&& (2 ^ 1 - 1)) == 1) = f.stealth ∧
    (Spec.Flarm.word0 f >>> 16) &&& (2 ^ 12 - 1) = f.gps ∧
    Spec.Flarm.word0 f &&& (2 ^ 10 - 1) = f.vs
  simp only [Nat.and_two_pow_sub_one_eq_mod, Nat.shiftRight_eq_div_pow]
  unfold Spec.Flarm.word0
  exact ⟨by omega, bit_eq_b2n _ _ (by omega), bit_eq_b2n _ _ (by omega), by omega, by omega⟩

/-- word 1: altitude and the 19 transmitted latitude bits -/
theorem word1_extract (f : Spec.Flarm.Fields) (hf : f.WF) :
    let w := (BitVec.ofNat 32 (Spec.Flarm.word1 f)).toNat
    (w >>> ALT_SHR) &&& ALT_MASK = f.alt ∧ w % 524288 = Spec.Flarm.coordBits f.latE7 19 := by
  have := hf.alt; have := coordBits_lt f.latE7 19
  have hw : (BitVec.ofNat 32 (Spec.Flarm.word1 f)).toNat = Spec.Flarm.word1 f :=
    Nat.mod_eq_of_lt (by unfold Spec.Flarm.word1; omega)
  simp only [hw]
  show (Spec.Flarm.word1 f >>> 19) &&& (2 ^ 13 - 1) = f.alt ∧ _
  simp only [Nat.and_two_pow_sub_one_eq_mod, Nat.shiftRight_eq_div_pow]
  unfold Spec.Flarm.word1
  omega

/-- word 2: the 20 transmitted longitude bits -/
theorem word2_extract (f : Spec.Flarm.Fields) (hf : f.WF) :
    (BitVec.ofNat 32 (Spec.Flarm.word2 f)).toNat % 1048576 = Spec.Flarm.coordBits f.lonE7 20 := by
  have := hf.spareC; have := hf.factor; have := coordBits_lt f.lonE7 20
  have hw : (BitVec.ofNat 32 (Spec.Flarm.word2 f)).toNat = Spec.Flarm.word2 f :=
    Nat.mod_eq_of_lt (by unfold Spec.Flarm.word2; omega)
  rw [hw]
  unfold Spec.Flarm.word2
  omega

/-- `foldMod m h` picks the representative in `[h - m, h)` -/
theorem foldMod_eq {m h x y : Int} (hxy : x % m = y % m) (h1 : h - m ≤ y) (h2 : y < h) (hm : 0 ≤ h ∧ h ≤ m) :
    foldMod m h x = y := by
  unfold foldMod
  rw [hxy]
  by_cases hy : 0 ≤ y
  · rw [Int.emod_eq_of_lt hy (by omega), if_neg (by omega)]
  · rw [Int.emod_eq_add_self_emod, Int.emod_eq_of_lt (by omega) (by omega), if_pos (by omega)]
    omega

/-- For **every** reference `r` (any `i32`) and true coordinate `q` (1e-7 degree, `i32`) whose
    128-unit cells differ by less than `h = 2^(k-1)` (from `−h` up to `h − 1`), `k` the number of
    transmitted bits, the decoder returns the centre of the true cell. -/
theorem coord_window (k : Nat) (h q r : Int) (hk : (2 : Int) ^ k = 2 * h) (hq : IsI32 q)
    (hwin : -h ≤ q / 128 - r / 128 ∧ q / 128 - r / 128 < h) :
    wrapS32 ((foldMod (2 ^ k) h (((Spec.Flarm.coordBits q k : Nat) : Int) - r / 128) + r / 128) * 128) + 64
      = q / 128 * 128 + 64 := by
  have hbits : ((Spec.Flarm.coordBits q k : Nat) : Int) = q / 128 % 2 ^ k :=
    Int.toNat_of_nonneg (Int.emod_nonneg _ (by omega))
  rw [hbits, foldMod_eq (Int.emod_sub_emod _ _ _) (by omega) hwin.2 (by omega)]
  unfold wrapS32
  omega

theorem cell_centre {x q : Int} (h : x = q / 128 * 128 + 64) :
    x = q / 128 * 128 + 64 ∧ -64 ≤ x - q ∧ x - q ≤ 64 :=
  ⟨h, by omega, by omega⟩

/-- latitude: 19 bits, `± 2^18` cells -/
theorem lat_window (w1 : Nat) (q r : Int) (hw : w1 % 524288 = Spec.Flarm.coordBits q 19) (hq : IsI32 q)
    (hwin : -262144 ≤ q / 128 - r / 128 ∧ q / 128 - r / 128 < 262144) :
    wrapS32 ((fold19 (((w1 % 524288 : Nat) : Int) - r / 128) + r / 128) * 128) + 64
      = q / 128 * 128 + 64 := by
  rw [hw]
  exact coord_window 19 262144 q r (by decide) hq hwin

/-- longitude: 20 bits, `± 2^19` cells -/
theorem lon_window (w2 : Nat) (q r : Int) (hw : w2 % 1048576 = Spec.Flarm.coordBits q 20) (hq : IsI32 q)
    (hwin : -524288 ≤ q / 128 - r / 128 ∧ q / 128 - r / 128 < 524288) :
    wrapS32 ((fold20 (((w2 % 1048576 : Nat) : Int) - r / 128) + r / 128) * 128) + 64
      = q / 128 * 128 + 64 := by
  rw [hw]
  exact coord_window 20 524288 q r (by decide) hq hwin

end Rs1090.Proofs.Flarm
