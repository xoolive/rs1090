/-
For Props/C09.lean: the loop on a stream that is cut ANYWHERE (inside a frame, inside
an escape pair).  The received bytes are the wire form of the completely received frames followed
by a strict prefix of the next frame; the loop hands on every complete frame that the 23-byte
look-ahead does not hold back, and leaves an incomplete frame untouched.
-/
import Rs1090.Proofs.BeastSpec
namespace Rs1090.Proofs.Beast
open Rs1090 Rs1090.Model.Beast Rs1090.Spec.Beast
open Rs1090.Gen.Beast (msgSize VALID_TYPES)

theorem encode_append (a b : List Frame) : encode (a ++ b) = encode a ++ encode b := by
  induction a with
  | nil => rfl
  | cons f a ih => rw [List.cons_append, encode, encode, ih, List.append_assoc]

theorem expected_append (a b : List Frame) : expected (a ++ b) = expected a ++ expected b := by
  unfold expected; rw [List.filter_append, List.map_append]

theorem scan_partial (sz : Nat) : ∀ (body msg : Bytes) (i m : Nat),
    m < (escape body).length → msg.length + body.length = sz →
    (scan sz ((escape body).take m) msg i).1.length < sz
  | [], _, _, _, hm, _ => by simp [escape] at hm
  | b :: body, msg, i, m, hm, h => by
    have hlt : msg.length < sz := by simp at h; omega
    have ih := fun j k hk => scan_partial sz body (msg ++ [b]) j k hk (by simp at h ⊢; omega)
    by_cases hb : b = 26
    · subst hb
      rw [escape_cons_esc] at hm ⊢
      match m, hm with
      | 0, _ => simpa [scan_nil] using hlt
      | 1, _ => simp only [List.take_succ_cons, List.take_zero]; rw [scan_esc_end _ hlt]; exact hlt
      | m + 2, hm =>
        simp only [List.take_succ_cons]
        rw [scan_esc_esc _ _ hlt]
        exact ih _ _ (by simp at hm; omega)
    · rw [escape_cons_ne _ hb] at hm ⊢
      match m, hm with
      | 0, _ => simpa [scan_nil] using hlt
      | m + 1, hm =>
        simp only [List.take_succ_cons]
        rw [scan_plain _ _ hlt hb]
        exact ih _ _ (by simp at hm; omega)

/-- an incomplete frame (a strict prefix of a well-formed frame's wire form, at least 23 bytes of it)
    is left untouched: `if msg.len() < msg_size { break; }` -/
theorem F_partial {f : Frame} (h : f.WF) (n : Nat) (hn : n < f.wire.length)
    (h23 : 23 ≤ (f.wire.take n).length) : F (f.wire.take n) = (f.wire.take n, []) := by
  obtain ⟨ty, body⟩ := f
  have hv : VALID_TYPES.contains ty = true := (WF_size h).1
  have hs : msgSize ty = body.length + 2 := (WF_size h).2
  have hn2 : 23 ≤ n := by rw [List.length_take] at h23; omega
  obtain ⟨m, rfl⟩ : ∃ m, n = m + 2 := ⟨n - 2, by omega⟩
  have hw : (Frame.wire ⟨ty, body⟩).take (m + 2) = 26 :: ty :: (escape body).take m := rfl
  have hm : m < (escape body).length := by simpa [Frame.wire] using hn
  rw [hw] at h23 ⊢
  rw [F_unfold, if_neg (by omega), iter_of_head h23, iterTail, if_pos hv,
    if_pos (scan_partial _ body [26, ty] 2 m hm (by rw [hs]; exact Nat.add_comm _ _))]

/-- `p` is what has been received of the next frame: nothing, or a strict prefix of its wire form -/
def Partial (p : Bytes) : Prop :=
  p = [] ∨ ∃ (f : Frame) (n : Nat), f.WF ∧ n < f.wire.length ∧ p = f.wire.take n

theorem F_of_partial {p : Bytes} (hp : Partial p) (h23 : 23 ≤ p.length) : F p = (p, []) := by
  rcases hp with rfl | ⟨f, n, hwf, hn, rfl⟩
  · simp at h23
  · exact F_partial hwf n hn h23

/-- **Any cut.**  Complete well-formed frames `a` followed by an incomplete one `p`: the loop hands
    on the frames of a prefix `a₁`, keeps the wire form of the other complete frames `a₂` and `p`;
    complete frames are kept only when the whole buffer is shorter than the look-ahead; and the
    prefix is maximal. -/
theorem F_encode_partial {p : Bytes} (hp : Partial p) :
    ∀ (a : List Frame), (∀ f ∈ a, f.WF) →
    ∃ a₁ a₂, a = a₁ ++ a₂ ∧ F (encode a ++ p) = (encode a₂ ++ p, expected a₁) ∧
      (a₂ = [] ∨ (encode a₂ ++ p).length < 23) ∧
      ∀ q g, a₁ = q ++ [g] → 23 ≤ (encode (g :: a₂) ++ p).length := by
  intro a
  induction a with
  | nil =>
    intro _
    refine ⟨[], [], rfl, ?_, .inl rfl, by simp⟩
    simp only [encode, List.nil_append, expected, List.filter_nil, List.map_nil]
    by_cases h : p.length < 23
    · exact F_short h
    · exact F_of_partial hp (Nat.le_of_not_lt h)
  | cons f a ih =>
    intro hwf
    by_cases h : (encode (f :: a) ++ p).length < 23
    · exact ⟨[], f :: a, rfl, F_short h, .inr h, by simp⟩
    · obtain ⟨a₁, a₂, hab, hF, hlen, hmax⟩ := ih (fun g hg => hwf g (List.mem_cons_of_mem _ hg))
      refine ⟨f :: a₁, a₂, by rw [hab]; rfl, ?_, hlen, ?_⟩
      · rw [encode, List.append_assoc,
          F_wire (hwf f (List.mem_cons_self ..)) _ (by rw [encode, List.append_assoc] at h; omega),
          hF, expected_cons]
      · intro q g hq
        cases q with
        | nil =>
          simp only [List.nil_append, List.cons.injEq] at hq
          obtain ⟨rfl, rfl⟩ := hq
          simp only [List.nil_append] at hab
          subst hab
          omega
        | cons q0 q' =>
          simp only [List.cons_append, List.cons.injEq] at hq
          exact hmax q' g hq.2

theorem split_stream : ∀ (fs : List Frame) (s rest : Bytes), s ++ rest = encode fs →
    ∃ a later n, fs = a ++ later ∧ s = encode a ++ (encode later).take n ∧
      ∀ f l, later = f :: l → n < f.wire.length := by
  intro fs
  induction fs with
  | nil =>
    intro s rest h
    have : s = [] := (List.append_eq_nil_iff.mp h).1
    exact ⟨[], [], 0, rfl, by simp [this, encode], by simp⟩
  | cons f fs ih =>
    intro s rest h
    rw [encode] at h
    by_cases hs : s.length < f.wire.length
    · refine ⟨[], f :: fs, s.length, rfl, ?_, ?_⟩
      · show s = [] ++ (f.wire ++ encode fs).take s.length
        rw [← h, List.take_left' rfl]; rfl
      · intro g l hg; cases hg; exact hs
    · have hk : f.wire.length ≤ s.length := Nat.le_of_not_lt hs
      have h1 := congrArg (List.take f.wire.length) h
      rw [List.take_append_of_le_length hk, List.take_left'  rfl] at h1
      have h2 := congrArg (List.drop f.wire.length) h
      rw [List.drop_append_of_le_length hk, List.drop_left' rfl] at h2
      obtain ⟨a, later, n, hab, hs', hn⟩ := ih _ _ h2
      refine ⟨f :: a, later, n, by rw [hab]; rfl, ?_, hn⟩
      have h3 := List.take_append_drop f.wire.length s
      rw [h1] at h3
      rw [encode, List.append_assoc, ← hs', h3]

theorem partial_of_take {later : List Frame} {n : Nat} (hwf : ∀ f ∈ later, f.WF)
    (hn : ∀ f l, later = f :: l → n < f.wire.length) : Partial ((encode later).take n) := by
  cases later with
  | nil => exact .inl (by simp [encode])
  | cons f l =>
    have := hn f l rfl
    exact .inr ⟨f, n, hwf f (List.mem_cons_self ..), this, by
      rw [encode, List.take_append_of_le_length (Nat.le_of_lt this)]⟩

theorem escape_length (b : Bytes) : b.length ≤ (escape b).length ∧ (escape b).length ≤ 2 * b.length := by
  induction b with
  | nil => simp [escape]
  | cons x b ih => rw [escape]; split <;> simp <;> omega

theorem wire_length {f : Frame} (h : f.WF) : 11 ≤ f.wire.length ∧ f.wire.length ≤ 44 := by
  have := escape_length f.body
  have hl : f.wire.length = (escape f.body).length + 2 := by simp [Frame.wire]
  rcases WF_cases h with ⟨_, h2⟩ | ⟨_, h2⟩ | ⟨_, h2⟩ | ⟨_, h2⟩ <;> omega

theorem partial_length {p : Bytes} (hp : Partial p) : p.length ≤ 43 := by
  rcases hp with rfl | ⟨f, n, hwf, hn, rfl⟩
  · exact Nat.zero_le _
  · have := (wire_length hwf).2
    rw [List.length_take]; omega

theorem encode_length_ge : ∀ (l : List Frame), (∀ f ∈ l, f.WF) → 11 * l.length ≤ (encode l).length := by
  intro l
  induction l with
  | nil => intro _; simp
  | cons f l ih =>
    intro h
    have h1 := (wire_length (h f (List.mem_cons_self ..))).1
    have h2 := ih (fun g hg => h g (List.mem_cons_of_mem _ hg))
    rw [encode, List.length_append, List.length_cons]; omega

end Rs1090.Proofs.Beast
