/-
For Props/C15.lean: `fromRecord` returns an error or the closed-form record `recordOf` of five
decrypted words and a multiplier in 0..3 — never `.panic` (`fromRecord_cases`).
-/
import Rs1090.Proofs.FlarmBtea
import Rs1090.Proofs.FlarmKey
namespace Rs1090.Proofs.Flarm
open Rs1090 Rs1090.Model.Flarm Rs1090.Gen.Flarm

/-- `x` is a value of type `i32` (the predicate `Props.C15.I32`) -/
abbrev IsI32 (x : Int) : Prop := -2147483648 ≤ x ∧ x < 2147483648

theorem inS32 {x : Int} (h : IsI32 x) : inS 32 x = true := by
  simp only [inS, Nat.reduceSub, Int.reducePow, Int.reduceNeg, h.1, h.2, decide_true, Bool.and_self]

theorem subS32_ok {a b : Int} (h : IsI32 (a - b)) : subS 32 a b = .ok (a - b) := if_pos (inS32 h)

theorem addS32_ok {a b : Int} (h : IsI32 (a + b)) : addS 32 a b = .ok (a + b) := if_pos (inS32 h)

theorem mulS32_ok {a b : Int} (h : IsI32 (a * b)) : mulS 32 a b = .ok (a * b) := if_pos (inS32 h)

theorem asI8_range (x : Nat) : -128 ≤ asI8 x ∧ asI8 x ≤ 127 := by
  unfold asI8; split <;> omega

theorem wrapS32_of_small {x : Int} (h : IsI32 x) : wrapS32 x = x := by
  unfold wrapS32; omega

theorem wrapS32_range (x : Int) : -2147483648 ≤ wrapS32 x ∧ wrapS32 x < 2147483648 := by
  unfold wrapS32; omega

theorem andS32_range (x : Int) (m : Nat) (hm : m < 2147483648) : 0 ≤ andS32 x m ∧ andS32 x m ≤ m := by
  unfold andS32
  have h : ((x % 4294967296).toNat &&& m) ≤ m := Nat.and_le_right
  rw [wrapS32_of_small (by omega)]
  omega

theorem mul_i8_range (x : Nat) (m : Int) (h0 : 0 ≤ m) (h3 : m ≤ 3) :
    -384 ≤ asI8 x * m ∧ asI8 x * m ≤ 381 := by
  have ⟨h1, h2⟩ := asI8_range x
  have a : -128 * m ≤ asI8 x * m := Int.mul_le_mul_of_nonneg_right h1 h0
  have b : asI8 x * m ≤ 127 * m := Int.mul_le_mul_of_nonneg_right h2 h0
  omega

theorem mul_i8_ok (x : Nat) (m : Int) (h0 : 0 ≤ m) (h3 : m ≤ 3) :
    mulS 32 (asI8 x) m = .ok (asI8 x * m) := by
  have := mul_i8_range x m h0 h3
  exact mulS32_ok (by omega)

theorem decodeMult_ok (d2 : Nat) : ∃ m, decodeMult d2 = .ok m ∧ 0 ≤ m ∧ m ≤ 3 := by
  unfold decodeMult shiftAmt
  have h : (d2 >>> MULT_SHR) &&& MULT_AND ≤ 30 := Nat.and_le_right
  rw [if_pos (by omega), Outcome.bind_ok]
  exact ⟨_, rfl, andS32_range _ 3 (by decide)⟩

theorem decodeActype_eq (d0 : Nat) : decodeActype d0 = .ok ((d0 >>> ACTYPE_SHR) &&& ACTYPE_MASK) :=
  if_pos (Nat.lt_succ_of_le Nat.and_le_right)

theorem decodeActype_ok (d0 : Nat) : ∃ a, decodeActype d0 = .ok a ∧ a < 16 :=
  ⟨_, decodeActype_eq d0, Nat.lt_succ_of_le Nat.and_le_right⟩

/-- the residue of `x` modulo `m` moved into `[h - m, h)` -/
def foldMod (m h x : Int) : Int := if x % m ≥ h then x % m - m else x % m

/-- the signed residue of `x` modulo `2^19` in `[-2^18, 2^18)` -/
def fold19 (x : Int) : Int := if x % 524288 ≥ 262144 then x % 524288 - 524288 else x % 524288
/-- the signed residue of `x` modulo `2^20` in `[-2^19, 2^19)` -/
def fold20 (x : Int) : Int := if x % 1048576 ≥ 524288 then x % 1048576 - 1048576 else x % 1048576

theorem fold19_range (x : Int) : -262144 ≤ fold19 x ∧ fold19 x < 262144 := by
  unfold fold19; split <;> omega
theorem fold20_range (x : Int) : -524288 ≤ fold20 x ∧ fold20 x < 524288 := by
  unfold fold20; split <;> omega

/-- `(s << 7) + 0x40` never overflows: the low seven bits of the shifted value are zero -/
theorem shl7_add64_range (s : Int) : IsI32 (wrapS32 (s * 128) + 64) := by
  unfold wrapS32; omega

/-- Closed form of `decode_latitude` / `decode_longitude` (before the float scaling) for every
    `i32` reference: the mask keeps the residue modulo `mod`, the reference is shifted by 7, the
    result is shifted back by 7 and moved to the centre of its cell. -/
theorem decodeCoord_eq (mask mod half d : Nat) (r : Int) (hmask : d &&& mask = d % mod)
    (hpos : 0 < mod) (hmod : mod ≤ 1048576) (hr : IsI32 r) :
    decodeCoord mask 7 mod half mod 7 64 d r
      = .ok (wrapS32 ((foldMod mod half (((d % mod : Nat) : Int) - r / 128) + r / 128) * 128) + 64) := by
  have hd : d % mod < mod := Nat.mod_lt d hpos
  have h0 := Int.emod_nonneg (((d % mod : Nat) : Int) - r / 128) (by omega : (mod : Int) ≠ 0)
  have h1 := Int.emod_lt_of_pos (((d % mod : Nat) : Int) - r / 128) (by omega : 0 < (mod : Int))
  unfold decodeCoord foldMod
  simp only [hmask, Int.reducePow, if_neg (by omega : ¬ mod = 0)]
  rw [wrapS32_of_small (by omega), subS32_ok (by omega), Outcome.bind_ok]
  by_cases hc : (((d % mod : Nat) : Int) - r / 128) % (mod : Int) ≥ (half : Int)
  · rw [if_pos hc, if_pos hc, subS32_ok (by omega), Outcome.bind_ok, addS32_ok (by omega), Outcome.bind_ok]
    exact addS32_ok (shl7_add64_range _)
  · rw [if_neg hc, if_neg hc, Outcome.bind_ok, addS32_ok (by omega), Outcome.bind_ok]
    exact addS32_ok (shl7_add64_range _)

/-- `decode_latitude` (19 bits); `fold19` is `foldMod 524288 262144` unfolded, which `exact` sees through -/
theorem decodeLat_eq (d1 : Nat) (rl : Int) (h : IsI32 rl) :
    decodeLat d1 rl
      = .ok (wrapS32 ((fold19 (((d1 % 524288 : Nat) : Int) - rl / 128) + rl / 128) * 128) + 64) :=
  decodeCoord_eq 524287 524288 262144 d1 rl (Nat.and_two_pow_sub_one_eq_mod d1 19) (by decide) (by decide) h

/-- `decode_longitude` (20 bits); `fold20` is `foldMod 1048576 524288` unfolded -/
theorem decodeLon_eq (d2 : Nat) (rl : Int) (h : IsI32 rl) :
    decodeLon d2 rl
      = .ok (wrapS32 ((fold20 (((d2 % 1048576 : Nat) : Int) - rl / 128) + rl / 128) * 128) + 64) :=
  decodeCoord_eq 1048575 1048576 524288 d2 rl (Nat.and_two_pow_sub_one_eq_mod d2 20) (by decide) (by decide) h

/-- the four velocity samples: shift amounts 0, 8, 16, 24 are in range and no product overflows.  `8 255 … 4` are
    `VEL_STEP_NS VEL_MASK_NS VEL_COUNT_NS` of Gen/Flarm.lean and the same three for EW; one statement serves both. -/
theorem velLoop_ok (d : Nat) (m : Int) (h0 : 0 ≤ m) (h3 : m ≤ 3) :
    velLoop 8 255 d m 4 0
      = .ok [asI8 ((d >>> 0) &&& 255) * m, asI8 ((d >>> 8) &&& 255) * m,
             asI8 ((d >>> 16) &&& 255) * m, asI8 ((d >>> 24) &&& 255) * m] := by
  have e0 : mulS 32 ((0 : Nat) : Int) ((8 : Nat) : Int) = .ok 0 := by decide
  have e1 : mulS 32 ((0 + 1 : Nat) : Int) ((8 : Nat) : Int) = .ok 8 := by decide
  have e2 : mulS 32 ((0 + 1 + 1 : Nat) : Int) ((8 : Nat) : Int) = .ok 16 := by decide
  have e3 : mulS 32 ((0 + 1 + 1 + 1 : Nat) : Int) ((8 : Nat) : Int) = .ok 24 := by decide
  have s0 : shiftAmt 0 = .ok 0 := by decide
  have s1 : shiftAmt 8 = .ok 8 := by decide
  have s2 : shiftAmt 16 = .ok 16 := by decide
  have s3 : shiftAmt 24 = .ok 24 := by decide
  simp only [velLoop, e0, e1, e2, e3, s0, s1, s2, s3, Outcome.bind_ok, mul_i8_ok _ _ h0 h3]

theorem decodeVs_ok (d0 : Nat) (m : Int) (h0 : 0 ≤ m) (h3 : m ≤ 3) :
    decodeVs d0 m = .ok (asI8 (d0 &&& VS_MASK) * m) := mul_i8_ok _ _ h0 h3

theorem decodeTrack_ok (F : FloatOps) (n0 n1 n2 n3 e0 e1 e2 e3 : Int) (v : Rat) :
    decodeTrack F [n0, n1, n2, n3] [e0, e1, e2, e3] v
      = .ok (wrapTrack (trackOf F v (n0 : Rat) (e0 : Rat)) (trackOf F v (n1 : Rat) (e1 : Rat))) := by
  simp only [decodeTrack, idx_cons_zero, idx_cons_succ, Outcome.bind_ok]

/-- the record computed from five decrypted words (closed form of `fields`) -/
def recordOf (F : FloatOps) (icao24 : Nat) (isIcao : Bool) (roundLat roundLon : Int)
    (w0 w1 w2 w3 w4 : BitVec 32) (m : Int) : Record :=
  let ns := [asI8 ((w3.toNat >>> 0) &&& 255) * m, asI8 ((w3.toNat >>> 8) &&& 255) * m,
             asI8 ((w3.toNat >>> 16) &&& 255) * m, asI8 ((w3.toNat >>> 24) &&& 255) * m]
  let ew := [asI8 ((w4.toNat >>> 0) &&& 255) * m, asI8 ((w4.toNat >>> 8) &&& 255) * m,
             asI8 ((w4.toNat >>> 16) &&& 255) * m, asI8 ((w4.toNat >>> 24) &&& 255) * m]
  let gs := groundspeed F ns ew
  { icao24, isIcao, decoded := [w0, w1, w2, w3, w4], mult := m,
    actype := (w0.toNat >>> ACTYPE_SHR) &&& ACTYPE_MASK,
    latE7 := wrapS32 ((fold19 (((w1.toNat % 524288 : Nat) : Int) - roundLat / 128) + roundLat / 128) * 128) + 64,
    lonE7 := wrapS32 ((fold20 (((w2.toNat % 1048576 : Nat) : Int) - roundLon / 128) + roundLon / 128) * 128) + 64,
    geoaltitude := (w1.toNat >>> ALT_SHR) &&& ALT_MASK,
    vs10 := asI8 (w0.toNat &&& VS_MASK) * m, ns, ew, groundspeed := gs,
    track := wrapTrack (trackOf F gs ((asI8 ((w3.toNat >>> 0) &&& 255) * m : Int) : Rat)
                                      ((asI8 ((w4.toNat >>> 0) &&& 255) * m : Int) : Rat))
                       (trackOf F gs ((asI8 ((w3.toNat >>> 8) &&& 255) * m : Int) : Rat)
                                      ((asI8 ((w4.toNat >>> 8) &&& 255) * m : Int) : Rat)),
    noTrack := ((w0.toNat >>> NOTRACK_SHR) &&& NOTRACK_MASK) == NOTRACK_VAL,
    stealth := ((w0.toNat >>> STEALTH_SHR) &&& STEALTH_MASK) == STEALTH_VAL,
    gps := (w0.toNat >>> GPS_SHR) &&& GPS_MASK }

/-- `fields` on five words: the two trailing bytes are the only thing that can be missing -/
theorem fields_eq (F : FloatOps) (icao24 : Nat) (isIcao : Bool) (roundLat roundLon : Int)
    (hlat : IsI32 roundLat) (hlon : IsI32 roundLon) (w0 w1 w2 w3 w4 : BitVec 32) (tail : List Nat)
    (m : Int) (hm : decodeMult w2.toNat = .ok m) (h0 : 0 ≤ m) (h3 : m ≤ 3) :
    fields F icao24 isIcao roundLat roundLon [w0, w1, w2, w3, w4] tail
      = if tail.length < 2 then .err .incomplete else
        .ok (recordOf F icao24 isIcao roundLat roundLon w0 w1 w2 w3 w4 m) := by
  have hns : velLoop VEL_STEP_NS VEL_MASK_NS w3.toNat m VEL_COUNT_NS 0 = _ := velLoop_ok w3.toNat m h0 h3
  have hew : velLoop VEL_STEP_EW VEL_MASK_EW w4.toNat m VEL_COUNT_EW 0 = _ := velLoop_ok w4.toNat m h0 h3
  simp only [fields, idx_cons_zero, idx_cons_succ, Outcome.bind_ok, hm, decodeActype_eq,
    decodeLat_eq _ _ hlat, decodeLon_eq _ _ hlon, decodeVs_ok _ _ h0 h3, hns, hew,
    decodeTrack_ok, recordOf]
  by_cases h2 : tail.length < 2
  · rw [if_pos h2, ite_self]
  · rw [if_neg h2, if_neg (by omega)]

theorem recordOf_bounds (F : FloatOps) (icao24 : Nat) (isIcao : Bool) (roundLat roundLon : Int)
    (w0 w1 w2 w3 w4 : BitVec 32) (m : Int) (h0 : 0 ≤ m) (h3 : m ≤ 3)
    (r : Record) (hr : r = recordOf F icao24 isIcao roundLat roundLon w0 w1 w2 w3 w4 m) :
    IsI32 r.latE7 ∧ IsI32 r.lonE7 ∧ r.geoaltitude < 8192 ∧ r.gps < 4096 ∧ r.actype < 16 ∧
    0 ≤ r.mult ∧ r.mult ≤ 3 ∧ -384 ≤ r.vs10 ∧ r.vs10 ≤ 381 ∧
    r.ns.length = 4 ∧ r.ew.length = 4 ∧ (∀ x ∈ r.ns ++ r.ew, -384 ≤ x ∧ x ≤ 381) := by
  subst hr
  have hvs := mul_i8_range (w0.toNat &&& VS_MASK) m h0 h3
  refine ⟨shl7_add64_range _, shl7_add64_range _, Nat.lt_succ_of_le Nat.and_le_right,
    Nat.lt_succ_of_le Nat.and_le_right, Nat.lt_succ_of_le Nat.and_le_right, h0, h3, hvs.1, hvs.2, rfl, rfl, ?_⟩
  intro x hx
  simp only [recordOf, List.cons_append, List.nil_append, List.mem_cons, List.not_mem_nil, or_false] at hx
  rcases hx with rfl | rfl | rfl | rfl | rfl | rfl | rfl | rfl <;> exact mul_i8_range _ m h0 h3

/-! ### `btea` on any block

No index is out of range, `length - 1` does not underflow, the loop ends; the length is kept. -/

theorem inner_ok (key : List (BitVec 32)) (hk : key.length = 4) (s : BitVec 32) (p : Nat) :
    ∀ (v : List (BitVec 32)) (y : BitVec 32), p < v.length →
      ∃ v' y', inner s ((s >>> E_SHR) &&& BitVec.ofNat 32 E_MASK) key p v y = .ok (v', y') ∧
        v'.length = v.length := by
  induction p with
  | zero => intro v y _; exact ⟨v, y, rfl, rfl⟩
  | succ p ih =>
    intro v y hp
    simp only [inner, idx_eq_getD v p 0 (Nat.lt_of_succ_lt hp), idx_eq_getD v (p + 1) 0 hp,
      mx_ok key hk, Outcome.bind_ok]
    generalize v.getD (p + 1) 0 - mxVal _ _ _ _ = x
    obtain ⟨v', y', h, hl⟩ := ih (v.set (p + 1) x) x (by rw [List.length_set]; omega)
    exact ⟨v', y', h, by rw [hl, List.length_set]⟩

theorem round_ok (key : List (BitVec 32)) (hk : key.length = 4) (n : Nat) (s : BitVec 32)
    (v : List (BitVec 32)) (y : BitVec 32) (hn : n < v.length) :
    ∃ v' y', round key n s v y = .ok (v', y') ∧ v'.length = v.length := by
  obtain ⟨v₁, y₁, h, hl⟩ := inner_ok key hk s n v y hn
  simp only [round, h, Outcome.bind_ok, idx_eq_getD v₁ n 0 (by omega), idx_eq_getD v₁ 0 0 (by omega),
    mx_ok key hk]
  exact ⟨_, _, rfl, by rw [List.length_set, hl]⟩

theorem rounds_ok (key : List (BitVec 32)) (hk : key.length = 4) (n : Nat) (ss : List (BitVec 32)) :
    ∀ (v : List (BitVec 32)) (y : BitVec 32), n < v.length →
      ∃ v', rounds key n ss v y = .ok v' ∧ v'.length = v.length := by
  induction ss with
  | nil => intro v y _; exact ⟨v, rfl, rfl⟩
  | cons s ss ih =>
    intro v y hn
    obtain ⟨v₁, y₁, h, hl⟩ := round_ok key hk n s v y hn
    obtain ⟨v', h', hl'⟩ := ih v₁ y₁ (by omega)
    exact ⟨v', by rw [rounds, h, Outcome.bind_ok, h'], by omega⟩

theorem btea_ok (v key : List (BitVec 32)) (hk : key.length = 4) (h0 : 0 < v.length)
    (h32 : v.length < 2 ^ 32) : ∃ v', btea v key = .ok v' ∧ v'.length = v.length := by
  rw [btea_eq v key hk h0 h32]
  exact rounds_ok key hk _ _ v _ (by omega)

theorem readWords_cases (n : Nat) : ∀ bs : List Nat,
    readWords n bs = .err .incomplete ∨
      ∃ ws tail, readWords n bs = .ok (ws, tail) ∧ ws.length = n ∧ bs.length = 4 * n + tail.length := by
  induction n with
  | zero => intro bs; exact .inr ⟨[], bs, rfl, rfl, by omega⟩
  | succ n ih =>
    intro bs
    match bs with
    | [] | [_] | [_, _] | [_, _, _] => exact .inl rfl
    | b0 :: b1 :: b2 :: b3 :: rest =>
      rcases ih rest with h | ⟨ws, tail, h, hl, hb⟩
      · exact .inl (by rw [readWords, h, Outcome.bind_err])
      · exact .inr ⟨_, tail, by rw [readWords, h, Outcome.bind_ok], by rw [List.length_cons, hl],
          by simp only [List.length_cons]; omega⟩

theorem decodeBtea_cases (ts icao24 : Nat) (bytes : List Nat) :
    decodeBtea ts icao24 bytes = .err .incomplete ∨
      ∃ d tail, decodeBtea ts icao24 bytes = .ok (d, tail) ∧ d.length = 5 ∧
        bytes.length = 20 + tail.length := by
  unfold decodeBtea
  rcases readWords_cases 5 bytes with hr | ⟨ws, tail, hr, hws, hlen⟩
  · exact .inl (by simp only [hr, Outcome.bind_err])
  · obtain ⟨d, hd, hdl⟩ := btea_ok ws (makeKey ts (((icao24 <<< ADDR_SHL) % 2 ^ 32) &&& ADDR_MASK))
      (makeKey_length _ _) (by omega) (by omega)
    exact .inr ⟨d, tail, by simp only [hr, Outcome.bind_ok, hd], by omega, by omega⟩

theorem magicValue_cases (v : Nat) : magicValue v = .err .assertion ∨ ∃ b, magicValue v = .ok b := by
  unfold magicValue
  split
  · exact .inr ⟨_, rfl⟩
  · split
    · exact .inr ⟨_, rfl⟩
    · exact .inl rfl

theorem fromRecord_cons (F : FloatOps) (ts : Nat) (roundLat roundLon : Int) (a0 a1 a2 m : Nat)
    (body : List Nat) :
    fromRecord F ts true roundLat roundLon (a0 :: a1 :: a2 :: m :: body)
      = Outcome.bind (magicValue m) fun isIcao =>
        Outcome.bind (decodeBtea ts (a0 + 256 * a1 + 65536 * a2) body) fun dt =>
        fields F (a0 + 256 * a1 + 65536 * a2) isIcao roundLat roundLon dt.1 dt.2 := rfl

theorem fromRecord_cases (F : FloatOps) (ts : Nat) (fin : Bool) (roundLat roundLon : Int)
    (hlat : IsI32 roundLat) (hlon : IsI32 roundLon) (msg : List Nat) :
    (∃ e, fromRecord F ts fin roundLat roundLon msg = .err e) ∨
    (∃ r, fromRecord F ts fin roundLat roundLon msg = .ok r ∧ 26 ≤ msg.length ∧ fin = true ∧
      ∃ icao24 isIcao w0 w1 w2 w3 w4 m, 0 ≤ m ∧ m ≤ 3 ∧
        r = recordOf F icao24 isIcao roundLat roundLon w0 w1 w2 w3 w4 m) := by
  cases fin with
  | false => exact .inl ⟨_, rfl⟩
  | true =>
    match msg with
    | [] | [_] | [_, _] | [_, _, _] => exact .inl ⟨_, rfl⟩
    | a0 :: a1 :: a2 :: m :: body =>
      rw [fromRecord_cons]
      rcases magicValue_cases m with hm | ⟨isIcao, hm⟩
      · exact .inl ⟨_, by rw [hm, Outcome.bind_err]⟩
      rw [hm, Outcome.bind_ok]
      rcases decodeBtea_cases ts (a0 + 256 * a1 + 65536 * a2) body with hb | ⟨d, tail, hb, hd, hlen⟩
      · exact .inl ⟨_, by rw [hb, Outcome.bind_err]⟩
      rw [hb, Outcome.bind_ok]
      match d, hd with
      | [w0, w1, w2, w3, w4], _ =>
        obtain ⟨mm, hmm, h0, h3⟩ := decodeMult_ok w2.toNat
        rw [fields_eq F _ isIcao roundLat roundLon hlat hlon w0 w1 w2 w3 w4 tail mm hmm h0 h3]
        by_cases ht : tail.length < 2
        · exact .inl ⟨_, if_pos ht⟩
        · exact .inr ⟨_, if_neg ht, by simp only [List.length_cons]; omega, rfl,
            _, isIcao, w0, w1, w2, w3, w4, mm, h0, h3, rfl⟩

end Rs1090.Proofs.Flarm
