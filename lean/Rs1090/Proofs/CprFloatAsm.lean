import Rs1090.Proofs.CprFloat
import Rs1090.Proofs.IeeeRound
/-!
The f64 argument ASSEMBLED: `airborne_position` (C04), then the two reference decoders (C05).

`Proofs/CprFloat.lean` relates the `f64` computation of cpr.rs to the exact-rational model quantity by
quantity (`j`, `modulo`, `lat_even`, `m`, the longitude factor exact; `lat_odd`, the longitude within `10⁻¹²`°).
This file composes them into ONE float-level model of the whole function, `fAirbornePosition fl`, in which
every comparison (`>= 270`, `[-90, 90]`, the NL ladder against its decimal literals, `nl(lat_even) != nl(lat_odd)`,
`>= 180`) is made on the float values, and proves

  `airborne_position_f64_close` — for every `fl` with `Rounding fl`, all 17-bit fields, both report orders:
  under the margin hypothesis `Margin e o` (the exact values are farther than `10⁻⁹`° from the points where a
  comparison flips) the float computation returns `None` exactly when the exact model does, and otherwise a
  position within `10⁻¹¹`° of the model's on both axes;

  `airborne_position_ieee_close` — the same for `fl := fl64`, IEEE-754 binary64 round-to-nearest-even.

How the machine's view of a decimal literal is modelled: the literal `t` (e.g. `10.470_471_30`) is the binary64
value `fl t` — the literal is parsed correctly rounded.  `-90.`, `90.`, `270.0`, `180.0`, `360.0`, `0.5`, `59.0`,
`60.0` are binary64 values themselves.  Negation (`lat = -lat` in `nl`) flips the sign bit; it is not a rounded
operation and is modelled exactly.
-/
namespace Rs1090.Proofs.CprFloat
open Rs1090 Rs1090.Model.Cpr Rs1090.Proofs.Cpr


section NlDefs
variable (fl : ℚ → ℚ)
/-- the decimal literal `t / 10^8` of the generated ladder as the machine holds it: correctly rounded -/
def fThr (t : ℕ) : ℚ := fl (thr t)
/-- `Model.Cpr.rowHit` with the rounded literal -/
def fRowHit (a : ℚ) (t : ℕ) (strict : Bool) : Bool :=
  if strict then decide (a < fThr fl t) else decide (a ≤ fThr fl t)
/-- `Model.Cpr.nlGo` with the rounded literals -/
def fNlGo (a : ℚ) (dflt : ℕ) : List (ℕ × Bool × ℕ) → ℕ
  | [] => dflt
  | (t, strict, r) :: rest => if fRowHit fl a t strict then r else fNlGo a dflt rest
/-- `fn nl(lat: f64) -> u64` (cpr.rs l.133-206) on the f64 value `lat`: `if lat < 0.0 { lat = -lat }` (exact),
    then the generated ladder with every literal rounded -/
def fNl (lat : ℚ) : ℕ := fNlGo fl (fabs lat) Gen.Cpr.nlDefault Gen.Cpr.nlLadder
end NlDefs

variable {fl : ℚ → ℚ}

theorem fRowHit_eq {a' a ε ρ : ℚ} (t : ℕ) (s : Bool) (h : |a' - a| ≤ ε)
    (ht : |fl (thr t) - thr t| ≤ ρ) (far : ε + ρ < |a - thr t|) : fRowHit fl a' t s = rowHit a t s := by
  obtain ⟨hlt, hle⟩ := cmp_of_far h ht far
  unfold fRowHit rowHit fThr
  cases s
  · simp only [Bool.false_eq_true, if_false, decide_eq_decide.mpr hle]
  · simp only [if_true, decide_eq_decide.mpr hlt]

theorem fNlGo_eq_firstMatch (a : ℚ) (d : ℕ) (l : List (ℕ × Bool × ℕ)) :
    fNlGo fl a d l = firstMatch (fun r => fRowHit fl a r.1 r.2.1) (·.2.2) d l := by
  induction l with
  | nil => rfl
  | cons r l ih => rw [firstMatch_cons, ← ih]; rfl

/-- **the literals**: each decimal threshold is held within `10⁻¹³`° (`87·u + 2⁻¹⁰⁰ < 9.7·10⁻¹⁵`) -/
theorem thr_err (R : Rounding fl) : ∀ row ∈ Gen.Cpr.nlLadder, |fl (thr row.1) - thr row.1| ≤ 1 / 10 ^ 13 := by
  intro row hrow
  -- every threshold of the generated ladder is at most 87°
  rw [nl_table_eq.1] at hrow
  obtain ⟨r, hr, rfl⟩ := List.mem_map.mp hrow
  have hb : |thr r.1| ≤ 87 := by
    rw [thr_eq, abs_of_nonneg (by unfold Spec.Cpr.nlUnit; positivity)]
    exact thr_le87 (nlTable_ok.1 r hr).1
  linarith only [R.abs_err hb (by norm_num), u_le, pow100_le]

def nlFar (δ x : ℚ) : Prop := ∀ row ∈ Gen.Cpr.nlLadder, δ < abs (|x| - thr row.1)

instance (δ x : ℚ) : Decidable (nlFar δ x) := by unfold nlFar; infer_instance

theorem nlFar_mono {δ δ' x : ℚ} (h : δ' ≤ δ) (hf : nlFar δ x) : nlFar δ' x :=
  fun row hrow => lt_of_le_of_lt h (hf row hrow)

/-- `10⁻¹³`: the literal's rounding error (`thr_err`) -/
theorem fNl_eq_of_far (R : Rounding fl) {lat' lat ε : ℚ} (h : |lat' - lat| ≤ ε)
    (far : nlFar (ε + 1 / 10 ^ 13) lat) : fNl fl lat' = nl lat := by
  have ha : |fabs lat' - fabs lat| ≤ ε := by
    rw [fabs_eq_abs, fabs_eq_abs]
    exact le_trans (abs_abs_sub_abs_le_abs_sub _ _) h
  show fNlGo fl (fabs lat') _ _ = nlGo (fabs lat) _ _
  rw [fNlGo_eq_firstMatch, nlGo_eq_firstMatch]
  exact firstMatch_congr fun row hrow =>
    fRowHit_eq row.1 row.2.1 ha (thr_err R row hrow) (by rw [fabs_eq_abs]; exact far row hrow)

/-- the float-level `nl` also returns `1..59` whatever the rounding (so `nl(lat) - p`, `nl(lat) - 1` on `u64`
    cannot underflow at float level either) -/
theorem fNl_range (x : ℚ) : 1 ≤ fNl fl x ∧ fNl fl x ≤ 59 := by
  unfold fNl
  rw [fNlGo_eq_firstMatch]
  exact ladder_range _

section AsmDefs
variable (fl : ℚ → ℚ)

/-- body of `airborne_position` once the `match` has named the even and the odd frame — `Model.Cpr.globalCore`
    (in the normal form `Proofs.Cpr.globalCore_eq`) with every value replaced by the f64 value and every
    comparison made on the f64 values: the two `>= 270` wraps (inside `fLatE`, `fLatO`), the `[-90, 90]` test
    (`-90.`, `90.` are binary64 values), `nl(lat_even) != nl(lat_odd)` through `fNl`, `latest == even_frame`,
    `(p, c)`, `ni`, `m`, `r`, the longitude (`fLon0` with `n = fNl(lat)`) and its `>= 180` wrap.  `none` exactly
    where the Rust code returns `None`.  (`fNl ≥ 1` — `fNl_range` — so the `u64` subtractions `nl(lat) - p`,
    `nl(lat) - 1` inside `fLon0`/`fM` do not underflow: truncated = checked subtraction.) -/
def fGlobalCore (e o l : Msg) : Option (ℚ × ℚ) :=
  if (!(inLatRange (fLatE fl e o)) || !(inLatRange (fLatO fl e o))) = true then none
  else if fNl fl (fLatE fl e o) ≠ fNl fl (fLatO fl e o) then none
  else some (if l = e then fLatE fl e o else fLatO fl e o,
    fWrap180 fl (fLon0 fl e o (fNl fl (if l = e then fLatE fl e o else fLatO fl e o))
      (if l.parity = .even then 0 else 1) (if l.parity = .even then e.lon else o.lon)))

/-- `pub fn airborne_position(oldest, latest) -> Option<Position>` in f64: the `match` on the two parities, as
    `Model.Cpr.airbornePosition` -/
def fAirbornePosition (oldest latest : Msg) : Option (ℚ × ℚ) :=
  match oldest.parity, latest.parity with
  | .even, .odd => fGlobalCore fl oldest latest latest
  | .odd, .even => fGlobalCore fl latest oldest latest
  | _, _ => none
end AsmDefs

theorem fAirbornePosition_eo (fl : ℚ → ℚ) (e o : Msg) (he : e.parity = .even) (ho : o.parity = .odd) :
    fAirbornePosition fl e o = fGlobalCore fl e o o ∧ fAirbornePosition fl o e = fGlobalCore fl e o e := by
  unfold fAirbornePosition
  simp [he, ho]

/-- **The margin hypothesis** at distance `δ`: the exact (rational-model) values stay farther than `δ` degrees from
    every point where one of the comparisons that involve an INEXACT f64 value flips.  (`lat_even` is computed
    exactly, so only its NL band needs a margin — against the rounding of the literals.)  Every clause is a
    decidable statement about rationals computed from the four 17-bit fields. -/
structure MarginAt (δ : ℚ) (e o : Msg) : Prop where
  latE_nl : nlFar δ (gLatE e o)
  latO_nl : nlFar δ (gLatO e o)
  latO_270 : δ < |gLatO0 e o - 270|
  latO_90 : δ < |gLatO e o - 90|
  latO_m90 : δ < |gLatO e o + 90|
  lonE_180 : δ < |gLon0 e o (nl (gLatE e o)) 0 e.lon - 180|
  lonO_180 : δ < |gLon0 e o (nl (gLatO e o)) 1 o.lon - 180|

/-- the margin of the assembled theorem: `δ = 10⁻⁹` degrees (0.1 mm on the ground) -/
abbrev Margin (e o : Msg) : Prop := MarginAt (1 / 10 ^ 9) e o

/-- float result vs model result: `None` together, or positions within `tol` degrees on both axes -/
def Close (tol : ℚ) (f : Option (ℚ × ℚ)) (g : Outcome (Option Pos)) : Prop :=
  (f = none ↔ g = .ok none) ∧
  ∀ q, f = some q → ∃ p : Pos, g = .ok (some p) ∧ |q.1 - p.lat| ≤ tol ∧ |q.2 - p.lon| ≤ tol

theorem Close.none {tol : ℚ} : Close tol none (.ok none) :=
  ⟨⟨fun _ => rfl, fun _ => rfl⟩, fun _ hq => by cases hq⟩

theorem Close.some {tol a b : ℚ} {p : Pos} (h1 : |a - p.lat| ≤ tol) (h2 : |b - p.lon| ≤ tol) :
    Close tol (Option.some (a, b)) (.ok (Option.some p)) :=
  ⟨⟨nofun, nofun⟩, fun _ hq => ⟨p, rfl, by cases hq; exact ⟨h1, h2⟩⟩⟩

theorem Close.ite {tol : ℚ} {c' c : Prop} [Decidable c'] [Decidable c] {f : Option (ℚ × ℚ)}
    {g : Outcome (Option Pos)} (hc : c' ↔ c) (h : ¬ c → Close tol f g) :
    Close tol (if c' then Option.none else f) (if c then .ok Option.none else g) := by
  by_cases hh : c
  · rw [if_pos hh, if_pos (hc.mpr hh)]; exact Close.none
  · rw [if_neg hh, if_neg (mt hc.mp hh)]; exact h hh

theorem Close.of_some {tol : ℚ} {f : Option (ℚ × ℚ)} {g : Outcome (Option Pos)} (h : Close tol f g) {p : Pos}
    (hg : g = .ok (Option.some p)) : ∃ q, f = Option.some q ∧ |q.1 - p.lat| ≤ tol ∧ |q.2 - p.lon| ≤ tol := by
  obtain ⟨n, s⟩ := h
  cases hf : f with
  | none => rw [n.mp hf] at hg; cases hg
  | some q =>
    obtain ⟨p', hp', c⟩ := s q hf
    rw [hg] at hp'; cases hp'
    exact ⟨q, rfl, c⟩

theorem inLatRange_eq_of_far {x' x ε : ℚ} (h : |x' - x| ≤ ε) (f1 : ε < |x - 90|) (f2 : ε < |x + 90|) :
    inLatRange x' = inLatRange x := by
  have r1 : (x' ≤ 90 ↔ x ≤ 90) := le_iff_of_far h f1
  have r2 : (-90 ≤ x' ↔ -90 ≤ x) := ge_iff_of_far h (by rwa [sub_neg_eq_add])
  unfold inLatRange
  rw [decide_eq_decide.mpr r1, decide_eq_decide.mpr r2]

theorem lat_facts (R : Rounding fl) (e o : Msg) (he : e.lat < 131072) (ho : o.lat < 131072) {δ : ℚ}
    (hδ : 1 / 10 ^ 11 ≤ δ) (M : MarginAt δ e o) :
    fLatE fl e o = gLatE e o ∧ |fLatO fl e o - gLatO e o| ≤ 2 / 10 ^ 12 ∧
    inLatRange (fLatO fl e o) = inLatRange (gLatO e o) ∧
    fNl fl (gLatE e o) = nl (gLatE e o) ∧ fNl fl (fLatO fl e o) = nl (gLatO e o) := by
  obtain ⟨w1, w2⟩ := lat_odd_wrapped_err R e o he ho
  have h12 : (1 : ℚ) / 10 ^ 12 < δ := lt_of_lt_of_le (by norm_num) hδ
  have h2 : (2 : ℚ) / 10 ^ 12 < δ := lt_of_lt_of_le (by norm_num) hδ
  have hO : |fLatO fl e o - gLatO e o| ≤ 2 / 10 ^ 12 := w1 (w2 (h12.trans M.latO_270))
  exact ⟨fLatE_eq R e o he ho, hO,
    inLatRange_eq_of_far hO (h2.trans M.latO_90) (h2.trans M.latO_m90),
    fNl_eq_of_far R (ε := 0) (by simp) (nlFar_mono (le_trans (by norm_num) hδ) M.latE_nl),
    fNl_eq_of_far R hO (nlFar_mono (le_trans (by norm_num) hδ) M.latO_nl)⟩

/-- the assembly for one choice of `latest` (`l = o`: order (even, odd); `l = e`: order (odd, even)) -/
theorem fGlobalCore_close (R : Rounding fl) (e o l : Msg) (hpe : e.parity = .even) (hpo : o.parity = .odd)
    (he : e.lat < 131072 ∧ e.lon < 131072) (ho : o.lat < 131072 ∧ o.lon < 131072) (hl : l = e ∨ l = o)
    {δ : ℚ} (hδ : 1 / 10 ^ 11 ≤ δ) (M : MarginAt δ e o) :
    Close (1 / 10 ^ 11) (fGlobalCore fl e o l) (globalCore e o l) := by
  obtain ⟨hE, hO, hR, hN1, hN2⟩ := lat_facts R e o he.1 ho.1 hδ M
  have h12 : (1 : ℚ) / 10 ^ 12 < δ := lt_of_lt_of_le (by norm_num) hδ
  have hne : ¬ (o = e) := by
    intro h; rw [h, hpe] at hpo; cases hpo
  rw [globalCore_eq]
  unfold fGlobalCore
  rw [hE, hN1, hN2, hR]
  refine Close.ite Iff.rfl fun _ => Close.ite Iff.rfl fun _ => ?_
  rcases hl with rfl | rfl
  · -- latest = even frame
    simp only [if_true, hpe]
    rw [hN1, gLon_eq_gLon0]
    obtain ⟨n1, n59⟩ := nl_range (gLatE l o)
    obtain ⟨l1, l2⟩ := lon_wrapped_err R l o (nl (gLatE l o)) 0 l.lon he.2 ho.2 he.2 n1 n59
    exact Close.some (by simp) ((l1 (l2 (h12.trans M.lonE_180))).trans (by norm_num))
  · -- latest = odd frame
    simp only [if_neg hne, hpo, reduceCtorEq, if_false]
    rw [hN2, gLon_eq_gLon0]
    obtain ⟨n1, n59⟩ := nl_range (gLatO e l)
    obtain ⟨l1, l2⟩ := lon_wrapped_err R e l (nl (gLatO e l)) 1 l.lon he.2 ho.2 ho.2 n1 n59
    exact Close.some (hO.trans (by norm_num)) ((l1 (l2 (h12.trans M.lonO_180))).trans (by norm_num))

/-- **The complete f64 computation of `airborne_position` returns (almost) what the exact model returns**, in BOTH
    orders of the pair, under the margin hypothesis (the proof gives `2·10⁻¹²`). -/
theorem airborne_position_f64_close (fl : ℚ → ℚ) (R : Rounding fl) (e o : Msg)
    (hpe : e.parity = .even) (hpo : o.parity = .odd)
    (he : e.lat < 131072 ∧ e.lon < 131072) (ho : o.lat < 131072 ∧ o.lon < 131072) (M : Margin e o) :
    ((fAirbornePosition fl e o = none ↔ airbornePosition e o = .ok none) ∧
      ∀ q, fAirbornePosition fl e o = some q → ∃ p : Pos, airbornePosition e o = .ok (some p) ∧
        |q.1 - p.lat| ≤ 1 / 10 ^ 11 ∧ |q.2 - p.lon| ≤ 1 / 10 ^ 11) ∧
    ((fAirbornePosition fl o e = none ↔ airbornePosition o e = .ok none) ∧
      ∀ q, fAirbornePosition fl o e = some q → ∃ p : Pos, airbornePosition o e = .ok (some p) ∧
        |q.1 - p.lat| ≤ 1 / 10 ^ 11 ∧ |q.2 - p.lon| ≤ 1 / 10 ^ 11) := by
  obtain ⟨a1, a2⟩ := airbornePosition_eo e o hpe hpo
  obtain ⟨f1, f2⟩ := fAirbornePosition_eo fl e o hpe hpo
  rw [a1, a2, f1, f2]
  exact ⟨fGlobalCore_close R e o o hpe hpo he ho (Or.inr rfl) (by norm_num) M,
    fGlobalCore_close R e o e hpe hpo he ho (Or.inl rfl) (by norm_num) M⟩

theorem airborne_position_ieee_close (e o : Msg)
    (hpe : e.parity = .even) (hpo : o.parity = .odd)
    (he : e.lat < 131072 ∧ e.lon < 131072) (ho : o.lat < 131072 ∧ o.lon < 131072) (M : Margin e o) :
    ((fAirbornePosition IeeeRound.fl64 e o = none ↔ airbornePosition e o = .ok none) ∧
      ∀ q, fAirbornePosition IeeeRound.fl64 e o = some q → ∃ p : Pos, airbornePosition e o = .ok (some p) ∧
        |q.1 - p.lat| ≤ 1 / 10 ^ 11 ∧ |q.2 - p.lon| ≤ 1 / 10 ^ 11) ∧
    ((fAirbornePosition IeeeRound.fl64 o e = none ↔ airbornePosition o e = .ok none) ∧
      ∀ q, fAirbornePosition IeeeRound.fl64 o e = some q → ∃ p : Pos, airbornePosition o e = .ok (some p) ∧
        |q.1 - p.lat| ≤ 1 / 10 ^ 11 ∧ |q.2 - p.lon| ≤ 1 / 10 ^ 11) :=
  airborne_position_f64_close IeeeRound.fl64 IeeeRound.rounding_fl64 e o hpe hpo he ho M

/-- … read the other way -/
theorem airborne_position_f64_some (fl : ℚ → ℚ) (R : Rounding fl) (e o : Msg)
    (hpe : e.parity = .even) (hpo : o.parity = .odd)
    (he : e.lat < 131072 ∧ e.lon < 131072) (ho : o.lat < 131072 ∧ o.lon < 131072) (M : Margin e o) :
    (∀ p : Pos, airbornePosition e o = .ok (some p) → ∃ q, fAirbornePosition fl e o = some q ∧
        |q.1 - p.lat| ≤ 1 / 10 ^ 11 ∧ |q.2 - p.lon| ≤ 1 / 10 ^ 11) ∧
    (∀ p : Pos, airbornePosition o e = .ok (some p) → ∃ q, fAirbornePosition fl o e = some q ∧
        |q.1 - p.lat| ≤ 1 / 10 ^ 11 ∧ |q.2 - p.lon| ≤ 1 / 10 ^ 11) := by
  obtain ⟨c1, c2⟩ := airborne_position_f64_close fl R e o hpe hpo he ho M
  exact ⟨fun _ hp => Close.of_some c1 hp, fun _ hp => Close.of_some c2 hp⟩

theorem marginAt_iff (δ : ℚ) (e o : Msg) : MarginAt δ e o ↔
    (nlFar δ (gLatE e o) ∧ nlFar δ (gLatO e o) ∧ δ < |gLatO0 e o - 270| ∧ δ < |gLatO e o - 90| ∧
      δ < |gLatO e o + 90| ∧ δ < |gLon0 e o (nl (gLatE e o)) 0 e.lon - 180| ∧
      δ < |gLon0 e o (nl (gLatO e o)) 1 o.lon - 180|) :=
  ⟨fun M => ⟨M.1, M.2, M.3, M.4, M.5, M.6, M.7⟩, fun ⟨a, b, c, d, e', f, g⟩ => ⟨a, b, c, d, e', f, g⟩⟩

instance (δ : ℚ) (e o : Msg) : Decidable (MarginAt δ e o) := decidable_of_iff _ (marginAt_iff δ e o).symm

/-- the margin holds on the classic pair 8D40621D58C382D690C8AC2863A7 / 8D40621D58C386435CC412692AD6 -/
theorem margin_classic_pair : Margin ⟨.even, 93000, 51372⟩ ⟨.odd, 74158, 50194⟩ := by decide +kernel

section LocalAsmDefs
variable (fl : ℚ → ℚ)
/-- l.337 / 402 `lat = d_lat * (j + cpr_lat)` with `j` of l.335 / 400 -/
def fLatOf (full : ℚ) (m : Msg) (latRef : ℚ) : ℚ :=
  fCoord fl (fDLat fl full m) (fIdx fl latRef (fDLat fl full m) m.lat) m.lat
/-- l.347-351 / 412-416 `ni = if even { nl(lat) } else { nl(lat) - 1 }` (`u64`; `fNl ≥ 1`, no underflow) -/
def fNi (m : Msg) (lat : ℚ) : ℕ := fNl fl lat - fmt m
/-- l.352-361 / 417-426 -/
def fLonOf (full : ℚ) (m : Msg) (lat lonRef : ℚ) : ℚ :=
  fCoord fl (fDLon fl full (fNi fl m lat)) (fIdx fl lonRef (fDLon fl full (fNi fl m lat)) m.lon) m.lon
/-- l.343, 364 / 408, 429 `fabs(x - ref) > d / 2.` on the f64 values -/
def fHalfFar (x ref d : ℚ) : Prop := fabs (fl (x - ref)) > fl (d / 2)
instance (x ref d : ℚ) : Decidable (fHalfFar fl x ref d) := by unfold fHalfFar; infer_instance

/-- `Model.Cpr.withRef` (normal form `Proofs.Cpr.withRef_eq`) on the f64 values -/
def fWithRef (full : ℚ) (m : Msg) (latRef lonRef : ℚ) : Option (ℚ × ℚ) :=
  if inLatRange (fLatOf fl full m latRef) = false then none
  else if fHalfFar fl (fLatOf fl full m latRef) latRef (fDLat fl full m) then none
  else if fHalfFar fl (fLonOf fl full m (fLatOf fl full m latRef) lonRef) lonRef
      (fDLon fl full (fNi fl m (fLatOf fl full m latRef))) then none
  else some (fLatOf fl full m latRef, fLonOf fl full m (fLatOf fl full m latRef) lonRef)

/-- `pub fn airborne_position_with_reference(msg, latitude_ref, longitude_ref)` in f64 -/
def fAirborneWithRef (m : Msg) (latRef lonRef : ℚ) : Option (ℚ × ℚ) := fWithRef fl 360 m latRef lonRef
/-- `pub fn surface_position_with_reference(msg, latitude_ref, longitude_ref)` in f64 -/
def fSurfaceWithRef (m : Msg) (latRef lonRef : ℚ) : Option (ℚ × ℚ) := fWithRef fl 90 m latRef lonRef
end LocalAsmDefs

/-- **the half-cell test** `fabs(x - ref) > d / 2.` on the f64 values is decided as on the exact values unless the
    exact `|x − ref|` is within `10⁻¹¹` of `d / 2`: both sides are one rounding (at magnitude `≤ 256`) of values
    within `10⁻¹²` resp. `10⁻¹³` of the exact ones -/
theorem half_cmp (R : Rounding fl) {x' x ref d' d : ℚ} (hx : |x' - x| ≤ 1 / 10 ^ 12)
    (hd : 3 / 2 ≤ d) (hd360 : d ≤ 360) (hd' : |d' - d| ≤ d * u + 1 / 2 ^ 100) (hxr : |x - ref| ≤ 200)
    (far : 1 / 10 ^ 11 < abs (|x - ref| - d / 2)) : fHalfFar fl x' ref d' ↔ |x - ref| > d / 2 := by
  have hd0 : 0 < d := lt_of_lt_of_le (by norm_num) hd
  have hdu : d * u ≤ 360 * u := mul_le_mul_of_nonneg_right hd360 u_pos.le
  have hd2 : |d' / 2 - d / 2| ≤ 1 / 10 ^ 13 := by
    rw [← sub_div, abs_div, abs_two]; linarith only [hd', hdu, u_le, pow100_le]
  have r1 := R.step256 (x' := x' - ref) (x := x - ref)
    (by rewrite [sub_sub_sub_cancel_right]; exact hx) (hxr.trans (by norm_num)) (by norm_num)
  have r2 := R.step256 hd2 ((abs_of_pos (half_pos hd0)).le.trans (by linarith only [hd360])) (by norm_num)
  unfold fHalfFar
  rw [fabs_eq_abs]
  exact (cmp_of_far r2 (le_trans (abs_abs_sub_abs_le_abs_sub _ _) r1)
    (by rw [abs_sub_comm]; exact lt_of_le_of_lt (by norm_num) far)).1

/-- l.352 / 417 with `ni = nl(lat) - i` (`u64`): one rounding of the model's `d_lon = full / max(nl(lat) − i, 1)` -/
theorem fDLon_niOf (R : Rounding fl) (full : ℚ) (hf : full = 360 ∨ full = 90) (m : Msg) (lat : ℚ) :
    |fDLon fl full (nl lat - fmt m) - dLonOf full m lat| ≤ dLonOf full m lat * u + 1 / 2 ^ 100 ∧
      3 / 2 ≤ dLonOf full m lat ∧ dLonOf full m lat ≤ 360 := by
  have hr := nl_range lat
  unfold dLonOf
  by_cases h : 1 ≤ nl lat - fmt m
  · have e : niOf (fmt m) lat = nl lat - fmt m := max_eq_left h
    rw [e]
    exact fDLon_err R full hf (nl lat - fmt m) h (by omega)
  · -- `nl(lat) − i = 0`: the code takes `d_lon = full` unrounded, and the model's `ni` is `max 0 1 = 1`
    have h0 : nl lat - fmt m = 0 := by omega
    have e : niOf (fmt m) lat = 1 := by unfold niOf; rw [h0]; rfl
    rw [e, h0]
    unfold fDLon
    simp only [gt_iff_lt, lt_self_iff_false, if_false, Nat.cast_one, div_one, sub_self, abs_zero]
    obtain ⟨f90, f360⟩ := full_range hf
    exact ⟨add_nonneg (mul_nonneg (by linarith) u_pos.le) (by norm_num), by linarith, f360⟩

/-- **The margin hypothesis of the local decoders** at distance `δ`: the two floor arguments stay `δ` away from
    the integers, the latitude `δ` away from ±90 and from every NL transition latitude, and the two half-cell
    tests `δ` away from equality — all on the EXACT values. -/
structure LocalMarginAt (δ full : ℚ) (m : Msg) (latRef lonRef : ℚ) : Prop where
  latIdx_lo : (⌊gIdxArg latRef (dLatOf full m) m.lat⌋ : ℚ) + δ ≤ gIdxArg latRef (dLatOf full m) m.lat
  latIdx_hi : gIdxArg latRef (dLatOf full m) m.lat + δ < (⌊gIdxArg latRef (dLatOf full m) m.lat⌋ : ℚ) + 1
  lat_90 : δ < |latOf full m latRef - 90|
  lat_m90 : δ < |latOf full m latRef + 90|
  lat_half : δ < abs (|latOf full m latRef - latRef| - dLatOf full m / 2)
  lat_nl : nlFar δ (latOf full m latRef)
  lonIdx_lo : (⌊gIdxArg lonRef (dLonOf full m (latOf full m latRef)) m.lon⌋ : ℚ) + δ
      ≤ gIdxArg lonRef (dLonOf full m (latOf full m latRef)) m.lon
  lonIdx_hi : gIdxArg lonRef (dLonOf full m (latOf full m latRef)) m.lon + δ
      < (⌊gIdxArg lonRef (dLonOf full m (latOf full m latRef)) m.lon⌋ : ℚ) + 1
  lon_half : δ < abs (|lonOf full m (latOf full m latRef) lonRef - lonRef|
      - dLonOf full m (latOf full m latRef) / 2)

/-- the margin of the assembled local theorem: `δ = 10⁻⁹` -/
abbrev LocalMargin (full : ℚ) (m : Msg) (latRef lonRef : ℚ) : Prop := LocalMarginAt (1 / 10 ^ 9) full m latRef lonRef

theorem withRef_f64_close_at (R : Rounding fl) (full : ℚ) (hf : full = 360 ∨ full = 90) (m : Msg)
    (hm : m.lat < 131072 ∧ m.lon < 131072) (latRef lonRef : ℚ) (hlr : |latRef| ≤ 360) (hor : |lonRef| ≤ 360)
    {δ : ℚ} (hδ : 1 / 10 ^ 11 ≤ δ) (M : LocalMarginAt δ full m latRef lonRef) :
    Close (1 / 10 ^ 11) (fWithRef fl full m latRef lonRef) (withRef full m latRef lonRef) := by
  have h12 : (1 : ℚ) / 10 ^ 12 < δ := lt_of_lt_of_le (by norm_num) hδ
  have hnl : (1 : ℚ) / 10 ^ 12 + 1 / 10 ^ 13 ≤ δ := le_trans (by norm_num) hδ
  obtain ⟨dl1, dl2, dl3⟩ := fDLat_err R full hf m
  have hJ := floor_eq_of_close ((idx_arg_err R m.lat hm.1 dl2 dl1 hlr).trans h12.le) M.latIdx_lo M.latIdx_hi
  have hLat : |fLatOf fl full m latRef - latOf full m latRef| ≤ 1 / 10 ^ 12 := by
    unfold fLatOf fIdx; rw [hJ, latOf_eq]; exact coord_err R m.lat hm.1 dl2 dl3 dl1 hlr
  have hR : inLatRange (fLatOf fl full m latRef) = inLatRange (latOf full m latRef) :=
    inLatRange_eq_of_far hLat (h12.trans M.lat_90) (h12.trans M.lat_m90)
  have near1 : |latOf full m latRef - latRef| ≤ 200 :=
    (local_near _ (lt_of_lt_of_le (by norm_num) dl2) _ _).trans (by linarith only [dl3])
  have hH1 := half_cmp R hLat dl2 dl3 dl1 near1 (lt_of_le_of_lt hδ M.lat_half)
  have hN : fNl fl (fLatOf fl full m latRef) = nl (latOf full m latRef) :=
    fNl_eq_of_far R hLat (nlFar_mono hnl M.lat_nl)
  obtain ⟨o1, o2, o3⟩ := fDLon_niOf R full hf m (latOf full m latRef)
  have hNi : fNi fl m (fLatOf fl full m latRef) = nl (latOf full m latRef) - fmt m := by
    unfold fNi; rw [hN]
  have hM := floor_eq_of_close ((idx_arg_err R m.lon hm.2 o2 o1 hor).trans h12.le) M.lonIdx_lo M.lonIdx_hi
  have hLon : |fLonOf fl full m (fLatOf fl full m latRef) lonRef
      - lonOf full m (latOf full m latRef) lonRef| ≤ 1 / 10 ^ 12 := by
    unfold fLonOf fIdx; rw [hNi, hM, lonOf_eq]; exact coord_err R m.lon hm.2 o2 o3 o1 hor
  have near2 : |lonOf full m (latOf full m latRef) lonRef - lonRef| ≤ 200 :=
    (local_near _ (lt_of_lt_of_le (by norm_num) o2) _ _).trans (by linarith only [o3])
  have hH2 := half_cmp R hLon o2 o3 o1 near2 (lt_of_le_of_lt hδ M.lon_half)
  rw [withRef_eq]
  unfold fWithRef
  rw [hNi, hR]
  exact Close.ite Iff.rfl fun _ => Close.ite hH1 fun _ => Close.ite hH2 fun _ =>
    Close.some (hLat.trans (by norm_num)) (hLon.trans (by norm_num))

/-- **The complete f64 computation of `airborne_position_with_reference` returns (almost) what the exact model
    returns** (C05), under the margin hypothesis (the proof gives `10⁻¹²`). -/
theorem airborne_with_reference_f64_close (fl : ℚ → ℚ) (R : Rounding fl) (m : Msg)
    (hm : m.lat < 131072 ∧ m.lon < 131072) (latRef lonRef : ℚ) (hlr : |latRef| ≤ 360) (hor : |lonRef| ≤ 360)
    (M : LocalMargin 360 m latRef lonRef) :
    (fAirborneWithRef fl m latRef lonRef = none ↔ airborneWithRef m latRef lonRef = .ok none) ∧
    ∀ q, fAirborneWithRef fl m latRef lonRef = some q → ∃ p : Pos, airborneWithRef m latRef lonRef = .ok (some p) ∧
      |q.1 - p.lat| ≤ 1 / 10 ^ 11 ∧ |q.2 - p.lon| ≤ 1 / 10 ^ 11 :=
  withRef_f64_close_at R 360 (Or.inl rfl) m hm latRef lonRef hlr hor (by norm_num) M

theorem surface_with_reference_f64_close (fl : ℚ → ℚ) (R : Rounding fl) (m : Msg)
    (hm : m.lat < 131072 ∧ m.lon < 131072) (latRef lonRef : ℚ) (hlr : |latRef| ≤ 360) (hor : |lonRef| ≤ 360)
    (M : LocalMargin 90 m latRef lonRef) :
    (fSurfaceWithRef fl m latRef lonRef = none ↔ surfaceWithRef m latRef lonRef = .ok none) ∧
    ∀ q, fSurfaceWithRef fl m latRef lonRef = some q → ∃ p : Pos, surfaceWithRef m latRef lonRef = .ok (some p) ∧
      |q.1 - p.lat| ≤ 1 / 10 ^ 11 ∧ |q.2 - p.lon| ≤ 1 / 10 ^ 11 :=
  withRef_f64_close_at R 90 (Or.inr rfl) m hm latRef lonRef hlr hor (by norm_num) M

theorem localMarginAt_iff (δ full : ℚ) (m : Msg) (latRef lonRef : ℚ) : LocalMarginAt δ full m latRef lonRef ↔
    (((⌊gIdxArg latRef (dLatOf full m) m.lat⌋ : ℚ) + δ ≤ gIdxArg latRef (dLatOf full m) m.lat) ∧
     (gIdxArg latRef (dLatOf full m) m.lat + δ < (⌊gIdxArg latRef (dLatOf full m) m.lat⌋ : ℚ) + 1) ∧
     δ < |latOf full m latRef - 90| ∧ δ < |latOf full m latRef + 90| ∧
     δ < abs (|latOf full m latRef - latRef| - dLatOf full m / 2) ∧ nlFar δ (latOf full m latRef) ∧
     ((⌊gIdxArg lonRef (dLonOf full m (latOf full m latRef)) m.lon⌋ : ℚ) + δ
        ≤ gIdxArg lonRef (dLonOf full m (latOf full m latRef)) m.lon) ∧
     (gIdxArg lonRef (dLonOf full m (latOf full m latRef)) m.lon + δ
        < (⌊gIdxArg lonRef (dLonOf full m (latOf full m latRef)) m.lon⌋ : ℚ) + 1) ∧
     δ < abs (|lonOf full m (latOf full m latRef) lonRef - lonRef| - dLonOf full m (latOf full m latRef) / 2)) :=
  ⟨fun M => ⟨M.1, M.2, M.3, M.4, M.5, M.6, M.7, M.8, M.9⟩,
   fun ⟨a, b, c, d, e, f, g, h, i⟩ => ⟨a, b, c, d, e, f, g, h, i⟩⟩

instance (δ full : ℚ) (m : Msg) (latRef lonRef : ℚ) : Decidable (LocalMarginAt δ full m latRef lonRef) :=
  decidable_of_iff _ (localMarginAt_iff δ full m latRef lonRef).symm

/-- the local margin holds on the reports and references of the repository's tests
    `decode_airporne_position_with_reference` and `decode_surface_position_with_reference` -/
theorem localMargin_tests :
    LocalMargin 360 ⟨.even, 39848, 83951⟩ 49 6 ∧ LocalMargin 360 ⟨.odd, 21567, 81965⟩ 49 6 ∧
      LocalMargin 90 ⟨.even, 115609, 116941⟩ (5199 / 100) (4375 / 1000) := by decide +kernel

end Rs1090.Proofs.CprFloat
