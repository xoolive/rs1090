/-
C14 — the three table-driven schemes (`hl_reg`, `numeric_reg`, `stride_reg`): first-match search over a table of
rows.  What the proofs need of a row is checked once per table by the kernel, over the generated rows; the search
itself is `firstMatch`.
-/
import Rs1090.Proofs.TailDefs
namespace Rs1090.Proofs.Tail
open Rs1090 Rs1090.Model.Tail Rs1090.Gen.Tail

theorem isOk_eq {α} {x : Outcome α} (h : x.isOk = true) : ∃ t, x = .ok t := by
  cases x with
  | ok t => exact ⟨t, rfl⟩
  | err e => cases h
  | panic s => cases h

theorem hl_rows_ok : ∀ r ∈ hlRows,
    r.sub ≤ r.lo ∧ r.hi - r.sub + r.add < 2 ^ 32 ∧ countryOkB r.lo r.hi ['H', 'L'] = true := by decide +kernel

theorem hlReg_good (h : Nat) : Good h (hlReg h) := by
  refine firstMatch (T := hlRows) (go := hlGo h) (fun _ => good_none h) fun k ms hk => ?_
  obtain ⟨h1, h2, h3⟩ := hl_rows_ok _ (getD_mem hk)
  generalize hm : hlRows.getD k default = m at h1 h2 h3 ⊢
  rw [hlGo]
  by_cases hc : m.lo ≤ h ∧ h ≤ m.hi
  · rw [if_pos hc, subU_ok (by omega), Outcome.bind_ok, addU_ok (by omega), Outcome.bind_ok]
    refine .inl (good_some ⟨⟨hk, ?_, ?_⟩, ?_, countryFact_of (r := .hl k _) h3 hc.1 hc.2⟩)
    · rw [hm, hlVLo]; omega
    · rw [hm, hlVHi]; omega
    · simp only [inv, hm]; omega
  · exact .inr (if_neg hc)

theorem numericTable_eq : numericTable = .ok numericRows := by
  obtain ⟨t, ht⟩ := isOk_eq (x := numericTable) (by decide +kernel)
  unfold numericRows
  rw [ht]

theorem num_rows_ok : ∀ m ∈ numericRows,
    numVMax m < 2 ^ 32 ∧ numVMax m < 10 ^ numW m ∧ 0 < numW m ∧
      m.template = numKey m ++ List.replicate (numW m) '0' ∧ countryOkB m.start m.end_ (numKey m) = true := by
  decide +kernel

theorem dec_length_le {m : NumRow} (hm : m ∈ numericRows) {v : Nat} (hv : v ≤ numVMax m) :
    (digits 10 v).length ≤ numW m :=
  have ⟨_, h2, h3, _⟩ := num_rows_ok m hm
  (digits_spec 10 (by decide) v).2.1 _ h3 (Nat.lt_of_le_of_lt hv h2)

theorem numericReg_good (h : Nat) : Good h (numericReg h) := by
  unfold numericReg
  rw [numericTable_eq, Outcome.bind_ok]
  refine firstMatch (T := numericRows) (go := numGo h) (fun _ => good_none h) fun k ms hk => ?_
  obtain ⟨h1, _, _, _, h5⟩ := num_rows_ok _ (getD_mem hk)
  have hlen := @dec_length_le _ (getD_mem hk)
  generalize hm : numericRows.getD k default = m at h1 h5 hlen ⊢
  unfold numVMax at h1 hlen
  rw [numGo]
  by_cases hc : m.start ≤ h ∧ h ≤ m.end_
  · have hl := @hlen (h - m.start + m.first) (by omega)
    rw [if_pos hc, subU_ok hc.1, Outcome.bind_ok, addU_ok (by omega), Outcome.bind_ok,
      subU_ok (by unfold dec numW at *; rw [List.length_map]; omega), Outcome.bind_ok]
    refine .inl (good_some ⟨⟨hk, ?_⟩, ?_, countryFact_of (r := .num k _) (by rw [key, hm]; exact h5) hc.1 hc.2⟩)
    · rw [hm, numVMax]; omega
    · simp only [inv, hm]; omega
  · exact .inr (if_neg hc)

theorem strideTable_eq : strideTable = .ok strideRows := by
  obtain ⟨t, ht⟩ := isOk_eq (x := strideTable) (by decide +kernel)
  unfold strideRows
  rw [ht]

theorem stride_rows_ok : ∀ m ∈ strideRows,
    0 < m.s1 ∧ 0 < m.s2 ∧ m.offset ≤ m.start ∧ m.end_ - m.start + m.offset < 2 ^ 32 ∧ m.alphabet.Nodup ∧
      countryOkB m.start m.end_ m.pre = true := by
  decide +kernel

theorem strideReg_good (h : Nat) : Good h (strideReg h) := by
  unfold strideReg
  rw [strideTable_eq, Outcome.bind_ok]
  refine firstMatch (T := strideRows) (go := strideGo h) (fun _ => good_none h) fun k ms hk => ?_
  obtain ⟨h1, h2, h3, h4, _, h6⟩ := stride_rows_ok _ (getD_mem hk)
  generalize hm : strideRows.getD k default = m at h1 h2 h3 h4 h6 ⊢
  rw [strideGo]
  by_cases hc : m.start ≤ h ∧ h ≤ m.end_
  · rw [if_pos hc, subU_ok hc.1, Outcome.bind_ok, addU_ok (by omega), Outcome.bind_ok,
      divU_ok (by omega), Outcome.bind_ok, modU_ok (by omega), Outcome.bind_ok,
      divU_ok (by omega), Outcome.bind_ok, modU_ok (by omega), Outcome.bind_ok]
    generalize hoff : h - m.start + m.offset = off
    by_cases hi : off / m.s1 < m.alphabet.length ∧ off % m.s1 / m.s2 < m.alphabet.length ∧
        off % m.s1 % m.s2 < m.alphabet.length
    · rw [if_pos hi, nthU_bind hi.1, nthU_bind hi.2.1, nthU_bind hi.2.2]
      refine .inl (good_some ⟨⟨hk, ?_⟩, ?_, countryFact_of (r := .stride k _ _ _) (by rw [key, hm]; exact h6) hc.1 hc.2⟩)
      · rw [hm]
        exact ⟨hi.1, hi.2.1, hi.2.2, Nat.div_le_div_right (by omega), Nat.div_le_div_right (by omega)⟩
      · have e1 := Nat.div_add_mod off m.s1
        have e2 := Nat.div_add_mod (off % m.s1) m.s2
        rw [Nat.mul_comm] at e1 e2
        simp only [inv, hm]
        omega
    · exact .inr (if_neg hi)
  · exact .inr (if_neg hc)

end Rs1090.Proofs.Tail
