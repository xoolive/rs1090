import Mathlib.Data.Rat.Floor
import Mathlib.Algebra.Order.Floor.Ring
import Mathlib.Tactic.Linarith
import Mathlib.Tactic.Ring
import Mathlib.Tactic.FieldSimp
import Mathlib.Tactic.NormNum
import Mathlib.Tactic.LinearCombination
/-!
Pure arithmetic behind CPR (no model, no spec): rounding to the 2^17 lattice, the transmitted
fraction, the zone identity and the recovery of the zone index — over `ℚ`, exact.

Notation.  `N = 131072 = 2^17`.  For a zone coordinate `z` (position divided by the zone size)
`rnd z = ⌊N z + 1/2⌋` is the index of the nearest lattice point, `rnd z / N` (integer division) the
zone it falls in — possibly the *next* zone when the fraction rounds up to 1, the "wrap" — and
`frac17 (rnd z) = (rnd z mod N) / N` the transmitted 17-bit field as a fraction.
-/
namespace Rs1090.Proofs.Cpr

def rnd (z : ℚ) : ℤ := ⌊131072 * z + 1 / 2⌋

def frac17 (T : ℤ) : ℚ := ((T % 131072 : ℤ) : ℚ) / 131072

theorem rnd_err (z : ℚ) : |(rnd z : ℚ) / 131072 - z| ≤ 1 / 262144 := by
  have h1 : (rnd z : ℚ) ≤ 131072 * z + 1 / 2 := Int.floor_le _
  have h2 : 131072 * z + 1 / 2 < (rnd z : ℚ) + 1 := Int.lt_floor_add_one _
  generalize (rnd z : ℚ) = r at h1 h2 ⊢
  exact abs_le.2 ⟨by linarith only [h2], by linarith only [h1]⟩

theorem rnd_mono {a b : ℚ} (h : a ≤ b) : rnd a ≤ rnd b := by
  unfold rnd
  apply Int.floor_le_floor
  linarith

theorem rnd_lattice (k : ℤ) : rnd ((k : ℚ) / 131072) = k := by
  unfold rnd
  rw [Int.floor_eq_iff]
  constructor <;> (field_simp; linarith)

theorem frac17_eq (T : ℤ) : frac17 T = (T : ℚ) / 131072 - ((T / 131072 : ℤ) : ℚ) := by
  unfold frac17
  rw [Int.emod_def]
  push_cast
  field_simp

theorem frac17_nonneg (T : ℤ) : 0 ≤ frac17 T := by
  unfold frac17
  have : 0 ≤ T % 131072 := by omega
  have : (0 : ℚ) ≤ ((T % 131072 : ℤ) : ℚ) := by exact_mod_cast this
  positivity

theorem frac17_lt_one (T : ℤ) : frac17 T < 1 := by
  unfold frac17
  have : T % 131072 < 131072 := by omega
  have : ((T % 131072 : ℤ) : ℚ) < 131072 := by exact_mod_cast this
  rw [div_lt_one (by norm_num)]
  exact this

theorem frac17_add_mul (V k : ℤ) : frac17 (V + k * 131072) = frac17 V := by
  unfold frac17
  have : (V + k * 131072) % 131072 = V % 131072 := by omega
  rw [this]

theorem zone_add_frac17 (T : ℤ) : ((T / 131072 : ℤ) : ℚ) + frac17 T = (T : ℚ) / 131072 := by
  rw [frac17_eq]; ring

/-- (`59·fract(60x) − 60·fract(59x) ∈ ℤ`, generic):
    if `(n−1)·za = n·zb` (both are `n(n−1)x`), then
    `(n−1)·fract za − n·fract zb = n·⌊zb⌋ − (n−1)·⌊za⌋`. -/
theorem zone_int (n : ℤ) (za zb : ℚ) (h : ((n : ℚ) - 1) * za = n * zb) :
    ((n : ℚ) - 1) * Int.fract za - n * Int.fract zb = ((n * ⌊zb⌋ - (n - 1) * ⌊za⌋ : ℤ) : ℚ) := by
  unfold Int.fract
  push_cast
  linear_combination h

/-- With the two 17-bit roundings (error ≤ 2⁻¹⁸ each) the combination
    `(n−1)·a − n·b + 1/2` still floors to the integer of the zone identity, for every `2 ≤ n ≤ 60`, as long
    as `(n−1)·za − n·zb` — zero when both are coordinates of one point — stays within 2/5 (any bound below
    `1/2 − (2n−1)/2^18` works). -/
theorem zone_floor_near (n : ℤ) (hn : 2 ≤ n) (hn' : n ≤ 60) (za zb : ℚ)
    (h : |((n : ℚ) - 1) * za - n * zb| ≤ 2 / 5) :
    ⌊((n : ℚ) - 1) * frac17 (rnd za) - n * frac17 (rnd zb) + 1 / 2⌋
      = n * (rnd zb / 131072) - (n - 1) * (rnd za / 131072) := by
  obtain ⟨hl, hu⟩ := abs_le.mp h
  obtain ⟨a1, a2⟩ := abs_le.mp (rnd_err za)
  obtain ⟨b1, b2⟩ := abs_le.mp (rnd_err zb)
  have hn2 : (2 : ℚ) ≤ n := by exact_mod_cast hn
  have hn60 : (n : ℚ) ≤ 60 := by exact_mod_cast hn'
  have hn0 : (0 : ℚ) ≤ (n : ℚ) := zero_le_two.trans hn2
  have hn1 : (0 : ℚ) ≤ (n : ℚ) - 1 := sub_nonneg.2 (one_le_two.trans hn2)
  have e1 := mul_le_mul_of_nonneg_left a1 hn1
  have e2 := mul_le_mul_of_nonneg_left a2 hn1
  have e3 := mul_le_mul_of_nonneg_left b1 hn0
  have e4 := mul_le_mul_of_nonneg_left b2 hn0
  rw [frac17_eq, frac17_eq, Int.floor_eq_iff]
  push_cast
  -- the zones cancel; what is left is linear in `n`, the two lattice coordinates and their errors
  generalize (rnd za : ℚ) / 131072 = A at e1 e2
  generalize (rnd zb : ℚ) / 131072 = B at e3 e4
  generalize ((rnd za / 131072 : ℤ) : ℚ) = Za
  generalize ((rnd zb / 131072 : ℤ) : ℚ) = Zb
  constructor <;> linarith only [hl, hu, e1, e2, e3, e4, hn60]

theorem zone_floor (n : ℤ) (hn : 2 ≤ n) (hn' : n ≤ 60) (za zb : ℚ)
    (h : ((n : ℚ) - 1) * za = n * zb) :
    ⌊((n : ℚ) - 1) * frac17 (rnd za) - n * frac17 (rnd zb) + 1 / 2⌋
      = n * (rnd zb / 131072) - (n - 1) * (rnd za / 131072) :=
  zone_floor_near n hn hn' za zb (by rw [h, sub_self, abs_zero]; norm_num)

theorem zone_comb_emod (n za zb : ℤ) :
    (n * zb - (n - 1) * za) % n = za % n ∧ (n * zb - (n - 1) * za) % (n - 1) = zb % (n - 1) := by
  constructor
  · rw [show n * zb - (n - 1) * za = za + n * (zb - za) by ring, Int.add_mul_emod_self_left]
  · rw [show n * zb - (n - 1) * za = zb + (n - 1) * (zb - za) by ring, Int.add_mul_emod_self_left]

/-- the hypothesis of `zone_floor_near` in degrees: two coordinates `va`, `vb`, the one measured in `n` zones
    to the turn, the other in `n − 1` -/
theorem zone_near_of_deg (n da db va vb : ℚ) (hn : 1 < n) (hda : da * n = 360) (hdb : db * (n - 1) = 360)
    (h : n * (n - 1) * |va - vb| ≤ 144) : |(n - 1) * (va / da) - n * (vb / db)| ≤ 2 / 5 := by
  have hn0 : 0 < n := by linarith
  have hn1 : 0 < n - 1 := by linarith
  have hda0 : da ≠ 0 := fun h0 => by rw [h0] at hda; norm_num at hda
  have hdb0 : db ≠ 0 := fun h0 => by rw [h0] at hdb; norm_num at hdb
  have ea : va / da = va * n / 360 := by rw [← hda]; field_simp
  have eb : vb / db = vb * (n - 1) / 360 := by rw [← hdb]; field_simp
  have e : (n - 1) * (va / da) - n * (vb / db) = n * (n - 1) * (va - vb) / 360 := by
    rw [ea, eb]; ring
  rw [e, abs_div, abs_mul, abs_mul, abs_of_pos hn0, abs_of_pos hn1,
    abs_of_pos (by norm_num : (0 : ℚ) < 360), div_le_iff₀ (by norm_num)]
  linarith

/-- 17-bit rounding-with-wrap of a fraction `f ∈ [0,1)`: the transmitted field … -/
def q17 (f : ℚ) : ℚ := ((⌊131072 * f + 1 / 2⌋ % 131072 : ℤ) : ℚ) / 131072
/-- … and the wrap (1 when the fraction rounds up to a full zone, else 0) -/
def w17 (f : ℚ) : ℤ := ⌊131072 * f + 1 / 2⌋ / 131072

theorem rnd_fract (z : ℚ) : rnd z = ⌊131072 * Int.fract z + 1 / 2⌋ + 131072 * ⌊z⌋ := by
  unfold rnd Int.fract
  have : 131072 * z + 1 / 2 = (131072 * (z - (⌊z⌋ : ℚ)) + 1 / 2) + ((131072 * ⌊z⌋ : ℤ) : ℚ) := by
    push_cast; ring
  rw [this, Int.floor_add_intCast]

theorem q17_fract (z : ℚ) : q17 (Int.fract z) = frac17 (rnd z) := by
  unfold q17 frac17
  rw [rnd_fract z]
  congr 2
  omega

theorem w17_fract (z : ℚ) : ⌊z⌋ + w17 (Int.fract z) = rnd z / 131072 := by
  unfold w17
  rw [rnd_fract z]
  omega

/-- the decoder's `⌊(n−1)·a − n·b + 1/2⌋` on the two fields of one `x` is congruent to the (wrapped) zone index
    of either, modulo its number of zones -/
theorem zone_pair (n : ℤ) (hn : 2 ≤ n) (hn' : n ≤ 60) (x : ℚ) :
    ⌊((n : ℚ) - 1) * q17 (Int.fract (n * x)) - n * q17 (Int.fract (((n : ℚ) - 1) * x)) + 1 / 2⌋ % n
        = (⌊(n : ℚ) * x⌋ + w17 (Int.fract (n * x))) % n ∧
    ⌊((n : ℚ) - 1) * q17 (Int.fract (n * x)) - n * q17 (Int.fract (((n : ℚ) - 1) * x)) + 1 / 2⌋ % (n - 1)
        = (⌊((n : ℚ) - 1) * x⌋ + w17 (Int.fract (((n : ℚ) - 1) * x))) % (n - 1) := by
  rw [q17_fract, q17_fract, w17_fract, w17_fract,
    zone_floor n hn hn' (n * x) (((n : ℚ) - 1) * x) (by ring)]
  exact zone_comb_emod n _ _

/-- if the lattice point `d·T/N` is strictly within half a zone of the reference,
    then `floor(1/2 + ref/d − frac)` is the missing zone index and the point is recovered exactly. -/
theorem local_zone (d : ℚ) (hd : 0 < d) (T : ℤ) (ref : ℚ)
    (h : |d * ((T : ℚ) / 131072) - ref| < d / 2) :
    ⌊1 / 2 + ref / d - frac17 T⌋ = T / 131072 := by
  have e : d * ((T : ℚ) / 131072) - ref = d * ((T : ℚ) / 131072 - ref / d) := by field_simp
  rw [e, abs_mul, abs_of_pos hd, div_eq_mul_one_div d 2, mul_lt_mul_iff_right₀ hd, abs_lt] at h
  rw [frac17_eq, Int.floor_eq_iff]
  generalize (T : ℚ) / 131072 = X at h
  generalize ((T / 131072 : ℤ) : ℚ) = Z
  constructor <;> linarith only [h.1, h.2]

theorem local_idx_near (q c : ℚ) : |(⌊1 / 2 + q - c⌋ : ℚ) + c - q| ≤ 1 / 2 := by
  have h1 := Int.floor_le (1 / 2 + q - c)
  have h2 := Int.lt_floor_add_one (1 / 2 + q - c)
  generalize (⌊1 / 2 + q - c⌋ : ℚ) = j at h1 h2 ⊢
  exact abs_le.2 ⟨by linarith only [h2], by linarith only [h1]⟩

theorem local_near (d : ℚ) (hd : 0 < d) (c ref : ℚ) :
    |d * ((⌊1 / 2 + ref / d - c⌋ : ℚ) + c) - ref| ≤ d / 2 := by
  have e : d * ((⌊1 / 2 + ref / d - c⌋ : ℚ) + c) - ref
      = d * ((⌊1 / 2 + ref / d - c⌋ : ℚ) + c - ref / d) := by field_simp
  rw [e, abs_mul, abs_of_pos hd, div_eq_mul_one_div d 2]
  exact mul_le_mul_of_nonneg_left (local_idx_near (ref / d) c) hd.le

end Rs1090.Proofs.Cpr
