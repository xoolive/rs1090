import Rs1090.Model.CprState
import Mathlib.Tactic.SplitIfs
import Mathlib.Tactic.Linarith
/-!
The stateful trajectory decoder (`Model/CprState.lean`), without arithmetic:

* readable normal forms of the two arms of `decode_position`, written with the LITERAL windows and gates
  (`< 0`, `< 10`, `< 180`, `> 50`, `< 180`, `< 1`) — `airborneArm_literal`, `surfaceArm_literal` prove that the
  model instantiated with gates that ARE these literals (`LiteralGates g`) is that normal form;
  `Props.C06.source_gates_literal` proves `LiteralGates Gates.source` for the regenerated gates, so that an
  edit of a number or of a comparison operator in the source breaks that theorem;
* what ONE call of `decode_position` does, per kind of report: `decodePosition_airborne`,
  `decodePosition_surface` (output and new entry of the aircraft through `airOut`/`airEntry`, `surfOut`/`surfEntry`;
  new reference, airborne only, through `refAfter`) and `decodePosition_other` (nothing changes) — the forms the invariant
  (`Proofs/CprStateInv.lean`) and C06 work with;
* the frame lemmas of the cache (`decodePosition_frame`, `_ref_fixed`, `_local`) and the non-interference
  induction (`run_own`);
* the batch run over a concatenation: `run_append`, `run_length`, `run_take`.
-/
namespace Rs1090.Proofs.CprState
open Rs1090 Rs1090.Model.Cpr Rs1090.Model.CprState

structure LiteralGates (g : Gates) : Prop where
  outOfOrder : ∀ dt, g.outOfOrder dt = decide (dt < 0)
  pairWindow : ∀ dt, g.pairWindow dt = decide (dt < 10)
  refWindow : ∀ dt, g.refWindow dt = decide (dt < 180)
  gateReject : ∀ d, g.gateReject d = decide (d > 50)
  surfRefWindow : ∀ dt, g.surfRefWindow dt = decide (dt < 180)
  surfContinuity : ∀ d, g.surfContinuity d = decide (d < 1)

/-- globally unambiguous decoding against the stored report of the other parity, if it is less than 10 s old -/
def pairDecode (e : AircraftState) (ts : Rat) (m : Msg) : Option Pos :=
  if ts - otherTs e m.parity < 10 then
    match otherMsg e m.parity with
    | some oldest => flat (airbornePosition oldest m)
    | none => none
  else none

theorem pairDecode_eq_some {e : AircraftState} {ts : Rat} {m : Msg} {p : Pos} :
    pairDecode e ts m = some p ↔
      ts - otherTs e m.parity < 10 ∧
      ∃ o, otherMsg e m.parity = some o ∧ flat (airbornePosition o m) = some p := by
  unfold pairDecode
  rw [Option.ite_none_right_eq_some]
  cases otherMsg e m.parity <;> simp

/-- locally unambiguous decoding against the aircraft's last position, if it is less than 180 s old -/
def refDecode (e : AircraftState) (ts : Rat) (m : Msg) : Option Pos :=
  if ts - e.timestamp < 180 then
    match e.pos with
    | some latestPos => flat (airborneWithRef m latestPos.lat latestPos.lon)
    | none => none
  else none

theorem refDecode_eq_some {e : AircraftState} {ts : Rat} {m : Msg} {p : Pos} :
    refDecode e ts m = some p ↔
      ts - e.timestamp < 180 ∧
      ∃ lp, e.pos = some lp ∧ flat (airborneWithRef m lp.lat lp.lon) = some p := by
  unfold refDecode
  rw [Option.ite_none_right_eq_some]
  cases e.pos <;> simp

def airCandidate (e : AircraftState) (ts : Rat) (m : Msg) : Option Pos :=
  match pairDecode e ts m with
  | some p => some p
  | none => refDecode e ts m

theorem airCandidate_eq_some {e : AircraftState} {ts : Rat} {m : Msg} {p : Pos} :
    airCandidate e ts m = some p ↔
      pairDecode e ts m = some p ∨ (pairDecode e ts m = none ∧ refDecode e ts m = some p) := by
  unfold airCandidate
  cases pairDecode e ts m <;> simp

/-- the 50 km plausibility gate against the last position (whatever its age) -/
def gate50 (dist : Pos → Pos → Rat) (cand last : Option Pos) : Option Pos :=
  match cand, last with
  | some newPos, some latestPos => if dist newPos latestPos > 50 then none else cand
  | _, _ => cand

theorem gate50_eq_some {dist : Pos → Pos → Rat} {cand last : Option Pos} {p : Pos} :
    gate50 dist cand last = some p ↔ cand = some p ∧ ∀ lp, last = some lp → dist p lp ≤ 50 := by
  cases cand with
  | none => simp [gate50]
  | some q =>
    cases last with
    | none => simp [gate50]
    | some lp =>
      simp only [gate50, Option.some.injEq, forall_eq']
      constructor
      · intro h
        split_ifs at h with hd
        cases h
        exact ⟨rfl, not_lt.mp hd⟩
      · rintro ⟨rfl, hd⟩
        rw [if_neg (not_lt.mpr hd)]

/-- what is attached to a BDS 0,5 report that passes the out-of-order guard -/
def airOut (dist : Pos → Pos → Rat) (e : AircraftState) (ts : Rat) (m : Msg) : Option Pos :=
  gate50 dist (airCandidate e ts m) e.pos

/-- the entry after a BDS 0,5 report that passes the out-of-order guard: position := what was attached
    (`None` on failure), time stamp of the position only on success, parity slot always -/
def airEntry (dist : Pos → Pos → Rat) (e : AircraftState) (ts : Rat) (m : Msg) : AircraftState :=
  storeSlot
    (match airOut dist e ts m with
     | some p => { e with pos := some p, timestamp := ts }
     | none => { e with pos := none })
    m ts

theorem airborneArm_literal (g : Gates) (hg : LiteralGates g) (dist : Pos → Pos → Rat) (e : AircraftState)
    (ts : Rat) (m : Msg) :
    airborneArm g dist e ts m =
      if ts - otherTs e m.parity < 0 then none else some (airEntry dist e ts m, airOut dist e ts m) := by
  -- The normal form is rewritten into the text of the model, which `rfl` then accepts (the other way round,
  -- the `match`es of the model would have to be syntactically the ones written here).  `pos1` is `pairDecode`
  -- and `pos3` is `gate50` by definition; `pos2` is `airCandidate`:
  have h2 : ∀ c : Option Pos, (match c with | some p => some p | none => refDecode e ts m) =
      if c.isNone && decide (ts - e.timestamp < 180) then
        match e.pos with
        | some latestPos => flat (airborneWithRef m latestPos.lat latestPos.lon)
        | none => c
      else c := by
    intro c
    cases c with
    | some p => rfl
    | none => simp only [refDecode, Option.isNone_none, Bool.true_and, decide_eq_true_eq]
  rw [airEntry, airOut, gate50.eq_def, airCandidate, h2, airborneArm]
  simp only [hg.outOfOrder, hg.pairWindow, hg.refWindow, hg.gateReject, decide_eq_true_eq]
  rfl

/-- decoding against the aircraft's last position: less than 180 s old, result within 1 km of it -/
def surfLast (dist : Pos → Pos → Rat) (e : AircraftState) (ts : Rat) (m : Msg) : Option Pos :=
  if ts - e.timestamp < 180 then
    match e.pos with
    | some latestPos =>
      match flat (surfaceWithRef m latestPos.lat latestPos.lon) with
      | some sp => if dist latestPos sp < 1 then some sp else none
      | none => none
    | none => none
  else none

theorem surfLast_eq_some {dist : Pos → Pos → Rat} {e : AircraftState} {ts : Rat} {m : Msg} {p : Pos} :
    surfLast dist e ts m = some p ↔
      ts - e.timestamp < 180 ∧
      ∃ lp, e.pos = some lp ∧ flat (surfaceWithRef m lp.lat lp.lon) = some p ∧ dist lp p < 1 := by
  unfold surfLast
  rw [Option.ite_none_right_eq_some]
  refine and_congr_right fun _ => ?_
  cases e.pos with
  | none => simp
  | some lp =>
    simp only [Option.some.injEq, exists_eq_left']
    cases flat (surfaceWithRef m lp.lat lp.lon) with
    | none => simp
    | some sp =>
      simp only [Option.ite_none_right_eq_some, Option.some.injEq]
      exact ⟨fun ⟨hd, hsp⟩ => hsp ▸ ⟨rfl, hd⟩, fun ⟨hsp, hd⟩ => ⟨hsp ▸ hd, hsp⟩⟩

def surfOut (dist : Pos → Pos → Rat) (e : AircraftState) (reference : Option Pos) (ts : Rat) (m : Msg) :
    Option Pos :=
  match surfLast dist e ts m with
  | some p => some p
  | none =>
    match reference with
    | some r => flat (surfaceWithRef m r.lat r.lon)
    | none => none

theorem surfOut_eq_some {dist : Pos → Pos → Rat} {e : AircraftState} {reference : Option Pos} {ts : Rat}
    {m : Msg} {p : Pos} :
    surfOut dist e reference ts m = some p ↔
      surfLast dist e ts m = some p ∨
      (surfLast dist e ts m = none ∧
        ∃ rf, reference = some rf ∧ flat (surfaceWithRef m rf.lat rf.lon) = some p) := by
  unfold surfOut
  cases surfLast dist e ts m <;> cases reference <;> simp

/-- the entry after a BDS 0,6 report: updated on success only -/
def surfEntry (dist : Pos → Pos → Rat) (e : AircraftState) (reference : Option Pos) (ts : Rat) (m : Msg) :
    AircraftState :=
  match surfOut dist e reference ts m with
  | some p => { e with pos := some p, timestamp := ts }
  | none => e

theorem surfaceArm_literal (g : Gates) (hg : LiteralGates g) (dist : Pos → Pos → Rat) (e : AircraftState)
    (reference : Option Pos) (ts : Rat) (m : Msg) :
    surfaceArm g dist e reference ts m
      = (surfEntry dist e reference ts m, surfOut dist e reference ts m) := by
  -- as for `airborneArm_literal`: `pos1` is `surfLast` by definition, `pos2` is `surfOut`, the final `match` the pair
  have h2 : ∀ c : Option Pos, (match c with
        | some p => some p
        | none =>
          match reference with
          | some r => flat (surfaceWithRef m r.lat r.lon)
          | none => none) = match reference with
        | some r => if c.isNone then flat (surfaceWithRef m r.lat r.lon) else c
        | none => c := by
    intro c
    cases c <;> cases reference <;> rfl
  have h3 : ∀ c : Option Pos, ((match c with
        | some p => { e with pos := some p, timestamp := ts }
        | none => e), c) = match c with
        | some p => (({ e with pos := some p, timestamp := ts } : AircraftState), some p)
        | none => (e, none) := by
    intro c
    cases c <;> rfl
  rw [surfEntry, h3, surfOut.eq_def, h2, surfaceArm.eq_def]
  simp only [hg.surfRefWindow, hg.surfContinuity, decide_eq_true_eq]
  rfl

/-- the receiver reference after a BDS 0,5 report to which `out` was attached -/
def refAfter (upd : Option (Report → Bool)) (reference : Option Pos) (r : Report) (out : Option Pos) :
    Option Pos :=
  match out, upd with
  | some p, some f => if f r then some p else reference
  | _, _ => reference

theorem set_same (c : Cache) (a : Address) (s : AircraftState) : (c.set a s) a = some s :=
  if_pos rfl

/-- one call for a BDS 0,5 report that finds the entry `e`: a report older than the stored report of the
    other parity only creates the entry; any other one goes through `airOut`, `airEntry`, `refAfter` -/
theorem decodePosition_airborne (g : Gates) (hg : LiteralGates g) (dist : Pos → Pos → Rat)
    (upd : Option (Report → Bool)) (c : Cache) (reference : Option Pos) (r : Report)
    (hk : r.kind = .airborne) {e : AircraftState} (he : (c r.addr).getD (AircraftState.fresh r.ts) = e) :
    decodePosition g dist upd (c, reference) r =
      ((c.set r.addr (if r.ts - otherTs e r.msg.parity < 0 then e else airEntry dist e r.ts r.msg),
        if r.ts - otherTs e r.msg.parity < 0 then reference
        else refAfter upd reference r (airOut dist e r.ts r.msg)),
       if r.ts - otherTs e r.msg.parity < 0 then none else airOut dist e r.ts r.msg) := by
  subst he
  unfold decodePosition stepEntry
  simp only [hk, airborneArm_literal g hg]
  split_ifs <;> rfl

theorem decodePosition_surface (g : Gates) (hg : LiteralGates g) (dist : Pos → Pos → Rat)
    (upd : Option (Report → Bool)) (c : Cache) (reference : Option Pos) (r : Report)
    (hk : r.kind = .surface) {e : AircraftState} (he : (c r.addr).getD (AircraftState.fresh r.ts) = e) :
    decodePosition g dist upd (c, reference) r =
      ((c.set r.addr (surfEntry dist e reference r.ts r.msg), reference),
       surfOut dist e reference r.ts r.msg) := by
  subst he
  unfold decodePosition stepEntry
  simp only [hk, surfaceArm_literal g hg]

theorem decodePosition_other (g : Gates) (dist : Pos → Pos → Rat) (upd : Option (Report → Bool))
    (c : Cache) (reference : Option Pos) (r : Report) (hk : r.kind = .other) :
    decodePosition g dist upd (c, reference) r =
      ((c.set r.addr ((c r.addr).getD (AircraftState.fresh r.ts)), reference), none) := by
  unfold decodePosition stepEntry
  simp only [hk]

theorem decodePosition_frame (g : Gates) (dist : Pos → Pos → Rat) (upd : Option (Report → Bool)) (st : State)
    (r : Report) (A : Address) (h : A ≠ r.addr) :
    (decodePosition g dist upd st r).1.1 A = st.1 A :=
  if_neg h

/-- with `update_reference = None` the receiver reference is never written -/
theorem decodePosition_ref_fixed (g : Gates) (dist : Pos → Pos → Rat) (st : State) (r : Report) :
    (decodePosition g dist none st r).1.2 = st.2 := by
  unfold decodePosition stepEntry
  cases r.kind
  · simp only
    cases airborneArm g dist ((st.1 r.addr).getD (AircraftState.fresh r.ts)) r.ts r.msg with
    | none => rfl
    | some x => cases x with | mk a b => cases b <;> rfl
  · rfl
  · rfl

theorem decodePosition_local (g : Gates) (dist : Pos → Pos → Rat) (upd : Option (Report → Bool))
    (s1 s2 : State) (r : Report) (he : s1.1 r.addr = s2.1 r.addr) (hr : s1.2 = s2.2) :
    (decodePosition g dist upd s1 r).2 = (decodePosition g dist upd s2 r).2 ∧
    (decodePosition g dist upd s1 r).1.1 r.addr = (decodePosition g dist upd s2 r).1.1 r.addr ∧
    (decodePosition g dist upd s1 r).1.2 = (decodePosition g dist upd s2 r).1.2 := by
  unfold decodePosition
  simp only [he, hr, set_same, and_self]

def own (A : Address) (h : List Report) : List Report := h.filter fun r => r.addr == A

def outputsOf (A : Address) (h : List Report) (outs : List (Option Pos)) : List (Option Pos) :=
  ((h.zip outs).filter fun x => x.1.addr == A).map (·.2)

theorem outputsOf_cons_same (A : Address) (r : Report) (h : List Report) (o : Option Pos)
    (outs : List (Option Pos)) (hr : r.addr = A) :
    outputsOf A (r :: h) (o :: outs) = o :: outputsOf A h outs := by
  simp [outputsOf, hr]

theorem outputsOf_cons_other (A : Address) (r : Report) (h : List Report) (o : Option Pos)
    (outs : List (Option Pos)) (hr : r.addr ≠ A) :
    outputsOf A (r :: h) (o :: outs) = outputsOf A h outs := by
  simp [outputsOf, hr]

/-- non-interference: the outputs attached to `A`'s reports in a history are those of `A`'s own reports run alone -/
theorem run_own (g : Gates) (dist : Pos → Pos → Rat) (A : Address) :
    ∀ (h : List Report) (s1 s2 : State), s1.1 A = s2.1 A → s1.2 = s2.2 →
      outputsOf A h (run g dist none s1 h) = run g dist none s2 (own A h) := by
  intro h
  induction h with
  | nil => intro s1 s2 _ _; rfl
  | cons r rest ih =>
    intro s1 s2 he hr
    by_cases ha : r.addr = A
    · subst ha
      obtain ⟨h1, h2, h3⟩ := decodePosition_local g dist none s1 s2 r he hr
      have hown : own r.addr (r :: rest) = r :: own r.addr rest := by simp [own]
      rw [hown]
      simp only [run]
      rw [outputsOf_cons_same _ r rest _ _ rfl, h1, ih _ _ h2 h3]
    · have hown : own A (r :: rest) = own A rest := by simp [own, ha]
      rw [hown]
      simp only [run]
      rw [outputsOf_cons_other A r rest _ _ ha]
      exact ih _ _ ((decodePosition_frame g dist none s1 r A (Ne.symm ha)).trans he)
        ((decodePosition_ref_fixed g dist s1 r).trans hr)

theorem runState_append (g : Gates) (dist : Pos → Pos → Rat) (upd : Option (Report → Bool)) :
    ∀ (a : List Report) (st : State) (b : List Report),
      runState g dist upd st (a ++ b) = runState g dist upd (runState g dist upd st a) b := by
  intro a
  induction a with
  | nil => intro st b; rfl
  | cons r a ih => intro st b; exact ih _ b

theorem run_append (g : Gates) (dist : Pos → Pos → Rat) (upd : Option (Report → Bool)) :
    ∀ (a : List Report) (st : State) (b : List Report),
      run g dist upd st (a ++ b) = run g dist upd st a ++ run g dist upd (runState g dist upd st a) b := by
  intro a
  induction a with
  | nil => intro st b; rfl
  | cons r a ih => intro st b; exact congrArg (_ :: ·) (ih _ b)

theorem run_length (g : Gates) (dist : Pos → Pos → Rat) (upd : Option (Report → Bool)) :
    ∀ (h : List Report) (st : State), (run g dist upd st h).length = h.length := by
  intro h
  induction h with
  | nil => intro st; rfl
  | cons a h ih => intro st; exact congrArg (· + 1) (ih _)

theorem run_take (g : Gates) (dist : Pos → Pos → Rat) (upd : Option (Report → Bool)) :
    ∀ (h : List Report) (st : State) (n : ℕ),
      run g dist upd st (h.take n) = (run g dist upd st h).take n := by
  intro h
  induction h with
  | nil => intro st n; cases n <;> rfl
  | cons a h ih =>
    intro st n
    cases n with
    | zero => rfl
    | succ n => exact congrArg (_ :: ·) (ih _ n)

end Rs1090.Proofs.CprState
