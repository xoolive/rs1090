/-
`since_gps_week_to_since_today` (Gen/Time.lean) on its exact domain.
-/
import Rs1090.Gen.Time
namespace Rs1090.Gen.Time
open Rs1090

/-- The conversion returns `(t − 18 s) mod 1 day` (mathematical modulo over ℤ) for every `t` for
    which the addition of one day stays within `u64`; a time of week is one such. -/
theorem since_gps_week_to_since_today_eq (t : Nat) (ht : t + 86400 * 1000000000 < 2 ^ 64) :
    since_gps_week_to_since_today t
      = .ok (((t : Int) - 18 * 1000000000) % ((86400 * 1000000000 : Nat) : Int)).toNat := by
  simp (disch := omega) only [since_gps_week_to_since_today, LEAP_SECONDS_SINCE_2017,
    Outcome.bind_ok, addU_ok, subU_ok, mulU_ok, modU_ok, Nat.reduceMul]
  apply congrArg
  omega

end Rs1090.Gen.Time
