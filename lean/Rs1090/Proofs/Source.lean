/-
The equations of the model of `Source::from_str` / `Position::from_str` (Model/Source.lean) that
several theorems of Props/C16 go through; an arm that one theorem is about is evaluated there.
-/
import Rs1090.Model.Source
import Rs1090.Spec.Source
namespace Rs1090.Source
open Rs1090

theorem stripPrefixL_append (p s : List Char) : stripPrefixL p (p ++ s) = some s := by
  induction p with
  | nil => rw [List.nil_append, stripPrefixL]
  | cons c p ih => rw [List.cons_append, stripPrefixL, if_pos rfl, ih]

theorem stripPrefix_append (pre s : String) : stripPrefix pre (pre ++ s) = some s := by
  rw [stripPrefix, String.toList_append, stripPrefixL_append, Option.map_some, String.ofList_toList]

theorem not_mem_schemes {s : String} (h : s ∉ Spec.Source.schemes) :
    s ≠ "tcp" ∧ s ≠ "udp" ∧ s ≠ "ws" ∧ s ≠ "rtlsdr" := by
  simpa only [Spec.Source.schemes, List.mem_cons, List.mem_nil_iff, or_false, not_or] using h

/-- `tcp://host[:port]`: a missing part takes its default. -/
theorem addressOf_tcp_host {u : UrlParts} (hs : u.scheme = "tcp") (hk : u.hostKind ≠ .none) :
    addressOf u = .ok (.tcpShort (hostPort (u.host.getD Gen.Source.tcpDefaultHost)
      (u.portOrKnownDefault.getD Gen.Source.tcpDefaultPort))) := by
  unfold addressOf
  rw [if_pos hs]
  split
  · contradiction
  · rfl

/-- The regex search of `Position::from_str` finds no airport. -/
theorem Position.search_none {p : PosParts} (hm : p.regexCompiles = false ∨ p.airportMatch = none) :
    (if p.regexCompiles then p.airportMatch else none) = none := by
  rcases hm with hm | hm <;> simp only [hm, Bool.false_eq_true, ↓reduceIte, ite_self]

theorem Position.fromParts_ne_panic (p : PosParts) (s : Site) :
    Position.fromParts p ≠ .panic s := by
  unfold Position.fromParts
  repeat' split
  all_goals (intro h; cases h)

/-- `Position::from_str(query).ok()` -/
theorem withReference_eq (posOf : String → Outcome Pos) (a : Address) (query : Option String)
    (h : ∀ q s, posOf q ≠ .panic s) :
    withReference posOf a query = .ok ⟨a, query.bind fun q => (posOf q).toOption⟩ := by
  cases query with
  | none => rfl
  | some q =>
    rw [withReference, Option.bind_some]
    cases hq : posOf q with
    | ok p => rfl
    | err e => rfl
    | panic s => exact absurd hq (h q s)

theorem fromParts_of_address {env : String → PosParts} {u : UrlParts} {a : Address}
    (ha : addressOf u = .ok a) :
    fromParts env u =
      .ok ⟨a, u.query.bind fun q => (Position.fromParts (env q)).toOption⟩ := by
  rw [fromParts, ha]
  exact withReference_eq _ a u.query (fun q => Position.fromParts_ne_panic (env q))

end Rs1090.Source
