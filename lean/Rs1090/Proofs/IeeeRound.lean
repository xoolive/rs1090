import Rs1090.Proofs.CprFloat
import Mathlib.Data.Int.Log
import Mathlib.Algebra.Group.Int.Even
import Mathlib.Algebra.Order.Floor.Ring
import Mathlib.Tactic.Linarith
import Mathlib.Tactic.Ring
import Mathlib.Tactic.NormNum
/-!
IEEE-754 binary64 round-to-nearest, ties-to-even, as a function `fl64 : ℚ → ℚ`, and the proof that it is an
instance of the rounding hypothesis `Rounding` of `Proofs/CprFloat.lean` (C04 / C05).

`Proofs/CprFloat.lean` proves the f64 argument of the CPR decoders for an ABSTRACT `fl : ℚ → ℚ` satisfying
`Rounding fl` (identity on binary64 values, `|fl x − x| ≤ |x|·2⁻⁵³ + 2⁻¹⁰⁷⁵`, monotone).  So that the IEEE
instance need not be trusted, the rounding function itself is DEFINED here

* `rne x`  — the integer nearest to `x`, ties to the even one (`IsRne x n` is its specification, `rne_eq`
  its uniqueness);
* `expo q = max (Int.log 2 |q|) (-1022)` — the binade of `q`, clamped at the subnormal range
  (`2^(expo q) ≤ |q| < 2^(expo q + 1)` above it, `pow_expo_le_abs` / `abs_lt_pow_expo_succ`);
* `ulp q = 2^(expo q − 52)` — the spacing of the binary64 values in that binade (`2⁻¹⁰⁷⁴` for subnormals);
* `fl64 q = rne (q / ulp q) · ulp q`

and `rounding_fl64 : Rounding fl64` is PROVED, together with `fl64_f64exact` (the result IS a finite binary64
value when `|q| ≤ 2^1023`), `fl64_nearest` (no finite binary64 value is closer to `q` than `fl64 q`),
`fl64_tie_even` (in a tie the even significand is chosen) — these three characterise round-to-nearest-even, so
that `fl64` need not be trusted by inspection of its definition —, `fl64_neg`, `fl64_idem`, and evaluation
rules with the well known doubles of `0.1` and `1/3` and the subnormal tie `2⁻¹⁰⁷⁵ ↦ 0` as non-vacuity examples.

**What `fl64` does not model: overflow.**  The exponent is unbounded above, so `fl64` never returns an
infinity.  It coincides with IEEE-754 round-to-nearest-even wherever the IEEE result is finite, i.e. wherever
`|fl64 q| ≤ (2^53 − 1)·2^971` (the largest finite binary64 value).  That covers every use in
`Proofs/CprFloat.lean`: `Rounding.err` is only asked for `|q| ≤ 2^1023`, and every intermediate value of the
CPR decoders is below `2^40` in magnitude.  NaN, infinities and the sign of zero have no counterpart in `ℚ`
(`fl64 0 = 0`; `expo 0 = 0` is an artefact of `Int.log 2 0 = 0` without consequence, since `rne 0 = 0`).

What remains outside Lean after this file: that the machine operations the Rust code uses (`+ − × ÷`,
`libm::floor`, `u32/i32 → f64` conversion, decimal literal parsing) return `fl64` of the exact result —
IEEE-754 conformance of the hardware / LLVM / libm.
-/
namespace Rs1090.Proofs.IeeeRound
open Rs1090.Proofs.CprFloat

def rne (x : ℚ) : ℤ :=
  if x - ⌊x⌋ < 1 / 2 then ⌊x⌋
  else if 1 / 2 < x - ⌊x⌋ then ⌊x⌋ + 1
  else if Even ⌊x⌋ then ⌊x⌋ else ⌊x⌋ + 1

def IsRne (x : ℚ) (n : ℤ) : Prop := |x - n| < 1 / 2 ∨ (|x - n| = 1 / 2 ∧ Even n)

theorem rne_spec (x : ℚ) : IsRne x (rne x) := by
  have h1 : (⌊x⌋ : ℚ) ≤ x := Int.floor_le x
  have h2 : x < (⌊x⌋ : ℚ) + 1 := Int.lt_floor_add_one x
  unfold IsRne rne
  split_ifs with c1 c2 c3
  · left; rw [abs_lt]; constructor <;> linarith only [h1, c1]
  · left; push_cast; rw [abs_lt]; constructor <;> linarith only [h2, c2]
  · right
    have e : x - ⌊x⌋ = 1 / 2 := le_antisymm (not_lt.mp c2) (not_lt.mp c1)
    exact ⟨by rw [e]; norm_num, c3⟩
  · right
    have e : x - ⌊x⌋ = 1 / 2 := le_antisymm (not_lt.mp c2) (not_lt.mp c1)
    refine ⟨?_, ?_⟩
    · push_cast
      have : x - ((⌊x⌋ : ℚ) + 1) = -(1 / 2) := by rw [← sub_sub, e]; norm_num
      rw [this]; norm_num
    · rw [Int.even_iff] at c3 ⊢; omega

theorem IsRne.dist_le {x : ℚ} {n : ℤ} (h : IsRne x n) : |x - n| ≤ 1 / 2 := by
  rcases h with h | ⟨h, _⟩
  · exact le_of_lt h
  · exact le_of_eq h

/-- two integers within `1/2` of `x` with `m < n` are `x ∓ 1/2`: consecutive, so not both even -/
theorem IsRne.asymm {x : ℚ} {m n : ℤ} (hm : IsRne x m) (hn : IsRne x n) : ¬ m < n := by
  intro hlt
  have am := abs_le.mp hm.dist_le
  have an := abs_le.mp hn.dist_le
  have h1 : (m : ℚ) + 1 ≤ n := by exact_mod_cast hlt
  have em : x - m = 1 / 2 := by linarith only [am.2, an.1, h1]
  have en : x - n = -(1 / 2) := by linarith only [am.2, an.1, h1]
  have evm : Even m := by
    rcases hm with h | h
    · rw [em] at h; norm_num at h
    · exact h.2
  have evn : Even n := by
    rcases hn with h | h
    · rw [en] at h; norm_num at h
    · exact h.2
  have : n = m + 1 := by exact_mod_cast (by linarith only [em, en] : (n : ℚ) = m + 1)
  rw [Int.even_iff] at evm evn; omega

theorem IsRne.unique {x : ℚ} {m n : ℤ} (hm : IsRne x m) (hn : IsRne x n) : m = n :=
  le_antisymm (not_lt.mp (hn.asymm hm)) (not_lt.mp (hm.asymm hn))

theorem rne_eq {x : ℚ} {n : ℤ} (h : IsRne x n) : rne x = n := (rne_spec x).unique h

theorem rne_intCast (n : ℤ) : rne (n : ℚ) = n := rne_eq (Or.inl (by simp))

theorem abs_rne_sub_le (x : ℚ) : |(rne x : ℚ) - x| ≤ 1 / 2 := by
  rw [abs_sub_comm]; exact (rne_spec x).dist_le

theorem rne_mono {a b : ℚ} (h : a ≤ b) : rne a ≤ rne b := by
  by_contra hc
  have hc' : rne b + 1 ≤ rne a := by omega
  have hq : ((rne b : ℤ) : ℚ) + 1 ≤ (rne a : ℚ) := by exact_mod_cast hc'
  have ha := abs_le.mp (abs_rne_sub_le a)
  have hb := abs_le.mp (abs_rne_sub_le b)
  have : a = b := by linarith
  subst this; omega

theorem rne_le {x : ℚ} {n : ℤ} (h : x ≤ n) : rne x ≤ n := by
  have := rne_mono h; rwa [rne_intCast] at this

theorem le_rne {x : ℚ} {n : ℤ} (h : (n : ℚ) ≤ x) : n ≤ rne x := by
  have := rne_mono h; rwa [rne_intCast] at this

theorem rne_neg (x : ℚ) : rne (-x) = -rne x := by
  apply rne_eq
  have e : -x - ((-rne x : ℤ) : ℚ) = -(x - rne x) := by push_cast; ring
  rcases rne_spec x with h | ⟨h, ev⟩
  · left; rw [e, abs_neg]; exact h
  · right; rw [e, abs_neg]; exact ⟨h, ev.neg⟩

/-- the binary exponent of `q`, clamped below at the exponent `-1022` of the smallest normal number
    (`Int.log 2 r` = the greatest `k` with `2^k ≤ r`, for `r > 0`) -/
def expo (q : ℚ) : ℤ := max (Int.log 2 |q|) (-1022)
def ulp (q : ℚ) : ℚ := (2 : ℚ) ^ (expo q - 52)
/-- **IEEE-754 binary64 round-to-nearest, ties-to-even**, with gradual underflow and WITHOUT overflow to
    infinity (the exponent is unbounded above): it coincides with IEEE-754 wherever
    `|result| ≤ (2^53 − 1)·2^971`, the largest finite binary64 value. -/
def fl64 (q : ℚ) : ℚ := (rne (q / ulp q) : ℚ) * ulp q

theorem ulp_pos (q : ℚ) : 0 < ulp q := zpow_pos (by norm_num) _

theorem expo_neg (q : ℚ) : expo (-q) = expo q := by unfold expo; rw [abs_neg]
theorem ulp_neg (q : ℚ) : ulp (-q) = ulp q := by unfold ulp; rw [expo_neg]

theorem fl64_neg (q : ℚ) : fl64 (-q) = -fl64 q := by
  unfold fl64; rw [ulp_neg, neg_div, rne_neg]; push_cast; ring

theorem fl64_zero : fl64 0 = 0 := by
  unfold fl64; rw [zero_div]
  have : rne 0 = 0 := by exact_mod_cast rne_intCast 0
  rw [this]; simp

theorem expo_ge (q : ℚ) : -1022 ≤ expo q := le_max_right _ _

theorem log2_eq {r : ℚ} {k : ℤ} (h1 : (2 : ℚ) ^ k ≤ r) (h2 : r < (2 : ℚ) ^ (k + 1)) : Int.log 2 r = k := by
  have h0 : 0 < r := lt_of_lt_of_le (zpow_pos (by norm_num) _) h1
  have a : k ≤ Int.log 2 r := (Int.zpow_le_iff_le_log (by norm_num) h0).mp (by exact_mod_cast h1)
  have b : Int.log 2 r < k + 1 := (Int.lt_zpow_iff_log_lt (by norm_num) h0).mp (by exact_mod_cast h2)
  omega

theorem abs_lt_pow_expo_succ (q : ℚ) : |q| < (2 : ℚ) ^ (expo q + 1) := by
  have h : |q| < (2 : ℚ) ^ (Int.log 2 |q| + 1) := by
    exact_mod_cast Int.lt_zpow_succ_log_self (b := 2) (by norm_num) |q|
  have hle : Int.log 2 |q| ≤ expo q := le_max_left _ _
  exact h.trans_le (zpow_le_zpow_right₀ (by norm_num) (by omega))

theorem expo_lt {q : ℚ} {k : ℤ} (hq : q ≠ 0) (hk : -1022 < k) (h : |q| < (2 : ℚ) ^ k) : expo q < k :=
  max_lt ((Int.lt_zpow_iff_log_lt (by norm_num) (abs_pos.mpr hq)).mp (by exact_mod_cast h)) hk

theorem pow_expo_le_abs {q : ℚ} (hq : q ≠ 0) (h : -1022 < expo q) : (2 : ℚ) ^ expo q ≤ |q| := by
  have e : expo q = Int.log 2 |q| := by unfold expo at h ⊢; omega
  rw [e]; exact_mod_cast Int.zpow_log_le_self (b := 2) (by norm_num) (abs_pos.mpr hq)

theorem expo_mono {a b : ℚ} (ha : a ≠ 0) (h : |a| ≤ |b|) : expo a ≤ expo b := by
  unfold expo
  exact max_le_max (Int.log_mono_right (abs_pos.mpr ha) h) le_rfl

theorem fl64_sub (q : ℚ) : fl64 q - q = ((rne (q / ulp q) : ℚ) - q / ulp q) * ulp q := by
  unfold fl64
  have := ne_of_gt (ulp_pos q)
  field_simp

theorem abs_fl64_sub_le (q : ℚ) : |fl64 q - q| ≤ ulp q / 2 := by
  rw [fl64_sub, abs_mul, abs_of_pos (ulp_pos q)]
  have := abs_rne_sub_le (q / ulp q)
  have := mul_le_mul_of_nonneg_right this (le_of_lt (ulp_pos q))
  linarith

theorem fl64_le_grid (q : ℚ) (n : ℤ) (h : q ≤ n * ulp q) : fl64 q ≤ n * ulp q :=
  mul_le_mul_of_nonneg_right (Int.cast_le.mpr (rne_le ((div_le_iff₀ (ulp_pos q)).mpr h))) (ulp_pos q).le

theorem grid_le_fl64 (q : ℚ) (n : ℤ) (h : n * ulp q ≤ q) : n * ulp q ≤ fl64 q :=
  mul_le_mul_of_nonneg_right (Int.cast_le.mpr (le_rne ((le_div_iff₀ (ulp_pos q)).mpr h))) (ulp_pos q).le

theorem fl64_nonneg {q : ℚ} (h : 0 ≤ q) : 0 ≤ fl64 q := by
  have := grid_le_fl64 q 0 (by simpa using h); simpa using this

theorem fl64_nonpos {q : ℚ} (h : q ≤ 0) : fl64 q ≤ 0 := by
  have := fl64_le_grid q 0 (by simpa using h); simpa using this

theorem pow_expo (q : ℚ) : (2 : ℚ) ^ (expo q) = ((2 ^ 52 : ℤ) : ℚ) * ulp q := by
  unfold ulp
  rw [show expo q = 52 + (expo q - 52) by ring, zpow_add₀ (by norm_num)]
  norm_num

theorem pow_expo_succ (q : ℚ) : (2 : ℚ) ^ (expo q + 1) = ((2 ^ 53 : ℤ) : ℚ) * ulp q := by
  rw [zpow_add_one₀ (by norm_num), pow_expo]
  push_cast; ring

/-- monotone on the positive half line: same binade — `rne_mono`; different binades — the power of two
    between them is a grid point of both -/
theorem fl64_mono_pos {a b : ℚ} (ha : 0 < a) (h : a ≤ b) : fl64 a ≤ fl64 b := by
  have hb : 0 < b := lt_of_lt_of_le ha h
  have hexp : expo a ≤ expo b := expo_mono (ne_of_gt ha) (by rwa [abs_of_pos ha, abs_of_pos hb])
  rcases eq_or_lt_of_le hexp with e | lt
  · have hu : ulp a = ulp b := by unfold ulp; rw [e]
    unfold fl64
    rw [hu]
    have h1 : a / ulp b ≤ b / ulp b := div_le_div_of_nonneg_right h (le_of_lt (ulp_pos b))
    have h2 : ((rne (a / ulp b) : ℤ) : ℚ) ≤ ((rne (b / ulp b) : ℤ) : ℚ) := by exact_mod_cast rne_mono h1
    exact mul_le_mul_of_nonneg_right h2 (le_of_lt (ulp_pos b))
  · have h1 : fl64 a ≤ (2 : ℚ) ^ (expo a + 1) := by
      rw [pow_expo_succ]
      apply fl64_le_grid
      rw [← pow_expo_succ]
      have := abs_lt_pow_expo_succ a
      rw [abs_of_pos ha] at this
      exact le_of_lt this
    have h2 : (2 : ℚ) ^ (expo a + 1) ≤ (2 : ℚ) ^ (expo b) :=
      zpow_le_zpow_right₀ (by norm_num) (by omega)
    have h3 : (2 : ℚ) ^ (expo b) ≤ fl64 b := by
      have h4 : (2 : ℚ) ^ (expo b) ≤ |b| :=
        pow_expo_le_abs (ne_of_gt hb) (by have := expo_ge a; omega)
      rw [abs_of_pos hb] at h4
      rw [pow_expo] at h4 ⊢
      exact grid_le_fl64 b _ h4
    linarith

/-- `fl64` is monotone (odd function + monotone on the positive half line) -/
theorem fl64_mono {a b : ℚ} (h : a ≤ b) : fl64 a ≤ fl64 b := by
  rcases lt_trichotomy a 0 with ha | ha | ha
  · rcases le_or_gt 0 b with hb | hb
    · exact le_trans (fl64_nonpos (le_of_lt ha)) (fl64_nonneg hb)
    · have := fl64_mono_pos (a := -b) (b := -a) (by linarith) (by linarith)
      rw [fl64_neg, fl64_neg] at this
      linarith
  · subst ha; rw [fl64_zero]; exact fl64_nonneg h
  · exact fl64_mono_pos ha h

theorem abs_lt_of_f64 {y : ℚ} {m e : ℤ} (hy : y = (m : ℚ) * (2 : ℚ) ^ e) (hm : |m| < 2 ^ 53) :
    |y| < (2 : ℚ) ^ (53 + e) := by
  have hpos : (0 : ℚ) < (2 : ℚ) ^ e := zpow_pos (by norm_num) _
  have : |(m : ℚ)| < (2 : ℚ) ^ (53 : ℤ) := by
    rw [← Int.cast_abs]; exact_mod_cast hm
  rw [hy, abs_mul, abs_of_pos hpos, zpow_add₀ (by norm_num)]
  exact mul_lt_mul_of_pos_right this hpos

/-- a binary64 value at least as large in magnitude as `2^(expo q)`, or any binary64 value when `q` is in the
    subnormal range, is a multiple of `ulp q`: its exponent `e` is at least `expo q − 52` -/
theorem f64exact_grid {q y : ℚ} (hy : F64Exact y) (h : expo q = -1022 ∨ (2 : ℚ) ^ expo q ≤ |y|) :
    ∃ k : ℤ, y = (k : ℚ) * ulp q := by
  obtain ⟨m, e, hy, hm, he, _⟩ := hy
  have hexp : expo q - 52 ≤ e := by
    rcases h with h | h
    · omega
    · have := (zpow_lt_zpow_iff_right₀ (a := (2 : ℚ)) (by norm_num)).mp
        (lt_of_le_of_lt h (abs_lt_of_f64 hy hm))
      omega
  obtain ⟨k, hk⟩ : ∃ k : ℕ, e = (expo q - 52) + k := ⟨(e - (expo q - 52)).toNat, by omega⟩
  refine ⟨m * 2 ^ k, ?_⟩
  unfold ulp
  generalize expo q = E at hk ⊢
  rw [hy, hk, zpow_add₀ (by norm_num), zpow_natCast]
  push_cast; ring

/-- binary64 values are fixed points: `q / ulp q` is an integer -/
theorem fl64_exact (q : ℚ) (h : F64Exact q) : fl64 q = q := by
  by_cases hq0 : q = 0
  · rw [hq0, fl64_zero]
  obtain ⟨k, hk⟩ := f64exact_grid (q := q) h (by
    rcases eq_or_lt_of_le (expo_ge q) with e | lt
    · exact Or.inl e.symm
    · exact Or.inr (pow_expo_le_abs hq0 lt))
  have hdiv : q / ulp q = (k : ℚ) := by rw [div_eq_iff (ulp_pos q).ne']; exact hk
  unfold fl64
  rw [hdiv, rne_intCast]
  exact hk.symm

theorem half_ulp_le {q : ℚ} (hq : q ≠ 0) : ulp q / 2 ≤ |q| * u + eta := by
  have h0 : (0 : ℚ) ≤ |q| * u := mul_nonneg (abs_nonneg _) (le_of_lt u_pos)
  have hu : ulp q / 2 = (2 : ℚ) ^ (expo q) * u := by
    unfold ulp u
    rw [zpow_sub₀ (by norm_num)]
    norm_num; ring
  rcases eq_or_lt_of_le (expo_ge q) with e | lt
  · -- subnormal range: `ulp q / 2 = eta`
    have : ulp q / 2 = eta := by
      unfold ulp eta
      rw [← e, show (-1022 - 52 : ℤ) = -((1074 : ℕ) : ℤ) by norm_num, zpow_neg, zpow_natCast,
        show (2 : ℚ) ^ 1075 = 2 ^ 1074 * 2 from pow_succ 2 1074]
      generalize (2 : ℚ) ^ 1074 = X
      rw [one_div, mul_inv, div_eq_mul_inv]
    rw [this]; linarith
  · rw [hu]
    have := mul_le_mul_of_nonneg_right (pow_expo_le_abs hq lt) (le_of_lt u_pos)
    linarith [eta_pos]

theorem fl64_err (q : ℚ) : |fl64 q - q| ≤ |q| * u + eta := by
  by_cases hq : q = 0
  · rw [hq, fl64_zero]; simp [le_of_lt eta_pos]
  · exact le_trans (abs_fl64_sub_le q) (half_ulp_le hq)

theorem rounding_fl64 : Rounding fl64 :=
  ⟨fl64_exact, fun q _ => fl64_err q, fun _ _ h => fl64_mono h⟩

theorem f64exact_neg {x : ℚ} (h : F64Exact x) : F64Exact (-x) := by
  obtain ⟨m, e, hx, hm, h1, h2⟩ := h
  exact ⟨-m, e, by rw [hx]; push_cast; ring, by rwa [abs_neg], h1, h2⟩

theorem pow1023_lt : (2 : ℚ) ^ 1023 < (2 : ℚ) ^ (1024 : ℤ) := by
  rw [show (1024 : ℤ) = ((1024 : ℕ) : ℤ) from rfl, zpow_natCast]
  exact pow_lt_pow_right₀ (by norm_num) (by norm_num)

theorem fl64_f64exact_pos {q : ℚ} (h0 : 0 < q) (h : q ≤ 2 ^ 1023) : F64Exact (fl64 q) := by
  have hE1 : expo q < 1024 :=
    expo_lt h0.ne' (by norm_num) (by rw [abs_of_pos h0]; exact lt_of_le_of_lt h pow1023_lt)
  have hE0 := expo_ge q
  obtain ⟨m, hm⟩ : ∃ m, rne (q / ulp q) = m := ⟨_, rfl⟩
  have hfl : fl64 q = (m : ℚ) * (2 : ℚ) ^ (expo q - 52) := by unfold fl64; rw [hm]; rfl
  have hm0 : 0 ≤ m := by
    rw [← hm]; exact le_rne (by rw [Int.cast_zero]; exact div_nonneg h0.le (ulp_pos q).le)
  have hm1 : m ≤ 2 ^ 53 := by
    rw [← hm]; apply rne_le
    rw [div_le_iff₀ (ulp_pos q), ← pow_expo_succ]
    have := abs_lt_pow_expo_succ q
    rw [abs_of_pos h0] at this
    exact this.le
  rcases eq_or_lt_of_le hm1 with e | lt
  · -- `m = 2^53`: the result is `2^52·2^(expo q − 51)`; in the top binade `q ≤ 2^1023 = 2^52·ulp q` forces `m ≤ 2^52`
    have hE2 : expo q ≤ 1022 := by
      by_contra hc
      have hE : expo q = 1023 := by omega
      have : m ≤ 2 ^ 52 := by
        rw [← hm]; apply rne_le
        rw [div_le_iff₀ (ulp_pos q), ← pow_expo, hE]; exact_mod_cast h
      omega
    refine ⟨2 ^ 52, expo q - 51, ?_, by norm_num, by omega, by omega⟩
    rw [hfl, e, show expo q - 51 = 1 + (expo q - 52) by ring, zpow_add₀ (by norm_num)]
    push_cast; ring
  · exact ⟨m, expo q - 52, hfl, by rw [abs_of_nonneg hm0]; exact lt, by omega, by omega⟩

/-- **The rounded value is a finite binary64 value** (`|q| ≤ 2^1023`; beyond the largest finite value IEEE-754
    overflows to infinity, which `fl64` does not model) -/
theorem fl64_f64exact (q : ℚ) (h : |q| ≤ 2 ^ 1023) : F64Exact (fl64 q) := by
  rcases lt_trichotomy q 0 with hq | hq | hq
  · have := fl64_f64exact_pos (q := -q) (by linarith) (le_trans (neg_le_abs q) h)
    rw [fl64_neg] at this
    simpa using f64exact_neg this
  · rw [hq, fl64_zero]; exact ⟨0, 0, by simp, by norm_num, by norm_num, by norm_num⟩
  · exact fl64_f64exact_pos hq (le_trans (le_abs_self q) h)

theorem fl64_idem (q : ℚ) (h : |q| ≤ 2 ^ 1023) : fl64 (fl64 q) = fl64 q :=
  fl64_exact _ (fl64_f64exact q h)

/-- `fl64_nearest` for a binary64 value `y` above `q`.  Rounding up: monotonicity.  Rounding down to `n·ulp q`:
    a point `k·ulp q` of `q`'s own grid lies in `[q, y]`, hence so does `(n+1)·ulp q`, which is at least as far
    from `q` as `n·ulp q` is. -/
theorem fl64_nearest_of_le {q y : ℚ} (hy : F64Exact y) (h1 : q ≤ y) : |fl64 q - q| ≤ |y - q| := by
  rw [abs_of_nonneg (sub_nonneg.mpr h1)]
  rcases le_or_gt q (fl64 q) with h2 | h2
  · have := fl64_mono h1
    rw [fl64_exact y hy] at this
    rw [abs_of_nonneg (sub_nonneg.mpr h2)]; linarith
  rw [abs_of_neg (sub_neg.mpr h2)]
  have hU := ulp_pos q
  -- the grid point between `q` and `y`: `y` itself, or `-2^(expo q)` when `y` lies in a lower binade than `q < 0`
  obtain ⟨k, hk1, hk2⟩ : ∃ k : ℤ, q ≤ k * ulp q ∧ k * ulp q ≤ y := by
    by_cases hg : expo q = -1022 ∨ (2 : ℚ) ^ expo q ≤ |y|
    · obtain ⟨k, hk⟩ := f64exact_grid hy hg
      exact ⟨k, by rw [← hk]; exact h1, hk.ge⟩
    · rw [not_or, not_le] at hg
      have hq0 : q ≠ 0 := by
        rintro rfl; rw [fl64_zero] at h2; exact lt_irrefl _ h2
      have hyabs := abs_lt.mp hg.2
      rcases le_abs'.mp (pow_expo_le_abs hq0 (lt_of_le_of_ne (expo_ge q) (Ne.symm hg.1))) with hq | hq
      · rw [pow_expo] at hq hyabs
        push_cast at hq hyabs
        exact ⟨-(2 ^ 52), by push_cast; linarith, by push_cast; linarith⟩
      · linarith
  -- `n·ulp q < q ≤ k·ulp q`, so the next grid point `(n+1)·ulp q` is at most `y`; `q − n·ulp q ≤ ulp q / 2`
  have h4 := abs_le.mp (abs_fl64_sub_le q)
  unfold fl64 at h2 h4 ⊢
  generalize rne (q / ulp q) = n at h2 h4 ⊢
  have hnk : n + 1 ≤ k := by
    have : (n : ℚ) < k := lt_of_mul_lt_mul_right (lt_of_lt_of_le h2 hk1) hU.le
    exact_mod_cast this
  have h3 : ((n + 1 : ℤ) : ℚ) * ulp q ≤ k * ulp q := mul_le_mul_of_nonneg_right (by exact_mod_cast hnk) hU.le
  push_cast at h3
  linarith

theorem fl64_nearest (q y : ℚ) (hy : F64Exact y) : |fl64 q - q| ≤ |y - q| := by
  rcases le_total q y with h | h
  · exact fl64_nearest_of_le hy h
  · have := fl64_nearest_of_le (q := -q) (y := -y) (f64exact_neg hy) (neg_le_neg h)
    rwa [fl64_neg, neg_sub_neg, neg_sub_neg, abs_sub_comm q, abs_sub_comm q] at this

/-- in a tie (`q` half way between two neighbouring values of its binade) the significand chosen is even -/
theorem fl64_tie_even (q : ℚ) (h : |fl64 q - q| = ulp q / 2) : Even (rne (q / ulp q)) := by
  rw [fl64_sub, abs_mul, abs_of_pos (ulp_pos q)] at h
  have h1 : |(rne (q / ulp q) : ℚ) - q / ulp q| = 1 / 2 := by
    have := ne_of_gt (ulp_pos q)
    field_simp at h ⊢; linarith
  rcases rne_spec (q / ulp q) with h2 | h2
  · rw [abs_sub_comm] at h1; rw [h1] at h2; exact absurd h2 (lt_irrefl _)
  · exact h2.2

theorem expo_eq_of_normal {q : ℚ} {k : ℤ} (hk : -1022 ≤ k) (h1 : (2 : ℚ) ^ k ≤ |q|)
    (h2 : |q| < (2 : ℚ) ^ (k + 1)) : expo q = k := by
  unfold expo; rw [log2_eq h1 h2]; exact max_eq_left hk

theorem expo_eq_of_subnormal {q : ℚ} (h0 : q ≠ 0) (h : |q| < (2 : ℚ) ^ (-1022 : ℤ)) : expo q = -1022 := by
  have : Int.log 2 |q| < -1022 :=
    (Int.lt_zpow_iff_log_lt (by norm_num) (abs_pos.mpr h0)).mp (by exact_mod_cast h)
  unfold expo; exact max_eq_right (le_of_lt this)

theorem fl64_eq_of_normal {q : ℚ} {k n : ℤ} (hk : -1022 ≤ k) (h1 : (2 : ℚ) ^ k ≤ |q|)
    (h2 : |q| < (2 : ℚ) ^ (k + 1)) (hn : IsRne (q / (2 : ℚ) ^ (k - 52)) n) :
    fl64 q = (n : ℚ) * (2 : ℚ) ^ (k - 52) := by
  unfold fl64 ulp; rw [expo_eq_of_normal hk h1 h2, rne_eq hn]

theorem fl64_eq_of_subnormal {q : ℚ} {n : ℤ} (h0 : q ≠ 0) (h : |q| < (2 : ℚ) ^ (-1022 : ℤ))
    (hn : IsRne (q / (2 : ℚ) ^ (-1074 : ℤ)) n) : fl64 q = (n : ℚ) * (2 : ℚ) ^ (-1074 : ℤ) := by
  unfold fl64 ulp; rw [expo_eq_of_subnormal h0 h]
  rw [show (-1022 - 52 : ℤ) = -1074 by norm_num, rne_eq hn]

/-- `0.1` rounds to the well known double `0x3FB999999999999A = 3602879701896397 / 2^55` -/
theorem fl64_one_tenth : fl64 (1 / 10) = 3602879701896397 / 2 ^ 55 := by
  rw [fl64_eq_of_normal (k := -4) (n := 7205759403792794) (by norm_num) (by norm_num [abs_of_pos])
    (by norm_num [abs_of_pos]) (Or.inl (by norm_num [abs_lt]))]
  norm_num

/-- `1/3` is not a binary64 value: it rounds to `0x3FD5555555555555 = 6004799503160661 / 2^54` -/
theorem fl64_one_third : fl64 (1 / 3) = 6004799503160661 / 2 ^ 54 ∧ fl64 (1 / 3) ≠ 1 / 3 := by
  have h : fl64 (1 / 3) = 6004799503160661 / 2 ^ 54 := by
    rw [fl64_eq_of_normal (k := -2) (n := 6004799503160661) (by norm_num) (by norm_num [abs_of_pos])
      (by norm_num [abs_of_pos]) (Or.inl (by norm_num [abs_lt]))]
    norm_num
  exact ⟨h, by rw [h]; norm_num⟩

theorem zpow_lt_2 {a b : ℤ} (h : a < b) : (2 : ℚ) ^ a < (2 : ℚ) ^ b :=
  zpow_lt_zpow_right₀ (by norm_num) h

/-- half the smallest subnormal is a tie between `0` and `2^-1074`: it rounds to the even one, `0` -/
example : fl64 ((2 : ℚ) ^ (-1075 : ℤ)) = 0 := by
  have hp : (0 : ℚ) < (2 : ℚ) ^ (-1075 : ℤ) := zpow_pos (by norm_num) _
  rw [fl64_eq_of_subnormal (n := 0) (ne_of_gt hp) (by rw [abs_of_pos hp]; exact zpow_lt_2 (by norm_num))]
  · simp
  · right
    rw [← zpow_sub₀ (by norm_num)]
    norm_num

example : fl64 ((2 : ℚ) ^ (-1074 : ℤ)) = (2 : ℚ) ^ (-1074 : ℤ) :=
  fl64_exact _ ⟨1, -1074, by rw [Int.cast_one, one_mul], by norm_num, le_rfl, by norm_num⟩

/-- every value `F64Exact` describes is a fixed point, e.g. the largest finite one, `(2^53 − 1)·2^971` -/
example : fl64 ((2 ^ 53 - 1) * (2 : ℚ) ^ (971 : ℤ)) = (2 ^ 53 - 1) * (2 : ℚ) ^ (971 : ℤ) :=
  fl64_exact _ ⟨2 ^ 53 - 1, 971, by congr 1; norm_num, by norm_num, by norm_num, by norm_num⟩

end Rs1090.Proofs.IeeeRound
