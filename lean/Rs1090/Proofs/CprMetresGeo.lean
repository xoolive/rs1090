/-
Distances on a sphere, for the "within N metres" clauses of C04/C05/C06.

Points are given by latitude `φ` and longitude `l` in radians.  `chordSq` is the squared straight-line
(chord) distance of the two points of the UNIT sphere in ℝ³ — an elementary definition; everything else is
derived from it.
-/
import Mathlib.Analysis.SpecialFunctions.Trigonometric.Bounds
import Mathlib.Analysis.SpecialFunctions.Trigonometric.Inverse
import Mathlib.Analysis.Real.Pi.Bounds
namespace Rs1090.Proofs.Geo
open Real

noncomputable def rad (d : ℝ) : ℝ := d * π / 180

/-- squared chord between `(φ₁, l₁)` and `(φ₂, l₂)` on the unit sphere: the squared Euclidean distance of
    `(cos φ cos l, cos φ sin l, sin φ)` -/
noncomputable def chordSq (φ₁ l₁ φ₂ l₂ : ℝ) : ℝ :=
  (cos φ₁ * cos l₁ - cos φ₂ * cos l₂) ^ 2 + (cos φ₁ * sin l₁ - cos φ₂ * sin l₂) ^ 2
    + (sin φ₁ - sin φ₂) ^ 2

/-- great-circle distance on the sphere of radius `R` (central angle `2·arcsin(chord/2)` times `R`) -/
noncomputable def gcDist (R φ₁ l₁ φ₂ l₂ : ℝ) : ℝ := 2 * R * arcsin (√(chordSq φ₁ l₁ φ₂ l₂) / 2)

noncomputable def chordDist (R φ₁ l₁ φ₂ l₂ : ℝ) : ℝ := R * √(chordSq φ₁ l₁ φ₂ l₂)

theorem rad_sub (x y : ℝ) : rad x - rad y = rad (x - y) := by unfold rad; ring

theorem rad_le_rad {x y : ℝ} (h : x ≤ y) : rad x ≤ rad y := by
  unfold rad
  exact div_le_div_of_nonneg_right (mul_le_mul_of_nonneg_right h pi_pos.le) (by norm_num)

theorem rad_nonneg {x : ℝ} (h : 0 ≤ x) : 0 ≤ rad x := by unfold rad; positivity

theorem rad_90 : rad 90 = π / 2 := by unfold rad; ring

theorem abs_rad (x : ℝ) : |rad x| = rad |x| := by
  unfold rad; rw [abs_div, abs_mul, abs_of_pos pi_pos, abs_of_pos (by norm_num : (0 : ℝ) < 180)]

theorem cos_rad_abs (x : ℝ) : cos (rad |x|) = cos (rad x) := by rw [← abs_rad, cos_abs]

theorem cos_rad_nonneg {x : ℝ} (h : |x| ≤ 90) : 0 ≤ cos (rad x) := by
  rw [← cos_rad_abs]
  exact cos_nonneg_of_neg_pi_div_two_le_of_le (by linarith [rad_nonneg (abs_nonneg x), pi_pos])
    (rad_90 ▸ rad_le_rad h)

theorem chordSq_nonneg (φ₁ l₁ φ₂ l₂ : ℝ) : 0 ≤ chordSq φ₁ l₁ φ₂ l₂ := by
  unfold chordSq; positivity

/-- the haversine identity: the squared chord splits into a part along the meridian and a part along the parallel -/
theorem chordSq_eq (φ₁ l₁ φ₂ l₂ : ℝ) :
    chordSq φ₁ l₁ φ₂ l₂
      = 4 * sin ((φ₁ - φ₂) / 2) ^ 2 + 4 * cos φ₁ * cos φ₂ * sin ((l₁ - l₂) / 2) ^ 2 := by
  have e1 : sin ((φ₁ - φ₂) / 2) ^ 2 = 1 / 2 - cos (φ₁ - φ₂) / 2 := by
    rw [sin_sq_eq_half_sub]; congr 2; ring_nf
  have e2 : sin ((l₁ - l₂) / 2) ^ 2 = 1 / 2 - cos (l₁ - l₂) / 2 := by
    rw [sin_sq_eq_half_sub]; congr 2; ring_nf
  rw [e1, e2, cos_sub, cos_sub]
  unfold chordSq
  have h1 := sin_sq_add_cos_sq φ₁
  have h2 := sin_sq_add_cos_sq φ₂
  have H1 := sin_sq_add_cos_sq l₁
  have H2 := sin_sq_add_cos_sq l₂
  linear_combination (cos φ₁) ^ 2 * H1 + (cos φ₂) ^ 2 * H2 + h1 + h2

theorem sin_sq_add_int_mul_pi (x : ℝ) (k : ℤ) : sin (x + k * π) ^ 2 = sin x ^ 2 := by
  rw [sin_sq_eq_half_sub, sin_sq_eq_half_sub x]
  have : 2 * (x + k * π) = 2 * x + k * (2 * π) := by ring
  rw [this, cos_add_int_mul_two_pi]

theorem chordSq_le (φ₁ l₁ φ₂ l₂ : ℝ) (k : ℤ) (h1 : 0 ≤ cos φ₁) (h2 : 0 ≤ cos φ₂) :
    chordSq φ₁ l₁ φ₂ l₂ ≤ (φ₁ - φ₂) ^ 2 + cos φ₁ * cos φ₂ * (l₁ + 2 * π * k - l₂) ^ 2 := by
  rw [chordSq_eq]
  have e : sin ((l₁ - l₂) / 2) ^ 2 = sin ((l₁ + 2 * π * k - l₂) / 2) ^ 2 := by
    rw [← sin_sq_add_int_mul_pi ((l₁ - l₂) / 2) k]; congr 2; ring
  rw [e]
  have a := sin_sq_le_sq (x := (φ₁ - φ₂) / 2)
  have b := sin_sq_le_sq (x := (l₁ + 2 * π * k - l₂) / 2)
  have hc : 0 ≤ cos φ₁ * cos φ₂ := mul_nonneg h1 h2
  have b' := mul_le_mul_of_nonneg_left b hc
  linarith

/-- cos is 1-Lipschitz: cos φ₁ ≤ cos φ₂ + |Δφ| -/
theorem chordSq_le_of_bounds (φ₁ l₁ φ₂ l₂ a b c : ℝ) (k : ℤ) (h1 : 0 ≤ cos φ₁) (h2 : 0 ≤ cos φ₂)
    (ha : |φ₁ - φ₂| ≤ a) (hb : |l₁ + 2 * π * k - l₂| ≤ b) (hc : cos φ₂ ≤ c) :
    chordSq φ₁ l₁ φ₂ l₂ ≤ a ^ 2 + (c + a) * c * b ^ 2 := by
  have ha0 : 0 ≤ a := le_trans (abs_nonneg _) ha
  have hb0 : 0 ≤ b := le_trans (abs_nonneg _) hb
  have hc0 : 0 ≤ c := le_trans h2 hc
  have lip : cos φ₁ ≤ c + a := by
    have := abs_cos_sub_cos_le φ₁ φ₂
    have := (abs_le.mp (le_trans this ha)).2
    linarith
  have s1 : (φ₁ - φ₂) ^ 2 ≤ a ^ 2 := by rw [← sq_abs]; exact pow_le_pow_left₀ (abs_nonneg _) ha 2
  have s2 : (l₁ + 2 * π * k - l₂) ^ 2 ≤ b ^ 2 := by
    rw [← sq_abs]; exact pow_le_pow_left₀ (abs_nonneg _) hb 2
  have p : cos φ₁ * cos φ₂ ≤ (c + a) * c := mul_le_mul lip hc h2 (by linarith)
  have p2 : cos φ₁ * cos φ₂ * (l₁ + 2 * π * k - l₂) ^ 2 ≤ (c + a) * c * b ^ 2 :=
    mul_le_mul p s2 (sq_nonneg _) (by positivity)
  linarith [chordSq_le φ₁ l₁ φ₂ l₂ k h1 h2]

/-- the points in degrees; `c` a bound of the cosine at the second point, `ε` a bound of `A` in radians,
    `m ≥ R·π/180` metres per degree -/
theorem chordSq_metres (R m lat lon rl ro A B c ε : ℝ) (k : ℤ) (hR : 0 ≤ R) (hm : R * (π / 180) ≤ m)
    (hlat : |lat| ≤ 90) (hrl : |rl| ≤ 90) (hA : |lat - rl| ≤ A) (hB : |lon + 360 * k - ro| ≤ B)
    (hc : cos (rad rl) ≤ c) (hε : rad A ≤ ε) :
    R ^ 2 * chordSq (rad lat) (rad lon) (rad rl) (rad ro) ≤ (m * A) ^ 2 + (c + ε) * c * (m * B) ^ 2 := by
  have hA0 : 0 ≤ A := (abs_nonneg _).trans hA
  have hB0 : 0 ≤ B := (abs_nonneg _).trans hB
  have hc0 : 0 ≤ c := (cos_rad_nonneg hrl).trans hc
  have ha : |rad lat - rad rl| ≤ rad A := by rw [rad_sub, abs_rad]; exact rad_le_rad hA
  have hb : |rad lon + 2 * π * k - rad ro| ≤ rad B := by
    have e : rad lon + 2 * π * k - rad ro = rad (lon + 360 * k - ro) := by unfold rad; ring
    rw [e, abs_rad]; exact rad_le_rad hB
  have key := chordSq_le_of_bounds _ _ _ _ _ _ c k (cos_rad_nonneg hlat) (cos_rad_nonneg hrl) ha hb hc
  have scale : ∀ x : ℝ, 0 ≤ x → (R * rad x) ^ 2 ≤ (m * x) ^ 2 := fun x hx => by
    have e : R * rad x = R * (π / 180) * x := by unfold rad; ring
    exact pow_le_pow_left₀ (mul_nonneg hR (rad_nonneg hx)) (e ▸ mul_le_mul_of_nonneg_right hm hx) 2
  have hcc : (c + rad A) * c ≤ (c + ε) * c := mul_le_mul_of_nonneg_right (by linarith) hc0
  calc R ^ 2 * chordSq (rad lat) (rad lon) (rad rl) (rad ro)
      ≤ R ^ 2 * (rad A ^ 2 + (c + rad A) * c * rad B ^ 2) := mul_le_mul_of_nonneg_left key (sq_nonneg R)
    _ = (R * rad A) ^ 2 + (c + rad A) * c * (R * rad B) ^ 2 := by ring
    _ ≤ _ := add_le_add (scale A hA0)
        (mul_le_mul hcc (scale B hB0) (sq_nonneg _) (mul_nonneg (by linarith [rad_nonneg hA0]) hc0))

theorem chordDist_le (R S φ₁ l₁ φ₂ l₂ : ℝ) (hR : 0 ≤ R) (hS0 : 0 ≤ S)
    (hS : R ^ 2 * chordSq φ₁ l₁ φ₂ l₂ ≤ S ^ 2) : chordDist R φ₁ l₁ φ₂ l₂ ≤ S := by
  unfold chordDist
  have h : R * √(chordSq φ₁ l₁ φ₂ l₂) = √(R ^ 2 * chordSq φ₁ l₁ φ₂ l₂) := by
    rw [sqrt_mul (sq_nonneg R), sqrt_sq hR]
  rw [h]
  calc √(R ^ 2 * chordSq φ₁ l₁ φ₂ l₂) ≤ √(S ^ 2) := sqrt_le_sqrt hS
    _ = S := sqrt_sq hS0

/-- from the chord to the arc: `arcsin(s/2) ≤ y ⇔ s/2 ≤ sin y`, and `y − y³/6 ≤ sin y` -/
theorem gcDist_le (R D S φ₁ l₁ φ₂ l₂ : ℝ) (hR : 0 < R) (hD0 : 0 ≤ D) (hD : D ≤ 2 * R) (hS0 : 0 ≤ S)
    (hS : R ^ 2 * chordSq φ₁ l₁ φ₂ l₂ ≤ S ^ 2) (hSD : S ≤ D - D ^ 3 / (24 * R ^ 2)) :
    gcDist R φ₁ l₁ φ₂ l₂ ≤ D := by
  have hc := chordDist_le R S φ₁ l₁ φ₂ l₂ hR.le hS0 hS
  unfold chordDist at hc
  unfold gcDist
  set s := √(chordSq φ₁ l₁ φ₂ l₂) with hs
  set y := D / (2 * R) with hy
  have h2R : 0 < 2 * R := mul_pos two_pos hR
  have hy0 : 0 ≤ y := div_nonneg hD0 h2R.le
  have hy1 : y ≤ 1 := by rw [hy, div_le_one h2R]; exact hD
  have hpi : (1 : ℝ) < π / 2 := by linarith only [pi_gt_three]
  have key : s / 2 ≤ sin y := by
    have h1 := sin_ge_sub_cube hy0
    have h2 : s / 2 ≤ y - y ^ 3 / 6 := by
      have e : y - y ^ 3 / 6 = (D - D ^ 3 / (24 * R ^ 2)) / (2 * R) := by
        rw [hy]; field_simp; ring
      rw [e, div_le_div_iff₀ (by norm_num) h2R]
      linarith only [hc, hSD]
    exact h2.trans h1
  have hmem : y ∈ Set.Ico (-(π / 2)) (π / 2) := ⟨by linarith only [hy0, hpi], by linarith only [hy1, hpi]⟩
  have h3 : arcsin (s / 2) ≤ y := (arcsin_le_iff_le_sin' hmem).mpr key
  calc 2 * R * arcsin (s / 2) ≤ 2 * R * y := mul_le_mul_of_nonneg_left h3 h2R.le
    _ = D := by rw [hy]; field_simp

end Rs1090.Proofs.Geo
