/-
C14 — generic lemmas behind the registration-lookup theorems: the characters of an ASCII text, digits and their value,
injectivity of symbol maps, the "digits then letters" split, monotonicity of the prefix matcher, first-match searches,
pairwise checks.
-/
import Rs1090.Model.Tail
namespace Rs1090.Proofs.Tail
open Rs1090 Rs1090.Model.Tail Rs1090.Gen.Tail

theorem nthU_ok {xs : List Char} {i : Nat} (h : i < xs.length) : nthU xs i = .ok (xs[i]) := by
  unfold nthU
  rw [List.getElem?_eq_getElem h]

/-- the model reads an alphabet character only to check the index: the character itself is dropped -/
theorem nthU_bind {β} {xs : List Char} {i : Nat} (h : i < xs.length) (x : Outcome β) :
    (nthU xs i).bind (fun _ => x) = x := by
  rw [nthU_ok h, Outcome.bind_ok]

/-- one mixed-radix level: quotient and remainder as variables, so that what follows is linear in them -/
theorem radix_split (x D : Nat) (hD : 0 < D) : ∃ d o, x = d * D + o ∧ o < D :=
  ⟨x / D, x % D, by rw [Nat.mul_comm]; exact (Nat.div_add_mod x D).symm, Nat.mod_lt x hD⟩

theorem divU_radix {d D o : Nat} (h : o < D) : divU (d * D + o) D = .ok d := by
  rw [divU_ok (by omega), Nat.mul_comm, Nat.mul_add_div (by omega), Nat.div_eq_of_lt h]; rfl

theorem modU_radix {d D o : Nat} (h : o < D) : modU (d * D + o) D = .ok o := by
  rw [modU_ok (by omega), Nat.mul_comm, Nat.mul_add_mod, Nat.mod_eq_of_lt h]

/-! ### ASCII texts

The kernel has the bytes of a string literal at once and decodes their UTF-8 slowly; where every byte is below 128
the characters are the bytes. -/

theorem utf8EncodeChar_ascii : ∀ n < 128, String.utf8EncodeChar (Char.ofNat n) = [UInt8.ofNat n] := by
  decide

def ascii? : List UInt8 → Option (List Char)
  | [] => some []
  | b :: bs => if b < 128 then (ascii? bs).map (Char.ofNat b.toNat :: ·) else none

theorem ascii?_encode : ∀ (bs : List UInt8) (cs : List Char), ascii? bs = some cs →
    cs.flatMap String.utf8EncodeChar = bs
  | [], _, h => by cases h; rfl
  | b :: bs, cs, h => by
    rw [ascii?] at h
    split at h
    · rename_i hb
      obtain ⟨cs', hcs, rfl⟩ := Option.map_eq_some_iff.mp h
      rw [List.flatMap_cons, ascii?_encode bs cs' hcs, utf8EncodeChar_ascii b.toNat (UInt8.lt_iff_toNat_lt.mp hb),
        UInt8.ofNat_toNat]
      rfl
    · cases h

theorem toList_of_ascii {s : String} {cs : List Char} (h : ascii? s.toByteArray.data.toList = some cs) :
    s.toList = cs := by
  have e : String.ofList cs = s := by
    apply String.toByteArray_inj.mp
    apply ByteArray.ext
    rw [String.toByteArray_ofList, List.utf8Encode, List.data_toByteArray, ascii?_encode _ _ h,
      Array.toArray_toList]
  rw [← e, String.toList_ofList]

theorem getD_eq {α} [Inhabited α] {T : List α} {k : Nat} (h : k < T.length) : T.getD k default = T[k] := by
  simp only [List.getD_eq_getElem?_getD, List.getElem?_eq_getElem h, Option.getD_some]

theorem getD_mem {α} [Inhabited α] {T : List α} {k : Nat} (h : k < T.length) : T.getD k default ∈ T :=
  getD_eq h ▸ List.getElem_mem h

def val (b : Nat) (acc : Nat) (ds : List Nat) : Nat := ds.foldl (fun a d => a * b + d) acc

theorem digitsAux_spec (b : Nat) (hb : 0 < b) : ∀ fuel v acc,
    ∃ ds, digitsAux b fuel v acc = ds ++ acc ∧ (∀ d ∈ ds, d < b) ∧
      (∀ k, 0 < k → v < b ^ k → ds.length ≤ k) ∧ (v < b ^ fuel → val b 0 ds = v) := by
  intro fuel
  induction fuel with
  | zero =>
    intro v acc
    refine ⟨[], rfl, nofun, fun _ _ _ => Nat.zero_le _, fun hv => ?_⟩
    rw [Nat.pow_zero, Nat.lt_one_iff] at hv
    rw [hv]; rfl
  | succ n ih =>
    intro v acc
    unfold digitsAux
    split
    · rename_i hlt
      exact ⟨[v], rfl, fun d hd => List.mem_singleton.mp hd ▸ hlt, fun k hk _ => hk, fun _ => by simp [val]⟩
    · rename_i hge
      have hdiv : ∀ k, v < b ^ (k + 1) → v / b < b ^ k := fun k h =>
        Nat.div_lt_of_lt_mul (by rwa [Nat.pow_succ, Nat.mul_comm] at h)
      obtain ⟨ds, e, hd, hlen, hval⟩ := ih (v / b) (v % b :: acc)
      refine ⟨ds ++ [v % b], by rw [e, List.append_assoc]; rfl, ?_, ?_, ?_⟩
      · intro d hd'
        rcases List.mem_append.mp hd' with h | h
        · exact hd d h
        · exact List.mem_singleton.mp h ▸ Nat.mod_lt _ hb
      · intro k hk hvk
        rw [List.length_append, List.length_singleton]
        match k, hk, hvk with
        | 1, _, hvk => exact absurd (Nat.pow_one b ▸ hvk) hge
        | k + 2, _, hvk => exact Nat.succ_le_succ (hlen (k + 1) (Nat.succ_pos k) (hdiv (k + 1) hvk))
      · intro hv
        unfold val at hval ⊢
        rw [List.foldl_append, hval (hdiv n hv), List.foldl_cons, List.foldl_nil, Nat.mul_comm]
        exact Nat.div_add_mod v b

theorem digits_spec (b : Nat) (hb : 0 < b) (v : Nat) :
    (∀ d ∈ digits b v, d < b) ∧ (∀ k, 0 < k → v < b ^ k → (digits b v).length ≤ k) ∧
      (v < b ^ 33 → val b 0 (digits b v) = v) := by
  obtain ⟨ds, e, h⟩ := digitsAux_spec b hb 33 v []
  rw [digits, e, List.append_nil]
  exact h

theorem digits_inj (b : Nat) (hb : 0 < b) {v w : Nat} (hv : v < b ^ 33) (hw : w < b ^ 33)
    (h : digits b v = digits b w) : v = w := by
  rw [← (digits_spec b hb v).2.2 hv, ← (digits_spec b hb w).2.2 hw, h]

theorem digits_of_lt {b v : Nat} (h : v < b) : digits b v = [v] := by
  unfold digits digitsAux
  rw [if_pos h]

theorem val_replicate_zero (b : Nat) (k : Nat) (ds : List Nat) :
    val b 0 (List.replicate k 0 ++ ds) = val b 0 ds := by
  induction k with
  | zero => rfl
  | succ n ih => simpa [List.replicate_succ, val] using ih

theorem map_inj_on {α β} (f : α → β) (P : α → Prop) (hf : ∀ a b, P a → P b → f a = f b → a = b) :
    ∀ (xs ys : List α), (∀ x ∈ xs, P x) → (∀ y ∈ ys, P y) → xs.map f = ys.map f → xs = ys := by
  intro xs
  induction xs with
  | nil => intro ys _ _ h; exact (List.map_eq_nil_iff.mp h.symm).symm
  | cons x xs ih =>
    intro ys hx hy h
    cases ys with
    | nil => cases h
    | cons y ys =>
      rw [List.forall_mem_cons] at hx hy
      simp only [List.map_cons, List.cons.injEq] at h
      rw [hf x y hx.1 hy.1 h.1, ih ys hx.2 hy.2 h.2]

theorem split_inj {α β γ} (f : α → γ) (g : β → γ) (P : α → Prop) (Q : β → Prop)
    (hf : ∀ a b, P a → P b → f a = f b → a = b) (hg : ∀ a b, Q a → Q b → g a = g b → a = b)
    (hfg : ∀ a b, P a → Q b → f a ≠ g b) :
    ∀ (xs xs' : List α) (ys ys' : List β), (∀ x ∈ xs, P x) → (∀ x ∈ xs', P x) → (∀ y ∈ ys, Q y) →
      (∀ y ∈ ys', Q y) → xs.map f ++ ys.map g = xs'.map f ++ ys'.map g → xs = xs' ∧ ys = ys' := by
  intro xs
  induction xs with
  | nil =>
    intro xs' ys ys' _ hx' hy hy' h
    cases xs' with
    | nil => exact ⟨rfl, map_inj_on g Q hg ys ys' hy hy' h⟩
    | cons a as =>
      cases ys with
      | nil => cases h
      | cons b bs =>
        simp only [List.map_nil, List.nil_append, List.map_cons, List.cons_append, List.cons.injEq] at h
        exact absurd h.1.symm (hfg a b (hx' a List.mem_cons_self) (hy b List.mem_cons_self))
  | cons x xs ih =>
    intro xs' ys ys' hx hx' hy hy' h
    cases xs' with
    | nil =>
      cases ys' with
      | nil => cases h
      | cons b bs =>
        simp only [List.map_nil, List.nil_append, List.map_cons, List.cons_append, List.cons.injEq] at h
        exact absurd h.1 (hfg x b (hx x List.mem_cons_self) (hy' b List.mem_cons_self))
    | cons a as =>
      rw [List.forall_mem_cons] at hx hx'
      simp only [List.map_cons, List.cons_append, List.cons.injEq] at h
      obtain ⟨e, es⟩ := ih as ys ys' hx.2 hx'.2 hy hy' h.2
      exact ⟨by rw [hf x a hx.1 hx'.1 h.1, e], es⟩

theorem pm_append (r : Re) (s t : List Char) (h : r.pm s = true) : r.pm (s ++ t) = true := by
  induction s generalizing r with
  | nil =>
    cases t with
    | nil => exact h
    | cons c cs => rw [List.nil_append, Re.pm, show r.nullable = true from h]; rfl
  | cons c cs ih =>
    simp only [Re.pm, Bool.or_eq_true] at h
    simp only [List.cons_append, Re.pm, Bool.or_eq_true]
    exact h.imp_right (ih _)

theorem firstSome_mem {α} {c : α → Prop} [DecidablePred c] {f : List α → Option α} (hnil : f [] = none)
    (hcons : ∀ x xs, f (x :: xs) = if c x then some x else f xs) : ∀ l a, f l = some a → a ∈ l := by
  intro l
  induction l with
  | nil => intro a h; rw [hnil] at h; cases h
  | cons x xs ih =>
    intro a h
    rw [hcons] at h
    split at h
    · cases h; exact List.mem_cons_self
    · exact List.mem_cons_of_mem _ (ih a h)

/-- a search `go rows k` over a table `T` that carries the position `k` of the row it looks at: if the empty
    search satisfies `P`, and at every row of `T` the search either satisfies `P` or moves on to the next row,
    then the search over the whole table satisfies `P` -/
theorem firstMatch {ρ β} [Inhabited ρ] {T : List ρ} {go : List ρ → Nat → β} {P : β → Prop} (hnil : ∀ k, P (go [] k))
    (hcons : ∀ k ms, k < T.length →
      P (go (T.getD k default :: ms) k) ∨ go (T.getD k default :: ms) k = go ms (k + 1)) :
    P (go T 0) := by
  suffices h : ∀ rs k, T.drop k = rs → P (go rs k) from h T 0 rfl
  intro rs
  induction rs with
  | nil => intro k _; exact hnil k
  | cons r rs ih =>
    intro k hk
    have hlt : k < T.length := Nat.lt_of_not_le fun hle => by rw [List.drop_eq_nil_of_le hle] at hk; cases hk
    rw [List.drop_eq_getElem_cons hlt, ← getD_eq hlt] at hk
    obtain ⟨rfl, hdrop⟩ := List.cons.inj hk
    rcases hcons k rs hlt with hp | he
    · exact hp
    · rw [he]; exact ih (k + 1) hdrop

/-- the block found for every address of `[lo, hi]`, computed once: every earlier block lies entirely outside the
    range and the selected block contains it -/
def rangeFind (lo hi : Nat) : List Block → Option Block
  | [] => none
  | b :: bs =>
    if b.start ≤ lo ∧ hi ≤ b.end_ then some b
    else if hi < b.start ∨ b.end_ < lo then rangeFind lo hi bs
    else none

theorem rangeFind_spec (lo hi : Nat) : ∀ (bs : List Block) (b : Block), rangeFind lo hi bs = some b →
    ∀ h, lo ≤ h → h ≤ hi → blockFind h bs = some b := by
  intro bs
  induction bs with
  | nil => intro b h; cases h
  | cons c cs ih =>
    intro b hb h h1 h2
    unfold rangeFind at hb
    unfold blockFind
    split at hb
    · rw [if_pos (by omega)]
      exact hb
    · split at hb
      · rw [if_neg (by omega)]
        exact ih b hb h h1 h2
      · cases hb

def pairwiseB {α} (p : α → α → Bool) : List α → Bool
  | [] => true
  | a :: as => as.all (p a) && pairwiseB p as

theorem pairwiseB_get {α} (p : α → α → Bool) : ∀ (l : List α), pairwiseB p l = true →
    ∀ i j (hi : i < l.length) (hj : j < l.length), i < j → p l[i] l[j] = true := by
  intro l
  induction l with
  | nil => intro _ i j hi; cases hi
  | cons a as ih =>
    intro h i j hi hj hij
    simp only [pairwiseB, Bool.and_eq_true, List.all_eq_true] at h
    cases j with
    | zero => omega
    | succ j =>
      cases i with
      | zero => exact h.1 _ (List.getElem_mem _)
      | succ i => exact ih h.2 i j (Nat.lt_of_succ_lt_succ hi) (Nat.lt_of_succ_lt_succ hj) (Nat.lt_of_succ_lt_succ hij)

theorem pairwiseB_ne {α} {p : α → α → Bool} {l : List α} (h : pairwiseB p l = true) {i j : Nat} (hi : i < l.length)
    (hj : j < l.length) (hne : i ≠ j) : p l[i] l[j] = true ∨ p l[j] l[i] = true :=
  (Nat.lt_or_gt_of_ne hne).imp (pairwiseB_get p l h i j hi hj) (pairwiseB_get p l h j i hj hi)

theorem pairwiseB_mem {α} {p : α → α → Bool} {l : List α} (h : pairwiseB p l = true) {a b : α} (ha : a ∈ l) (hb : b ∈ l)
    (hne : a ≠ b) : p a b = true ∨ p b a = true := by
  obtain ⟨i, hi, rfl⟩ := List.getElem_of_mem ha
  obtain ⟨j, hj, rfl⟩ := List.getElem_of_mem hb
  exact pairwiseB_ne h hi hj fun e => hne (by subst e; rfl)

end Rs1090.Proofs.Tail
