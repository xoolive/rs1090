/-
C14 — the invariants carried by every registration the model produces (`wf`), the structured left inverse
(`inv`: registration ↦ address), the constant national prefix of each scheme/row (`key`), and the shape of the
per-scheme lemmas (`Good`).
-/
import Rs1090.Proofs.TailBase
namespace Rs1090.Proofs.Tail
open Rs1090 Rs1090.Model.Tail Rs1090.Gen.Tail

def letterInv : List Nat → Nat
  | [l] => l + NL_DEC
  | _ => NL_ZERO

def lettersInv : List Nat → Nat
  | q :: l => q * NLS_DIV + letterInv l + NLS_DEC
  | [] => NLS_ZERO

def nInv : List Nat → List Nat → Nat
  | [d1], ls => (d1 - N_D1_ADD) * N_D1_DIV + lettersInv ls
  | [d1, d2], ls => (d1 - N_D1_ADD) * N_D1_DIV + N_L1_SUB + d2 * N_D2_DIV + lettersInv ls
  | [d1, d2, d3], ls =>
    (d1 - N_D1_ADD) * N_D1_DIV + N_L1_SUB + d2 * N_D2_DIV + N_L2_SUB + d3 * N_D3_DIV + lettersInv ls
  | [d1, d2, d3, d4], ls =>
    (d1 - N_D1_ADD) * N_D1_DIV + N_L1_SUB + d2 * N_D2_DIV + N_L2_SUB + d3 * N_D3_DIV + N_L3_SUB + d4 * N_D4_DIV
      + letterInv ls
  | [d1, d2, d3, d4, d5], _ =>
    (d1 - N_D1_ADD) * N_D1_DIV + N_L1_SUB + d2 * N_D2_DIV + N_L2_SUB + d3 * N_D3_DIV + N_L3_SUB + d4 * N_D4_DIV
      + N_L4_SUB + d5
  | _, _ => 0

def jaInv : List Nat → List Nat → Nat
  | [d1, d2, d3, d4], [] => d1 * JA_D1_DIV + d2 * JA_D2_DIV + d3 * JA_D3_DIV + d4
  | [d1, d2, d3], [l] => d1 * JA_D1_DIV + d2 * JA_D2_DIV + d3 * JA_D3_DIV + l + JA_D4_SUB
  | [d1, d2], [l3, l4] => d1 * JA_D1_DIV + d2 * JA_D2_DIV + JA_L_SUB + l3 * JA_L3_DIV + l4
  | _, _ => 0

/-- the values `hexid - sub + add` of an `hl_reg` arm -/
def hlVLo (r : HlRow) : Nat := r.lo - r.sub + r.add
def hlVHi (r : HlRow) : Nat := r.hi - r.sub + r.add

/-- largest registration number of a numeric row -/
def numVMax (m : NumRow) : Nat := m.end_ - m.start + m.first
/-- the template without its trailing zeros: the part that is never overwritten … -/
def numKey (m : NumRow) : List Char := (m.template.reverse.dropWhile (· == '0')).reverse
/-- … and the number of trailing zeros -/
def numW (m : NumRow) : Nat := m.template.length - (numKey m).length

/-- first-letter indices a stride row can produce -/
def strideLo (m : StrideRow) : Nat := m.offset / m.s1
def strideHi (m : StrideRow) : Nat := (m.end_ - m.start + m.offset) / m.s1

def wf : Reg → Prop
  | .n ds ls => (∀ d ∈ ds, d < 10) ∧ (∀ l ∈ ls, l < LIMITED_ALPHABET.length)
  | .ja ds ls => (∀ d ∈ ds, d < 10) ∧ (∀ l ∈ ls, l < LIMITED_ALPHABET.length)
  | .hl row v => row < hlRows.length ∧ hlVLo (hlRows.getD row default) ≤ v ∧ v ≤ hlVHi (hlRows.getD row default)
  | .num row v => row < numericRows.length ∧ v ≤ numVMax (numericRows.getD row default)
  | .stride row i1 i2 i3 =>
    row < strideRows.length ∧
      i1 < (strideRows.getD row default).alphabet.length ∧ i2 < (strideRows.getD row default).alphabet.length ∧
      i3 < (strideRows.getD row default).alphabet.length ∧
      strideLo (strideRows.getD row default) ≤ i1 ∧ i1 ≤ strideHi (strideRows.getD row default)

def inv : Reg → Nat
  | .n ds ls => N_BASE + nInv ds ls
  | .ja ds ls => JA_BASE + jaInv ds ls
  | .hl row v => v + (hlRows.getD row default).sub - (hlRows.getD row default).add
  | .num row v => v + (numericRows.getD row default).start - (numericRows.getD row default).first
  | .stride row i1 i2 i3 =>
    (strideRows.getD row default).start
      + (i1 * (strideRows.getD row default).s1 + i2 * (strideRows.getD row default).s2 + i3)
      - (strideRows.getD row default).offset

def key : Reg → List Char
  | .n _ _ => ['N']
  | .ja _ _ => ['J', 'A']
  | .hl _ _ => ['H', 'L']
  | .num row _ => numKey (numericRows.getD row default)
  | .stride row _ _ _ => (strideRows.getD row default).pre

/-- every address of `[lo, hi]` is assigned (first match in file order) one and the same block, whose national
    pattern matches the prefix `k`, and none of whose categories re-assigns the country -/
def countryOkB (lo hi : Nat) (k : List Char) : Bool :=
  match rangeFind lo hi blocks with
  | some b => natMatch b k && b.cats.all (fun c => c.country.isNone)
  | none => false

def CountryFact (h : Nat) (r : Reg) : Prop :=
  ∃ b, blockOf h = some b ∧ natMatch b (key r) = true ∧ b.cats.all (fun c => c.country.isNone) = true

theorem countryFact_of {lo hi : Nat} {r : Reg} (hc : countryOkB lo hi (key r) = true) {h : Nat}
    (h1 : lo ≤ h) (h2 : h ≤ hi) : CountryFact h r := by
  unfold countryOkB at hc
  cases hr : rangeFind lo hi blocks with
  | none => rw [hr] at hc; cases hc
  | some b =>
    rw [hr] at hc
    simp only [Bool.and_eq_true] at hc
    exact ⟨b, rangeFind_spec lo hi blocks b hr h h1 h2, hc.1, hc.2⟩

theorem natMatch_append {b : Block} {k : List Char} (t : List Char) (h : natMatch b k = true) :
    natMatch b (k ++ t) = true := by
  unfold natMatch at h ⊢
  cases hre : b.re with
  | none => rw [hre] at h; cases h
  | some re => rw [hre] at h; exact pm_append re k t h

theorem catFind_mem (t : List Char) (cs : List Category) (c : Category) (h : catFind t cs = some c) : c ∈ cs :=
  firstSome_mem (c := fun c => c.re.pm t = true) rfl (fun _ _ => rfl) cs c h

def Fact (h : Nat) (r : Reg) : Prop := wf r ∧ inv r = h ∧ CountryFact h r

def Good (h : Nat) (x : Outcome (Option Reg)) : Prop :=
  ∃ o, x = .ok o ∧ ∀ r, o = some r → Fact h r

theorem good_none (h : Nat) : Good h (.ok none) := ⟨none, rfl, nofun⟩

theorem good_some {h : Nat} {r : Reg} (hf : Fact h r) : Good h (.ok (some r)) :=
  ⟨some r, rfl, fun _ e => Option.some.inj e ▸ hf⟩

theorem good_fact {h : Nat} {x : Outcome (Option Reg)} {r : Reg} (hg : Good h x) (e : x = .ok (some r)) : Fact h r := by
  obtain ⟨o, ho, hf⟩ := hg
  exact hf r (Outcome.ok.inj (ho.symm.trans e))

theorem good_orElse {h : Nat} {a : Outcome (Option Reg)} {b : Unit → Outcome (Option Reg)}
    (ha : Good h a) (hb : Good h (b ())) : Good h (orElse a b) := by
  obtain ⟨o, rfl, ho⟩ := ha
  unfold orElse
  rw [Outcome.bind_ok]
  cases o with
  | some r => exact ⟨some r, rfl, ho⟩
  | none => exact hb

theorem tailStr_some {h : Nat} {s : List Char} (e : tailStr h = .ok (some s)) :
    ∃ r, tail h = .ok (some r) ∧ render r = s := by
  unfold tailStr at e
  cases ht : tail h with
  | ok o =>
    rw [ht, Outcome.bind_ok] at e
    cases o with
    | none => cases e
    | some r => exact ⟨r, rfl, Option.some.inj (Outcome.ok.inj e)⟩
  | err x => rw [ht] at e; cases e
  | panic x => rw [ht] at e; cases e

end Rs1090.Proofs.Tail
