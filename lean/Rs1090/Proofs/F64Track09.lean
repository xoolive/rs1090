import Rs1090.Proofs.F64Wrap
import Rs1090.Proofs.C03Track
/-!
BDS 0,9 ground track in binary64, from an explicit hypothesis on libm.

`Proofs/C03Track.lean` proves over Mathlib's reals that the EXACT angle `atan2(ew, ns)·360/(2π)` of integer components
with `|ns| ≤ 4·1022`, when negative, is below `−0.013°`.  `Proofs/F64Wrap.lean` proves that the binary64 sum
`h + 360.` is below 360 exactly when `h < −2⁻⁴⁵`.  Here the two are joined: what has to be assumed about
`libm::atan2` and the rounded multiplication by `360.0 / (2.0 * PI)` is `LibmAtan2Deg` — NOT correct rounding, only

  * `sign`:  the computed angle is negative only when the exact one is (atan2 has the sign of its first argument), and
  * `close`: it is within `tol = 0.005°` of the exact angle (libm's actual error is below 10⁻¹³°).
-/
namespace Rs1090.Proofs.F64Track09
open Rs1090.Proofs.IeeeRound Rs1090.Proofs.F64Wrap Rs1090.Proofs.C03.Track

/-- `h` (the binary64 value of `libm::atan2(ew, ns) * (360.0 / (2.0 * PI))`) against the
    exact angle `headingDeg ew ns = atan2(ew, ns)·360/(2π)` -/
structure LibmAtan2Deg (tol : ℚ) (ew ns : ℤ) (h : ℚ) : Prop where
  sign : h < 0 → headingDeg ew ns < 0
  close : |((h : ℚ) : ℝ) - headingDeg ew ns| ≤ ((tol : ℚ) : ℝ)

/-- the libm hypothesis with `tol = 1/200`° gives the hypothesis `AngleOk (1/128)` of the wrap theorems, for all
    integer components subtypes 1 and 2 can carry -/
theorem angleOk_of_libm (ew ns : ℤ) (hns : |ns| ≤ 4 * 1022) (h : ℚ) (H : LibmAtan2Deg (1 / 200) ew ns h) :
    AngleOk (1 / 128) h := by
  have hb := headingDeg_bounds ew ns
  have hc := abs_le.mp H.close
  have e : (((1 / 200 : ℚ)) : ℝ) = 1 / 200 := by norm_num
  rw [e] at hc
  refine ⟨?_, ?_, ?_⟩
  · have : ((-181 : ℚ) : ℝ) ≤ ((h : ℚ) : ℝ) := by push_cast; linarith
    exact_mod_cast this
  · have : ((h : ℚ) : ℝ) ≤ ((181 : ℚ) : ℝ) := by push_cast; linarith
    exact_mod_cast this
  · intro hneg
    have h1 := headingDeg_neg_margin ew ns hns (H.sign hneg)
    have h2 := margin_deg
    have : ((h : ℚ) : ℝ) ≤ ((-(1 / 128) : ℚ) : ℝ) := by push_cast; norm_num at h2 ⊢; linarith
    exact_mod_cast this

/-- the value `if h < 0. { h + 360. } else { h }` with the IEEE-754 addition is below 360.0 -/
theorem track09_ieee (ew ns : ℤ) (hns : |ns| ≤ 4 * 1022) (h : ℚ) (H : LibmAtan2Deg (1 / 200) ew ns h) :
    0 ≤ track09 fl64 h ∧ track09 fl64 h ≤ 360 - 1 / 128 ∧ track09 fl64 h < 360 := by
  have := track09_margin (angleOk_of_libm ew ns hns h H)
  exact ⟨this.1, this.2, by linarith [this.2]⟩

/-- the hypothesis is satisfiable on the negative arm: due west (`ew = −1, ns = 0`), `atan2 = −π/2`, `h = −90` -/
theorem libm_west : LibmAtan2Deg (1 / 200) (-1) 0 (-90) := by
  have hpi := Real.pi_pos
  have e : headingDeg (-1) 0 = -90 := by
    unfold headingDeg atan2
    have : (⟨((0 : ℤ) : ℝ), ((-1 : ℤ) : ℝ)⟩ : ℂ) = -Complex.I := by
      apply Complex.ext <;> simp
    rw [this, Complex.arg_neg_I]
    field_simp; ring
  exact ⟨fun _ => by rw [e]; norm_num, by rw [e]; norm_num⟩

/-- … and on the other: due north (`ew = 0, ns = 1`), `h = 0` -/
theorem libm_north : LibmAtan2Deg (1 / 200) 0 1 0 := by
  have e : headingDeg 0 1 = 0 := by
    unfold headingDeg atan2
    have : (⟨((1 : ℤ) : ℝ), ((0 : ℤ) : ℝ)⟩ : ℂ) = 1 := by
      apply Complex.ext <;> simp
    rw [this, Complex.arg_one]; simp
  exact ⟨fun hh => absurd hh (lt_irrefl _), by rw [e]; norm_num⟩

end Rs1090.Proofs.F64Track09
