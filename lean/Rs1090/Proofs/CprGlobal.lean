import Rs1090.Proofs.CprEnc
/-!
Globally unambiguous decoding (`Model.Cpr.globalCore` / `airbornePosition`): a normal form without the
`Outcome` plumbing, then the arithmetic of its steps on fields that are the 17-bit fractions of lattice
indices: a coordinate from its zone index modulo the number of zones (`zone_turns`, the two wraps), and the
longitude zone index `m` (`gM_emod`).
-/
namespace Rs1090.Proofs.Cpr
open Rs1090 Rs1090.Model.Cpr Rs1090.Spec.Cpr

def gJ (e o : Msg) : ℤ := ⌊59 * ((e.lat : ℚ) / cprMax) - 60 * ((o.lat : ℚ) / cprMax) + 1 / 2⌋

def wrap270 (x : ℚ) : ℚ := if x ≥ 270 then x - 360 else x
def wrap180 (x : ℚ) : ℚ := if x ≥ 180 then x - 360 else x

def gLatE (e o : Msg) : ℚ := wrap270 (dLatEven * (modulo (gJ e o : ℚ) 60 + (e.lat : ℚ) / cprMax))
def gLatO (e o : Msg) : ℚ := wrap270 (dLatOdd * (modulo (gJ e o : ℚ) 59 + (o.lat : ℚ) / cprMax))

def gM (e o : Msg) (lat : ℚ) : ℤ :=
  ⌊(e.lon : ℚ) / cprMax * ((nl lat - 1 : ℕ) : ℚ) - (o.lon : ℚ) / cprMax * (nl lat : ℚ) + 1 / 2⌋

def gLon (e o : Msg) (lat : ℚ) (p : ℕ) (c : ℚ) : ℚ :=
  wrap180 (360 / ((max (nl lat - p) 1 : ℕ) : ℚ) * (modulo (gM e o lat : ℚ) ((max (nl lat - p) 1 : ℕ) : ℚ) + c))

theorem globalCore_eq (e o l : Msg) :
    globalCore e o l =
      if (!(inLatRange (gLatE e o)) || !(inLatRange (gLatO e o))) = true then .ok none
      else if nl (gLatE e o) ≠ nl (gLatO e o) then .ok none
      else .ok (some ⟨if l = e then gLatE e o else gLatO e o,
        gLon e o (if l = e then gLatE e o else gLatO e o) (if l.parity = .even then 0 else 1)
          (if l.parity = .even then (e.lon : ℚ) / cprMax else (o.lon : ℚ) / cprMax)⟩) := by
  unfold globalCore
  simp only [ratFloor]
  have hp : ∀ x : ℚ, (if l.parity = Parity.even then 0 else 1) ≤ nl x := by
    intro x; have := nl_pos x; split <;> omega
  simp only [subU_ok (hp _), subU_ok (nl_pos _), Outcome.bind_ok]
  rfl

/-- `airborne_position`'s `match (msg1.parity, msg2.parity)`: in either order of the arguments the core gets the
    even frame, the odd frame, and the SECOND argument as the latest -/
theorem airbornePosition_eo (e o : Msg) (he : e.parity = .even) (ho : o.parity = .odd) :
    airbornePosition e o = globalCore e o o ∧ airbornePosition o e = globalCore e o e := by
  unfold airbornePosition
  simp [he, ho]

/-- never a panic, for arbitrary field values (`nl ≥ 1`: the `u64` subtractions cannot underflow) -/
theorem airbornePosition_ne_panic (a b : Msg) (s : Site) : airbornePosition a b ≠ .panic s := by
  unfold airbornePosition
  split
  · rw [globalCore_eq]; split_ifs <;> simp
  · rw [globalCore_eq]; split_ifs <;> simp
  · simp

theorem modulo_int (j : ℤ) (n : ℕ) : modulo (j : ℚ) (n : ℚ) = ((j % (n : ℤ) : ℤ) : ℚ) := by
  unfold modulo
  rw [ratFloor, Rat.floor_intCast_div_natCast, Int.emod_def]
  push_cast
  ring

theorem dLatEven_eq : dLatEven = 6 := by
  unfold dLatEven Gen.Cpr.D_LAT_NUM Gen.Cpr.D_LAT_EVEN_DEN Gen.Cpr.NZ; norm_num
theorem dLatOdd_eq : dLatOdd = 360 / 59 := by
  unfold dLatOdd Gen.Cpr.D_LAT_NUM Gen.Cpr.D_LAT_ODD_DEN Gen.Cpr.NZ; norm_num

/-- `k` zones of `d` degrees to the turn: the decoder's `d·(Z mod k + frac)` lies in [0, 360) and is the lattice value `d·W/2^17` less `Z / k` turns
    (`Z = W / 2^17` the zone, possibly after the wrap) -/
theorem zone_turns (k : ℕ) (hk : 0 < k) (d : ℚ) (hd : d * k = 360) (W : ℤ) :
    0 ≤ d * ((((W / 131072) % (k : ℤ) : ℤ) : ℚ) + frac17 W) ∧
    d * ((((W / 131072) % (k : ℤ) : ℤ) : ℚ) + frac17 W) < 360 ∧
    d * ((W : ℚ) / 131072)
      = d * ((((W / 131072) % (k : ℤ) : ℤ) : ℚ) + frac17 W) + 360 * ((W / 131072 / (k : ℤ) : ℤ) : ℚ) := by
  have hf0 := frac17_nonneg W
  have hf1 := frac17_lt_one W
  have hkq : (0 : ℚ) < (k : ℚ) := by exact_mod_cast hk
  have hkz : (0 : ℤ) < (k : ℤ) := by exact_mod_cast hk
  have hd0 : 0 < d := by rw [← mul_pos_iff_of_pos_right hkq, hd]; norm_num
  set Z := W / 131072 with hZ
  have hr0 : (0 : ℚ) ≤ ((Z % (k : ℤ) : ℤ) : ℚ) := by exact_mod_cast Int.emod_nonneg _ hkz.ne'
  have hr1 : ((Z % (k : ℤ) : ℤ) : ℚ) + 1 ≤ (k : ℚ) := by exact_mod_cast Int.emod_lt_of_pos Z hkz
  have hdiv : (Z : ℚ) = (k : ℚ) * ((Z / (k : ℤ) : ℤ) : ℚ) + ((Z % (k : ℤ) : ℤ) : ℚ) := by
    exact_mod_cast (Int.mul_ediv_add_emod Z k).symm
  refine ⟨by positivity, ?_, ?_⟩
  · calc d * (((Z % (k : ℤ) : ℤ) : ℚ) + frac17 W) < d * k :=
          mul_lt_mul_of_pos_left (by linarith only [hr1, hf1]) hd0
      _ = 360 := hd
  rw [← zone_add_frac17, ← hZ, hdiv, ← hd]
  ring

theorem norm180_spec (x : ℚ) :
    -180 ≤ norm180 x ∧ norm180 x < 180 ∧ ∃ k : ℤ, norm180 x = x + 360 * k := by
  unfold norm180
  rw [ratFloor]
  have h1 := Int.floor_le ((x + 180) / 360)
  have h2 := Int.lt_floor_add_one ((x + 180) / 360)
  rw [le_div_iff₀ (by norm_num)] at h1
  rw [div_lt_iff₀ (by norm_num)] at h2
  refine ⟨by linarith, by linarith, -⌊(x + 180) / 360⌋, by push_cast; ring⟩

theorem wrap180_eq_norm180 {y : ℚ} (h0 : 0 ≤ y) (h1 : y < 360) (q : ℤ) :
    wrap180 y = norm180 (y + 360 * q) := by
  unfold wrap180 norm180
  rw [ratFloor]
  by_cases hge : y ≥ 180
  · rw [if_pos hge]
    have : ⌊(y + 360 * (q : ℚ) + 180) / 360⌋ = q + 1 := by
      rw [Int.floor_eq_iff]; push_cast
      constructor
      · rw [le_div_iff₀ (by norm_num)]; linarith
      · rw [div_lt_iff₀ (by norm_num)]; linarith
    rw [this]; push_cast; ring
  · rw [if_neg hge]
    have : ⌊(y + 360 * (q : ℚ) + 180) / 360⌋ = q := by
      rw [Int.floor_eq_iff]
      constructor
      · rw [le_div_iff₀ (by norm_num)]; linarith
      · rw [div_lt_iff₀ (by norm_num)]; have := not_le.mp hge; linarith
    rw [this]; ring

theorem wrap270_eq {y : ℚ} (h0 : 0 ≤ y) (h1 : y < 360) (q : ℤ)
    (hr : -90 ≤ y + 360 * q ∧ y + 360 * q ≤ 90) : wrap270 y = y + 360 * q := by
  have hq : q = 0 ∨ q = -1 := by
    have a : (-2 : ℚ) < q := by linarith
    have b : (q : ℚ) < 1 := by linarith
    have : -2 < q := by exact_mod_cast a
    have : q < 1 := by exact_mod_cast b
    omega
  unfold wrap270
  rcases hq with rfl | rfl
  · rw [if_neg (by push_cast at hr; linarith)]; simp
  · rw [if_pos (by push_cast at hr; linarith)]; push_cast; ring

/-- latitude: `d·(j mod k + frac)` with the `≥ 270` wrap is the lattice latitude (`k = 60, 59`) -/
theorem lat_wrap (k : ℕ) (hk : 0 < k) (d : ℚ) (hd : d * k = 360) (j T : ℤ)
    (hj : j % (k : ℤ) = (T / 131072) % (k : ℤ))
    (hr : -90 ≤ d * ((T : ℚ) / 131072) ∧ d * ((T : ℚ) / 131072) ≤ 90) :
    wrap270 (d * (modulo (j : ℚ) (k : ℚ) + frac17 T)) = d * ((T : ℚ) / 131072) := by
  obtain ⟨h0, h1, e⟩ := zone_turns k hk d hd T
  rw [e] at hr ⊢
  rw [modulo_int, hj]
  exact wrap270_eq h0 h1 _ hr

theorem lon_wrap (W : ℤ) (k : ℕ) (hk : 0 < k) :
    wrap180 (360 / (k : ℚ) * ((((W / 131072) % (k : ℤ) : ℤ) : ℚ) + frac17 W))
      = norm180 (360 / (k : ℚ) * ((W : ℚ) / 131072)) := by
  have hkq : (k : ℚ) ≠ 0 := by exact_mod_cast hk.ne'
  obtain ⟨h0, h1, e⟩ := zone_turns k hk (360 / (k : ℚ)) (by field_simp) W
  rw [e]
  exact wrap180_eq_norm180 h0 h1 _

/-- the longitude zone index `m`, on an even field encoded from `lone` and an odd field encoded from `lono`,
    both with `n = nl latp` zones (`n − 1` for the odd one) and `n·(n−1)·|lone − lono| ≤ 144`: congruent to
    the (wrapped) zone of either, modulo its number of zones -/
theorem gM_emod (e o : Msg) (lone lono latp : ℚ)
    (hbox : (nl latp : ℚ) * ((nl latp : ℚ) - 1) * |lone - lono| ≤ 144)
    (he : (e.lon : ℚ) / cprMax = frac17 (rnd (lone / (360 / ((max (nl latp - 0) 1 : ℕ) : ℚ)))))
    (ho : (o.lon : ℚ) / cprMax = frac17 (rnd (lono / (360 / ((max (nl latp - 1) 1 : ℕ) : ℚ))))) :
    gM e o latp % ((max (nl latp - 0) 1 : ℕ) : ℤ)
      = rnd (lone / (360 / ((max (nl latp - 0) 1 : ℕ) : ℚ))) / 131072 % ((max (nl latp - 0) 1 : ℕ) : ℤ) ∧
    gM e o latp % ((max (nl latp - 1) 1 : ℕ) : ℤ)
      = rnd (lono / (360 / ((max (nl latp - 1) 1 : ℕ) : ℚ))) / 131072 % ((max (nl latp - 1) 1 : ℕ) : ℤ) := by
  obtain ⟨hn1, hn59⟩ := nl_range latp
  unfold gM
  set n := nl latp with hn
  by_cases h1 : n = 1
  · -- one zone: nothing to recover
    have e0 : max (n - 0) 1 = 1 := by omega
    have e1 : max (n - 1) 1 = 1 := by omega
    rw [e0, e1]
    simp only [Nat.cast_one, Int.emod_one, and_self]
  · have e0 : max (n - 0) 1 = n := by omega
    have e1 : max (n - 1) 1 = n - 1 := by omega
    have hnq : (1 : ℚ) < ((n : ℤ) : ℚ) := by exact_mod_cast (by omega : 1 < n)
    have c1 : ((n - 1 : ℕ) : ℚ) = ((n : ℤ) : ℚ) - 1 := by rw [Nat.cast_sub hn1]; simp
    have cz : ((n - 1 : ℕ) : ℤ) = (n : ℤ) - 1 := by omega
    rw [e0] at he ⊢; rw [e1] at ho ⊢
    rw [he, ho, c1, cz, mul_comm (frac17 _), mul_comm (frac17 _), ← Int.cast_natCast (R := ℚ) n,
      zone_floor_near n (by omega) (by omega) _ _
        (zone_near_of_deg _ _ _ _ _ hnq (div_mul_cancel₀ _ (zero_lt_one.trans hnq).ne')
          (div_mul_cancel₀ _ (sub_pos.2 hnq).ne')
          (by exact_mod_cast hbox))]
    exact zone_comb_emod _ _ _

/-- hence both longitudes come out as the lattice longitude of their own field, reduced to [-180, 180) -/
theorem gLon_enc (e o : Msg) (lone lono latp : ℚ) (n : ℕ) (hn : nl latp = n)
    (hbox : (n : ℚ) * ((n : ℚ) - 1) * |lone - lono| ≤ 144)
    (he : (e.lon : ℚ) / cprMax = frac17 (rnd (lone / (360 / ((max (n - 0) 1 : ℕ) : ℚ)))))
    (ho : (o.lon : ℚ) / cprMax = frac17 (rnd (lono / (360 / ((max (n - 1) 1 : ℕ) : ℚ))))) :
    gLon e o latp 0 ((e.lon : ℚ) / cprMax)
      = norm180 (360 / ((max (n - 0) 1 : ℕ) : ℚ)
          * ((rnd (lone / (360 / ((max (n - 0) 1 : ℕ) : ℚ))) : ℚ) / 131072)) ∧
    gLon e o latp 1 ((o.lon : ℚ) / cprMax)
      = norm180 (360 / ((max (n - 1) 1 : ℕ) : ℚ)
          * ((rnd (lono / (360 / ((max (n - 1) 1 : ℕ) : ℚ))) : ℚ) / 131072)) := by
  subst hn
  obtain ⟨m0, m1⟩ := gM_emod e o lone lono latp hbox he ho
  unfold gLon
  constructor
  · rw [modulo_int, he, m0]; exact lon_wrap _ _ (by omega)
  · rw [modulo_int, ho, m1]; exact lon_wrap _ _ (by omega)

end Rs1090.Proofs.Cpr
