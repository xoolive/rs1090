/-
Comm-B replies (DF 20 / DF 21).

  * the MB field of a Spec frame: bytes 4 … 10 are the packed MB layout, read by `bytesN 7` at bit 32
  * the Comm-B selector (`Commb.df20` / `df21`) on a non-zero MB field always returns a field list `regs`
    (no panic, no serde error: `Commb.common_eq`), in which the entry of each register is its hypothesis test
    on the payload (`Regs`)
  * the whole frame: `tryFrom (buildCommB …)`
  * the hypothesis tests of BDS 2,0 / 4,0 / 5,0 / 6,0 on a payload laid out by the Spec
-/
import Rs1090.Proofs.C03Adsb
import Rs1090.Proofs.Decode.Commb
import Rs1090.Proofs.Decode.Conversions
namespace Rs1090.Proofs.C03
open Rs1090 Rs1090.Model Rs1090.Spec.Encode Rs1090.Model.Message
open Rs1090.Model.Commb (hyp nestVal)
open Rs1090.Spec.Crc (pack encodeAP)
open Rs1090.Proofs.Crc (Bytes pack_length pack_bytes pack_append encodeAP_bytes)

theorem mb_of_frame (hdr mb : List Field) (addr : Nat) (hh : width hdr = 32) (hw : width mb = 56) :
    ((encodeAP (dataBytes (hdr ++ mb)) addr).drop 4).take 7 = pack (layout mb) := by
  have h4 : (pack (layout hdr)).length = 4 := by rw [pack_length, layout_length, hh]
  have h7 : (pack (layout mb)).length = 7 := by rw [pack_length, layout_length, hw]
  unfold encodeAP dataBytes
  rw [layout_append, pack_append _ _ (by rw [layout_length, hh]), List.append_assoc,
    List.drop_append_of_le_length (by omega), List.drop_of_length_le (by omega), List.nil_append,
    List.take_append_of_le_length (by omega), List.take_of_length_le (by omega)]

theorem wpOk_mb (F buf : List Nat) (hF : Bytes F) (hlen : F.length = 14) (hbuf : (F.drop 4).take 7 = buf)
    (Q : List Nat → Rd → Prop) (l r : Nat) :
    wpOk (bytesN 7) Q (st F 32 l r) ↔ Q buf (st F 88 (l + 56) (r + 56)) := by
  rw [← hbuf]
  exact wpOk_bytesN F hF 7 Q 4 l r (by omega)

/-- the long replies with a 56-bit payload behind a 32-bit header (DF 16 / 20 / 21) -/
theorem tryFrom_long (hdr mb : List Field) (df addr : Nat) (v : SerFields)
    (hdf : fieldAt (hdr ++ mb) 0 5 = some df) (hh : width hdr = 32) (hw : width mb = 56)
    (hlong : (if df &&& 0x10 != 0 then 112 else 56) = 8 * 14) (hfh : fits hdr = true) (hfit : fits mb = true)
    (haddr : addr < 2 ^ 24) (h17 : df ≠ 17)
    (hrun : ∀ F, Bytes F → F.length = 14 → (F.drop 4).take 7 = pack (layout mb) → Carries F 0 hdr →
      wpOk (dfBody addr df) (fun r _ => r = v) (st F 5 5 5)) :
    tryFrom (encodeAP (dataBytes (hdr ++ mb)) addr) = .ok (toDecoded v) := by
  refine tryFrom_encodeAP (hdr ++ mb) df addr 14 v hdf (by rw [width_append, hh, hw]) hlong
    (by rw [fits_append, hfh, hfit]; rfl) haddr (fun h => absurd h h17) fun F hF hlen hC => ?_
  exact hrun F (by rw [hF]; exact encodeAP_bytes _ _ (pack_bytes _)) hlen
    (by rw [hF]; exact mb_of_frame hdr mb addr hh hw) ((carries_append F _ _ 0).1 hC).1

theorem allZero_bitsBE (buf : List Nat) (h : Commb.allZero buf = true) (p : Nat) : ∀ n, bitsBE buf p n = 0
  | 0 => rfl
  | n + 1 => by
    have hb : bitAt buf (p + n) = 0 := by
      unfold bitAt
      have : buf.getD ((p + n) / 8) 0 = 0 := by
        rw [List.getD_eq_getElem?_getD]
        cases hg : buf[(p + n) / 8]? with
        | none => rfl
        | some x => simpa using List.all_eq_true.1 h x (List.mem_of_getElem? hg)
      rw [this]; simp
    rw [bitsBE, allZero_bitsBE buf h p n, hb]

def NonZero (mb : List Field) : Prop := ∃ off w v, fieldAt mb off w = some v ∧ v ≠ 0

theorem not_allZero {mb : List Field} (h8 : width mb % 8 = 0) (hf : fits mb = true) (hnz : NonZero mb) :
    Commb.allZero (pack (layout mb)) = false := by
  obtain ⟨off, w, v, hfv, hv⟩ := hnz
  cases h : Commb.allZero (pack (layout mb)) with
  | false => rfl
  | true =>
    have := bitsBE_layout mb [] off w v h8 hf hfv
    rw [List.append_nil, allZero_bitsBE _ h] at this
    exact absurd this.symm hv

/-- a reader that turns all 56 bits of a payload laid out by the Spec into `out` is an accepted hypothesis -/
theorem hyp_of_payload {r : R SerFields} {mb : List Field} {out : SerFields} (hw : width mb = 56)
    (hfit : fits mb = true)
    (h : ∀ buf, Carries buf 0 mb → wpOk r (fun v s' => v = out ∧ s'.nread = 56) (st buf 0 0 0)) :
    hyp r (pack (layout mb)) = some out := by
  have hC := carries_pack mb [] (by omega) hfit
  rw [List.append_nil] at hC
  obtain ⟨v, s', hm, rfl, hn⟩ := wpOk_iff.1 (h _ hC)
  unfold hyp tryFromBytes
  rw [show r.run (pack (layout mb)) = _ from hm]
  simp [hn, pack_length, layout_length, hw]

/-- what the frame theorems use of the selector's register list: the entry under `bds05` is the BDS 0,5
    hypothesis handed to `common`, the entries of BDS 2,0 / 4,0 / 5,0 / 6,0 are their hypothesis tests on the
    payload.  (The list has fourteen entries; nothing is said about the others.) -/
structure Regs (buf : List Nat) (b05 : Option SerFields) (regs : Fields) : Prop where
  bds05 : Fields.get? regs (key! "bds05") = nestVal b05
  bds20 : Fields.get? regs (key! "bds20") = nestVal (hyp Bds20.read buf)
  bds40 : Fields.get? regs (key! "bds40") = nestVal (hyp Bds40.read buf)
  bds50 : Fields.get? regs (key! "bds50") = nestVal (hyp Bds50.read buf)
  bds60 : Fields.get? regs (key! "bds60") = nestVal (hyp Bds60.read buf)

theorem common_regs (buf : List Nat) (b05 : Option SerFields) (h05 : Commb.OptGood b05) :
    ∃ regs, Commb.common buf b05 = .ok (.ok regs) ∧ Regs buf b05 regs := by
  obtain ⟨b65, _, hc⟩ := Commb.common_eq buf b05 h05
  exact ⟨_, hc, rfl, rfl, rfl, rfl, rfl⟩

theorem tryFrom_df20 (fs dr um code addr alt : Nat) (mb : List Field)
    (hfs : fs < 2 ^ 3) (hdr : dr < 2 ^ 5) (hum : um < 2 ^ 6) (hcode : code < 2 ^ 13) (haddr : addr < 2 ^ 24)
    (hw : width mb = 56) (hfit : fits mb = true) (hnz : NonZero mb) (halt : ac13 code = .ok alt) :
    ∃ b05 regs, Regs (pack (layout mb)) b05 regs ∧
      (∀ f, b05 = some (.ok f) → Fields.get? f (key! "altitude") = some (.int alt)) ∧
      tryFrom (buildCommB 20 fs dr um code addr mb) = .ok (toDecoded (.ok
        ([dfTag (key! "20"), fld (key! "altitude") (jnat alt)] ++ regs ++ [fld (key! "icao24") (jhex6 addr)]))) := by
  obtain ⟨b05, hb05, hgood, h05⟩ := Commb.b05_ok alt (pack (layout mb))
  obtain ⟨regs, hcom, hregs⟩ := common_regs (pack (layout mb)) b05 hgood
  have hz := not_allZero (by omega) hfit hnz
  refine ⟨b05, regs, hregs, h05, tryFrom_long (survHeader 20 fs dr um code) mb 20 addr _ rfl rfl hw rfl
    (fits_survHeader (by decide) hfs hdr hum hcode) hfit haddr (by decide) fun F hb hlen hbuf hC => ?_⟩
  simp only [Carries, survHeader, Nat.reduceAdd] at hC
  simp only [frame_run, dfBody, ac13Field, Commb.df20, ↓survHeader_run F _ (by omega), ↓wpOk_mb F _ hb hlen hbuf,
    ↓hC, halt, hz, Bool.false_eq_true, if_false]
  refine (wpOk_lift_of hb05 _ _).2 ?_
  simp (disch := decide) only [frame_run, hcom, hlen]
  rfl

theorem tryFrom_df21 (fs dr um code addr : Nat) (mb : List Field)
    (hfs : fs < 2 ^ 3) (hdr : dr < 2 ^ 5) (hum : um < 2 ^ 6) (hcode : code < 2 ^ 13) (haddr : addr < 2 ^ 24)
    (hw : width mb = 56) (hfit : fits mb = true) (hnz : NonZero mb) :
    ∃ regs, Regs (pack (layout mb)) none regs ∧
      tryFrom (buildCommB 21 fs dr um code addr mb) = .ok (toDecoded (.ok
        ([dfTag (key! "21"), fld (key! "squawk") (jhex4 (decodeId13 code))] ++ regs ++
          [fld (key! "icao24") (jhex6 addr)]))) := by
  obtain ⟨regs, hcom, hregs⟩ := common_regs (pack (layout mb)) none (fun v e => by cases e)
  have hz := not_allZero (by omega) hfit hnz
  refine ⟨regs, hregs, tryFrom_long (survHeader 21 fs dr um code) mb 21 addr _ rfl rfl hw rfl
    (fits_survHeader (by decide) hfs hdr hum hcode) hfit haddr (by decide) fun F hb hlen hbuf hC => ?_⟩
  simp only [Carries, survHeader, Nat.reduceAdd] at hC
  simp (disch := decide) only [frame_run, dfBody, identityCode, Commb.df21, ↓survHeader_run F _ (by omega),
    ↓wpOk_mb F _ hb hlen hbuf, ↓hC, hz, hcom, hlen, Bool.false_eq_true, if_false]
  rfl

def out20 (cs : List Char) : SerFields :=
  tagged (key! "bds") (key! "20") (.ok [ fld (key! "callsign") (.chars cs) ])

theorem hyp_bds20 (codes : List Nat) (cs : List Char) (hcodes : codes.length = 8)
    (hfit : fits (codes.map fun c => (6, c)) = true)
    (hcs : Bds08.callsign.go (codes.filter (· != 32)) = .ok cs) :
    hyp Bds20.read (pack (layout ((8, 0x20) :: codes.map fun c => (6, c)))) = some (out20 cs) := by
  refine hyp_of_payload (by rw [width, width_map6, hcodes]) (by rw [fits, hfit]; rfl) fun buf hC => ?_
  simp only [Carries, Nat.reduceAdd] at hC
  simp only [frame_run, Bds20.read, ↓hC.1, show Bds20.failIfNot20 0x20 = .ok 0x20 from rfl,
    ↓wpOk_callsign buf codes cs _ _ _ _ hC.2 hcodes hcs]
  exact ⟨rfl, trivial⟩

def out40 (mv fv qv : Option Nat) (src : Nat) : SerFields :=
  .ok [
    fld (key! "bds") (.lit (key! "40")),
    skipNone (key! "selected_mcp") (mv.map jnat),
    skipNone (key! "selected_fms") (fv.map jnat),
    skipNone (key! "barometric_setting") (qv.map fun n => jrat n 10),
    skipNone (key! "target_source") (Bds40.targetSource src) ]

theorem hyp_bds40 (sMcp mcp sFms fms sBaro baro sMode vnav ah app sSrc src : Nat) (mv fv qv : Option Nat)
    (hfit : fits (mb40 sMcp mcp sFms fms sBaro baro sMode vnav ah app sSrc src) = true)
    (hm : Bds40.selectedAlt (sMcp == 1) mcp = .ok mv) (hf : Bds40.selectedAlt (sFms == 1) fms = .ok fv)
    (hq : Bds40.qnhNum (sBaro == 1) baro = .ok qv) :
    hyp Bds40.read (pack (layout (mb40 sMcp mcp sFms fms sBaro baro sMode vnav ah app sSrc src))) =
      some (out40 mv fv qv src) := by
  refine hyp_of_payload (by simp [width, mb40]) hfit fun buf hC => ?_
  simp only [Carries, mb40, Nat.reduceAdd] at hC
  simp only [frame_run, Bds40.read, Bds40.readSelected, Bds40.readQnh, ↓flag, ↓hC, hm, hf, hq, bne_self_eq_false,
    Bool.false_eq_true, if_false]
  exact ⟨rfl, trivial⟩

theorem fits_mb40 {sMcp mcp sFms fms sBaro baro sMode vnav ah app sSrc src : Nat} (h1 : sMcp < 2 ^ 1)
    (h2 : mcp < 2 ^ 12) (h3 : sFms < 2 ^ 1) (h4 : fms < 2 ^ 12) (h5 : sBaro < 2 ^ 1) (h6 : baro < 2 ^ 12)
    (h7 : sMode < 2 ^ 1) (h8 : vnav < 2 ^ 1) (h9 : ah < 2 ^ 1) (h10 : app < 2 ^ 1) (h11 : sSrc < 2 ^ 1)
    (h12 : src < 2 ^ 2) : fits (mb40 sMcp mcp sFms fms sBaro baro sMode vnav ah app sSrc src) = true := by
  simp only [fits, mb40, Bool.and_eq_true, decide_eq_true_eq]
  exact ⟨h1, h2, h3, h4, h5, h6, by decide, h7, h8, h9, h10, by decide, h11, h12, trivial⟩

theorem fits_mb50 {sRoll sTrk sGs gs sRate sTas tas : Nat} (roll trk rate : Int) (h1 : sRoll < 2 ^ 1)
    (h2 : sTrk < 2 ^ 1) (h3 : sGs < 2 ^ 1) (h4 : gs < 2 ^ 10) (h5 : sRate < 2 ^ 1) (h6 : sTas < 2 ^ 1)
    (h7 : tas < 2 ^ 10) : fits (mb50 sRoll roll sTrk trk sGs gs sRate rate sTas tas) = true := by
  simp only [fits, mb50, Bool.and_eq_true, decide_eq_true_eq]
  exact ⟨h1, signBit_lt _, twosMag_lt 9 _, h2, signBit_lt _, twosMag_lt 10 _, h3, h4, h5, signBit_lt _,
    twosMag_lt 9 _, h6, h7, trivial⟩

theorem fits_mb60 {sHdg sIas ias sMach mach sBaro sIn : Nat} (hdg baro inert : Int) (h1 : sHdg < 2 ^ 1)
    (h2 : sIas < 2 ^ 1) (h3 : ias < 2 ^ 10) (h4 : sMach < 2 ^ 1) (h5 : mach < 2 ^ 10) (h6 : sBaro < 2 ^ 1)
    (h7 : sIn < 2 ^ 1) : fits (mb60 sHdg hdg sIas ias sMach mach sBaro baro sIn inert) = true := by
  simp only [fits, mb60, Bool.and_eq_true, decide_eq_true_eq]
  exact ⟨h1, signBit_lt _, twosMag_lt 10 _, h2, h3, h4, h5, h6, signBit_lt _, twosMag_lt 9 _, h7, signBit_lt _,
    twosMag_lt 9 _, trivial⟩

def out50 (rv tv : Option Int) (gv : Option Nat) (qv : Option Int) (av : Option Nat) : SerFields :=
  .ok [
    fld (key! "bds") (.lit (key! "50")),
    fldOpt (key! "roll") (rv.map fun n => jrat (n * 45) 256),
    fldOpt (key! "track") (tv.map fun n => jrat n 512),
    fldOpt (key! "groundspeed") (gv.map jnat),
    fldOpt (key! "track_rate") (qv.map fun n => jrat n 256),
    fldOpt (key! "TAS") (av.map jnat) ]

theorem hyp_bds50 (sRoll : Nat) (roll : Int) (sTrk : Nat) (trk : Int) (sGs gs sRate : Nat) (rate : Int)
    (sTas tas : Nat) (rv tv : Option Int) (gv : Option Nat) (qv : Option Int) (av : Option Nat)
    (hfit : fits (mb50 sRoll roll sTrk trk sGs gs sRate rate sTas tas) = true)
    (h1 : Bds50.roll (sRoll == 1) (signBit roll) (twosMag 9 roll) = .ok rv)
    (h2 : Bds50.track (sTrk == 1) (signBit trk) (twosMag 10 trk) = .ok tv)
    (h3 : Bds50.groundspeed (sGs == 1) gs = .ok gv)
    (h4 : Bds50.rate rv (sRate == 1) (signBit rate) (twosMag 9 rate) = .ok qv)
    (h5 : Bds50.tas gv (sTas == 1) tas = .ok av) :
    hyp Bds50.read (pack (layout (mb50 sRoll roll sTrk trk sGs gs sRate rate sTas tas))) =
      some (out50 rv tv gv qv av) := by
  refine hyp_of_payload (by simp [width, mb50]) hfit fun buf hC => ?_
  simp only [Carries, mb50, Nat.reduceAdd] at hC
  simp only [frame_run, Bds50.read, ↓flag, ↓hC, h1, h2, h3, h4, h5]
  exact ⟨rfl, trivial⟩

def out60 (hv : Option Int) (iv mv : Option Nat) (bv nv : Option Int) : SerFields :=
  .ok [
    fld (key! "bds") (.lit (key! "60")),
    skipNone (key! "heading") (hv.map fun n => jrat n 512),
    skipNone (key! "IAS") (iv.map jnat),
    skipNone (key! "Mach") (mv.map fun v => jrat (v * 2048) 512000),
    skipNone (key! "vrate_barometric") (bv.map jint),
    skipNone (key! "vrate_inertial") (nv.map jint) ]

theorem hyp_bds60 (sHdg : Nat) (hdg : Int) (sIas ias sMach mach sBaro : Nat) (baro : Int) (sIn : Nat) (inert : Int)
    (hv : Option Int) (iv mv : Option Nat) (bv nv : Option Int)
    (hfit : fits (mb60 sHdg hdg sIas ias sMach mach sBaro baro sIn inert) = true)
    (h1 : Bds60.heading (sHdg == 1) (signBit hdg) (twosMag 10 hdg) = .ok hv)
    (h2 : Bds60.ias (sIas == 1) ias = .ok iv)
    (h3 : Bds60.mach iv (sMach == 1) mach = .ok mv)
    (h4 : Bds60.vertical (sBaro == 1) (signBit baro) (twosMag 9 baro) = .ok bv)
    (h5 : Bds60.vertical (sIn == 1) (signBit inert) (twosMag 9 inert) = .ok nv) :
    hyp Bds60.read (pack (layout (mb60 sHdg hdg sIas ias sMach mach sBaro baro sIn inert))) =
      some (out60 hv iv mv bv nv) := by
  refine hyp_of_payload (by simp [width, mb60]) hfit fun buf hC => ?_
  simp only [Carries, mb60, Nat.reduceAdd] at hC
  simp only [frame_run, Bds60.read, Bds60.readVertical, ↓flag, ↓hC, h1, h2, h3, h4, h5]
  exact ⟨rfl, trivial⟩

/-! An optional quantity `o` is sent as a status bit and a code: `none` as status 0 and code 0, `some k` as status
1 and the code of `k`.  A fact about the two is proved for `none` (by evaluation) and for every `some k` that `o`
can be (by the field codec, whose range hypotheses are stated under `o = some k`). -/

@[elab_as_elim]
theorem optCases {α} {P : Option α → Prop} (o : Option α) (hn : P none) (hs : ∀ k, o = some k → P (some k)) :
    P o := by
  cases o with
  | none => exact hn
  | some k => exact hs k rfl

theorem getD_lt {o : Option Nat} {n : Nat} (hn : 0 < n) (h : ∀ v, o = some v → v < n) : o.getD 0 < n :=
  optCases o hn h

end Rs1090.Proofs.C03
