/-
C14 helper lemmas: the checked form of `aircraft_information` (`infoChecked`: JSON load,
`&start[2..]` + `from_str_radix(..).unwrap()`, `Regex::new(..).unwrap()` as checked operations on the
generated texts) never reaches one of its panic sites on the generated data, and is the lookup `info`.
-/
import Rs1090.Proofs.TailDefs
namespace Rs1090.Proofs.Tail
open Rs1090 Rs1090.Model.Tail Rs1090.Gen.Tail

/-- the text `s` passes `&s[2..]` and `from_str_radix(.., 16).unwrap()` and means `v` -/
def boundOk (s : String) (v : Nat) : Bool :=
  match parseBound s with
  | .ok w => w == v
  | _ => false

def boundsOk : List (String × String) → List Block → Bool
  | [], [] => true
  | (s, e) :: rs, b :: bs => boundOk s b.start && boundOk e b.end_ && boundsOk rs bs
  | _, _ => false

def catsCompiled (cs : List Category) : Bool := cs.all (fun c => c.compiled.isSome)

theorem boundOk_parse {s : String} {v : Nat} (h : boundOk s v = true) : parseBound s = .ok v := by
  unfold boundOk at h
  split at h
  · rename_i w hw
    rw [hw, eq_of_beq h]
  · cases h

def parseBoundL (cs : List Char) : Outcome Nat :=
  (dropBytes cs 2).bind fun t =>
    match parseHexU32 t with
    | some v => .ok v
    | none => .panic .unwrapErr

/-- `boundOk` for an ASCII text, on the characters read off its bytes (`toList_of_ascii`) -/
def boundOkA (s : String) (v : Nat) : Bool :=
  match ascii? s.toByteArray.data.toList with
  | some cs =>
    match parseBoundL cs with
    | .ok w => w == v
    | _ => false
  | none => false

def boundsOkA : List (String × String) → List Block → Bool
  | [], [] => true
  | (s, e) :: rs, b :: bs => boundOkA s b.start && boundOkA e b.end_ && boundsOkA rs bs
  | _, _ => false

theorem boundOkA_sound {s : String} {v : Nat} (h : boundOkA s v = true) : boundOk s v = true := by
  unfold boundOkA at h
  split at h
  · rename_i cs hcs
    unfold boundOk
    rw [show parseBound s = parseBoundL s.toList from rfl, toList_of_ascii hcs]
    exact h
  · cases h

theorem boundsOkA_sound : ∀ (raws : List (String × String)) (bs : List Block),
    boundsOkA raws bs = true → boundsOk raws bs = true
  | [], [], _ => rfl
  | (s, e) :: rs, b :: bs, h => by
    simp only [boundsOkA, boundsOk, Bool.and_eq_true] at h ⊢
    exact ⟨⟨boundOkA_sound h.1.1, boundOkA_sound h.1.2⟩, boundsOkA_sound rs bs h.2⟩
  | [], _ :: _, h | _ :: _, [], h => by cases h

theorem blockFindChecked_eq (h : Nat) : ∀ (raws : List (String × String)) (bs : List Block),
    boundsOk raws bs = true → blockFindChecked h raws bs = .ok (blockFind h bs) := by
  intro raws
  induction raws with
  | nil =>
    intro bs hb
    cases bs with
    | nil => rfl
    | cons b bs => simp [boundsOk] at hb
  | cons r rs ih =>
    intro bs hb
    obtain ⟨s, e⟩ := r
    cases bs with
    | nil => simp [boundsOk] at hb
    | cons b bs =>
      simp only [boundsOk, Bool.and_eq_true] at hb
      obtain ⟨⟨h1, h2⟩, h3⟩ := hb
      unfold blockFindChecked blockFind
      rw [boundOk_parse h1, Outcome.bind_ok, boundOk_parse h2, Outcome.bind_ok]
      split
      · rfl
      · exact ih bs h3

theorem catFindChecked_eq (t : List Char) : ∀ cs : List Category, catsCompiled cs = true →
    catFindChecked t cs = .ok (catFind t cs) := by
  intro cs
  induction cs with
  | nil => intro _; rfl
  | cons c cs ih =>
    intro hc
    simp only [catsCompiled, List.all_cons, Bool.and_eq_true] at hc
    obtain ⟨h1, h2⟩ := hc
    unfold catFindChecked catFind
    cases hcc : c.compiled with
    | none => rw [hcc] at h1; cases h1
    | some r =>
      have hre : c.re = r := by unfold Category.re; rw [hcc]; rfl
      simp only [hre]
      split
      · rfl
      · exact ih h2

theorem blockFind_mem (h : Nat) (bs : List Block) (b : Block) (hb : blockFind h bs = some b) : b ∈ bs :=
  firstSome_mem (c := fun b => b.start ≤ h ∧ h ≤ b.end_) rfl (fun _ _ => rfl) bs b hb

/-- GENERATED FACT, checked in the kernel: every `start`/`end` text of patterns.json begins with two
    one-byte characters, the rest parses as a hexadecimal `u32`, and gives the bound of `Gen.Tail.blocks`. -/
theorem bounds_ok : boundsOk blockBounds blocks = true := boundsOkA_sound _ _ (by decide +kernel)

/-- GENERATED FACT: every category pattern is in the regex subset the extractor accepts (was compiled). -/
theorem cats_compiled : blocks.all (fun b => catsCompiled b.cats) = true := by decide +kernel

/-- GENERATED FACT: patterns.json has the shape serde needs. -/
theorem patterns_load : loadPatterns = .ok () := by decide

theorem infoOf_registration (reg : Option (List Char)) (blk : Option Block) : (infoOf reg blk).registration = reg := by
  unfold infoOf
  split
  · rfl
  · split <;> rfl

theorem infoOf_country {b : Block} (hc : b.cats.all (fun c => c.country.isNone) = true) (reg : Option (List Char)) :
    (infoOf reg (some b)).country = some b.country := by
  simp only [infoOf]
  split
  · rfl
  · rename_i c hcf
    have hmem : c ∈ b.cats := by
      cases reg with
      | none => cases hcf
      | some t => exact catFind_mem t _ _ hcf
    rw [Option.isNone_iff_eq_none.mp (List.all_eq_true.mp hc c hmem)]
    rfl

theorem infoChecked_eq (h : Nat) : infoChecked h = info h := by
  unfold infoChecked info
  cases ht : tailStr h with
  | err e => rfl
  | panic s => rfl
  | ok reg =>
    simp only [Outcome.bind_ok]
    rw [patterns_load, Outcome.bind_ok, blockFindChecked_eq h _ _ bounds_ok, Outcome.bind_ok]
    unfold infoOf blockOf
    cases hb : blockFind h blocks with
    | none => rfl
    | some b =>
      cases reg with
      | none => rfl
      | some t =>
        have hmem := blockFind_mem h _ _ hb
        have hc : catsCompiled b.cats = true := (List.all_eq_true.mp cats_compiled) b hmem
        simp only [catFindChecked_eq t _ hc, Outcome.bind_ok, Option.bind_some]
        cases catFind t b.cats <;> rfl

end Rs1090.Proofs.Tail
