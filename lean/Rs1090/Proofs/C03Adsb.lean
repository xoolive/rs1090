/-
The `ME` reader on the 56 ME bits of each ADS-B register laid out by the Spec (`me05`, `me06`, `me08`, `me09`,
`me61`, `me62`): the reader is run on a buffer that carries the register's fields at bit 32, and the values it
computes from them are those of the field codecs passed in as hypotheses.
-/
import Rs1090.Proofs.C03Frames
namespace Rs1090.Proofs.C03
open Rs1090 Rs1090.Model Rs1090.Spec.Encode Rs1090.Model.Message

/-- the `id_pat` variants of `ME` seek back over the 5-bit type code before reading their payload -/
theorem wpOk_seekLast_me (Q : Unit → Rd → Prop) (F : List Nat) (r : Nat) :
    wpOk seekLast Q (st F 37 5 r) ↔ Q () (st F 32 5 (r - 5)) := by
  rw [wpOk_seekLast]
  exact and_iff_right (by decide)

def tcAirborne (tc : Nat) : Prop := (9 ≤ tc ∧ tc ≤ 18) ∨ (20 ≤ tc ∧ tc ≤ 22)

theorem meBody_05 (tc : Nat) (h : tcAirborne tc) :
    meBody tc = (do seekLast; let v ← Bds05.read; pure (tagged (key! "bds") (key! "05") v)) := by
  have h : (9 ≤ tc ∧ tc ≤ 18) ∨ (20 ≤ tc ∧ tc ≤ 22) := h
  have h0 : tc ≠ 0 := by omega
  have h1 : ¬ tc ≤ 4 := by omega
  have h2 : ¬ tc ≤ 8 := by omega
  simp [meBody, h0, h1, h2, h]

/-- NUCp of an airborne position from its type code (DO-260B table 2-11 / A-2-5) -/
def nuc05 (tc : Nat) : Nat := if tc < 19 then 18 - tc else if tc = 20 ∨ tc = 21 then 29 - tc else 0

theorem nuc05_ok (tc : Nat) (h : tcAirborne tc) :
    (if tc < 19 then subU 18 tc else if (tc == 20 || tc == 21) = true then subU 29 tc else Outcome.ok 0)
      = .ok (nuc05 tc) := by
  have : (9 ≤ tc ∧ tc ≤ 18) ∨ (20 ≤ tc ∧ tc ≤ 22) := h
  simp only [nuc05, Bool.or_eq_true, beq_iff_eq]
  split
  · exact subU_ok (by omega)
  · split
    · exact subU_ok (by omega)
    · rfl

def out05 (tc saf : Nat) (altv : Option Nat) (t f lat lon : Nat) : SerFields :=
  tagged (key! "bds") (key! "05") (.ok [
    fld (key! "tc") (jnat tc),
    fld (key! "NUCp") (jnat (nuc05 tc)),
    skipNone (key! "NICb") (if tc < 19 then some (jnat saf) else none),
    fldOpt (key! "altitude") (altv.map jnat),
    fld (key! "source") (.lit (if tc < 19 then key! "barometric" else key! "GNSS")),
    fld (key! "time_sync") (jbool (t == 1)),
    fld (key! "parity") (CPRFormat f),
    fld (key! "lat_cpr") (jnat lat),
    fld (key! "lon_cpr") (jnat lon),
    skipNone (key! "latitude") none,
    skipNone (key! "longitude") none ])

theorem me_bds05 {tc ss saf alt t f lat lon : Nat} {altv : Option Nat} (htc : tcAirborne tc) (hss : ss < 2 ^ 2)
    (hsaf : saf < 2 ^ 1) (halt : alt < 2 ^ 12) (ht : t < 2 ^ 1) (hf : f < 2 ^ 1) (hlat : lat < 2 ^ 17)
    (hlon : lon < 2 ^ 17) (hcodec : ac12 alt = .ok altv) :
    DecodesME (me05 tc ss saf alt t f lat lon) (out05 tc saf altv t f lat lon) := by
  have htc5 : tc < 2 ^ 5 := by have : (9 ≤ tc ∧ tc ≤ 18) ∨ (20 ≤ tc ∧ tc ≤ 22) := htc; omega
  refine ⟨by simp [width, me05], by simp [fits, me05, *], fun F hC => ?_⟩
  simp only [Carries, me05, Nat.reduceAdd] at hC
  simp only [frame_run, Message.me, meBody_05 tc htc, Bds05.read, ↓flag, ↓wpOk_seekLast_me, ↓hC, nuc05_ok tc htc,
    hcodec, Nat.reduceSub]
  exact ⟨rfl, rfl, Nat.le_refl 88⟩

theorem meBody_06 (tc : Nat) (h : 5 ≤ tc ∧ tc ≤ 8) :
    meBody tc = (do seekLast; let v ← Bds06.read; pure (tagged (key! "bds") (key! "06") v)) := by
  have h0 : tc ≠ 0 := by omega
  have h1 : ¬ tc ≤ 4 := by omega
  simp [meBody, h0, h1, h.1, h.2]

def out06 (tc : Nat) (gs : Option Json) (sts trk f lat lon : Nat) : SerFields :=
  tagged (key! "bds") (key! "06") (.ok [
    fld (key! "tc") (jnat tc),
    fld (key! "NUCp") (jnat (14 - tc)),
    fldOpt (key! "groundspeed") gs,
    fldOpt (key! "track") (if sts == 1 then some (jrat (trk * 360) 128) else none),
    fld (key! "parity") (CPRFormat f),
    fld (key! "lat_cpr") (jnat lat),
    fld (key! "lon_cpr") (jnat lon),
    skipNone (key! "latitude") none,
    skipNone (key! "longitude") none ])

theorem me_bds06 {tc mov sts trk t f lat lon : Nat} (htc : 5 ≤ tc ∧ tc ≤ 8) (hmov : mov < 2 ^ 7)
    (hsts : sts < 2 ^ 1) (htrk : trk < 2 ^ 7) (ht : t < 2 ^ 1) (hf : f < 2 ^ 1) (hlat : lat < 2 ^ 17)
    (hlon : lon < 2 ^ 17) :
    DecodesME (me06 tc mov sts trk t f lat lon) (out06 tc (Bds06.groundspeed mov) sts trk f lat lon) := by
  have htc5 : tc < 2 ^ 5 := by omega
  have hnuc : subU 14 tc = .ok (14 - tc) := subU_ok (by omega)
  refine ⟨by simp [width, me06], by simp [fits, me06, *], fun F hC => ?_⟩
  simp only [Carries, me06, Nat.reduceAdd] at hC
  simp only [frame_run, Message.me, meBody_06 tc htc, Bds06.read, ↓flag, ↓wpOk_seekLast_me, ↓hC, hnuc,
    Nat.reduceSub]
  exact ⟨rfl, rfl, Nat.le_refl 88⟩

theorem meBody_08 (tc : Nat) (h : 1 ≤ tc ∧ tc ≤ 4) :
    meBody tc = (do seekLast; let v ← Bds08.read; pure (tagged (key! "bds") (key! "08") v)) := by
  have h0 : tc ≠ 0 := by omega
  simp [meBody, h0, h.1, h.2]

def out08 (tc ca : Nat) (cs : List Char) : SerFields :=
  tagged (key! "bds") (key! "08") (.ok [
    fld (key! "id") (jnat tc),
    fld (key! "wake_vortex") (.lit (Bds08.wakeVortex tc ca)),
    fld (key! "callsign") (.chars cs) ])

theorem width_map6 : ∀ codes : List Nat, width (codes.map fun c => (6, c)) = 6 * codes.length
  | [] => rfl
  | c :: rest => by simp only [List.map_cons, width, width_map6 rest, List.length_cons]; omega

theorem fits_map6 : ∀ codes : List Nat, (∀ c ∈ codes, c < 2 ^ 6) → fits (codes.map fun c => (6, c)) = true
  | [], _ => rfl
  | c :: rest, h => by
    simp only [List.map_cons, fits, Bool.and_eq_true, decide_eq_true_eq]
    exact ⟨h c List.mem_cons_self, fits_map6 rest fun x hx => h x (List.mem_cons_of_mem _ hx)⟩

theorem charCode_lt (c : Char) : charCode c < 2 ^ 6 := by
  unfold charCode codeOfIA5
  split
  · omega
  · split
    · omega
    · decide

theorem callsignCodes_length {cs : List Char} (h : cs.length ≤ 8) : (callsignCodes cs).length = 8 := by
  simp only [callsignCodes, List.length_append, List.length_map, List.length_replicate]
  omega

theorem callsignCodes_lt (cs : List Char) : ∀ x ∈ callsignCodes cs, x < 2 ^ 6 := by
  intro x hx
  simp only [callsignCodes, List.mem_append, List.mem_map, List.mem_replicate] at hx
  rcases hx with ⟨c, _, rfl⟩ | ⟨_, rfl⟩
  · exact charCode_lt c
  · decide

theorem fits_callsignFields (cs : List Char) : fits (callsignFields cs) = true :=
  fits_map6 _ (callsignCodes_lt cs)

theorem wpOk_callsignChars (F : List Nat) : ∀ (codes : List Nat) (Q : List Nat → Rd → Prop) (p l r : Nat),
    Carries F p (codes.map fun c => (6, c)) →
    (wpOk (Bds08.callsignChars codes.length) Q (st F p l r) ↔
      Q (codes.filter (· != 32)) (st F (p + 6 * codes.length) (l + 6 * codes.length) (r + 6 * codes.length)))
  | [], Q, p, l, r, _ => by
    simp only [List.length_nil, Bds08.callsignChars, ↓wpOk_pure, List.filter_nil, Nat.mul_zero, Nat.add_zero]
  | c :: rest, Q, p, l, r, h => by
    simp only [frame_run, List.length_cons, Bds08.callsignChars, h.1, wpOk_callsignChars F rest _ _ _ _ h.2,
      List.filter_cons, Nat.mul_add, Nat.mul_one, Nat.add_assoc, Nat.add_comm 6]

theorem wpOk_callsign (F : List Nat) (codes : List Nat) (cs : List Char) (Q : List Char → Rd → Prop) (p l r : Nat)
    (hC : Carries F p (codes.map fun c => (6, c))) (hlen : codes.length = 8)
    (hcs : Bds08.callsign.go (codes.filter (· != 32)) = .ok cs) :
    wpOk Bds08.callsign Q (st F p l r) ↔ Q cs (st F (p + 48) (l + 48) (r + 48)) := by
  unfold Bds08.callsign
  rw [wpOk_bind, ← hlen, wpOk_callsignChars F codes _ p l r hC, hcs, wpOk_lift, hlen]

theorem me_bds08 {tc ca : Nat} {codes : List Nat} {cs : List Char} (htc : 1 ≤ tc ∧ tc ≤ 4) (hca : ca < 2 ^ 3)
    (hlen : codes.length = 8) (hfit : fits (codes.map fun c => (6, c)) = true)
    (hcs : Bds08.callsign.go (codes.filter (· != 32)) = .ok cs) :
    DecodesME ([(5, tc), (3, ca)] ++ codes.map fun c => (6, c)) (out08 tc ca cs) := by
  have htc5 : tc < 2 ^ 5 := by omega
  have hid : ¬ (tc < 1 ∨ tc > 4) := by omega
  refine ⟨by simp [width, width_map6, hlen], by simp [fits, *], fun F hC => ?_⟩
  simp only [List.cons_append, List.nil_append, Carries, Nat.reduceAdd] at hC
  simp only [frame_run, Message.me, meBody_08 tc htc, Bds08.read, ↓wpOk_seekLast_me, ↓hC.1, ↓hC.2.1,
    ↓wpOk_callsign F codes cs _ _ _ _ hC.2.2 hlen hcs, Bool.or_eq_true, decide_eq_true_eq, hid,
    if_false, Nat.reduceSub]
  exact ⟨rfl, rfl, Nat.le_refl 88⟩

theorem meBody_19 : meBody 19 = (do let v ← Bds09.read; pure (tagged (key! "bds") (key! "09") v)) := rfl

def out09 (nacv : Nat) (vel : Fields) (vsrc : Nat) (vr gb : Option Int) : SerFields :=
  tagged (key! "bds") (key! "09") (.ok (
    [ fld (key! "NACv") (jnat nacv) ] ++ vel ++
    [ fld (key! "vrate_src") (.lit (Bds09.vrateSrcName vsrc)),
      skipNone (key! "vertical_rate") (vr.map jint),
      fldOpt (key! "geo_minus_baro") (gb.map jint) ]))

/-- the 22 velocity bits, `velGround …` as well as `velAir …` -/
theorem fits_vel {a b c d : Nat} (ha : a < 2 ^ 1) (hb : b < 2 ^ 10) (hc : c < 2 ^ 1) (hd : d < 2 ^ 10) :
    fits [(1, a), (10, b), (1, c), (10, d)] = true := by
  simp [fits, ha, hb, hc, hd]

theorem readVelocity_ground (F : List Nat) (sub dew vew dns vns : Nat) (ew ns : Int)
    (hsub : sub = 1 ∨ sub = 2)
    (hew : Bds09.velComponent sub dew vew = .ok ew) (hns : Bds09.velComponent sub dns vns = .ok ns)
    (hC : Carries F 45 (velGround dew vew dns vns)) (Q : Fields → Rd → Prop) (l r : Nat) :
    wpOk (Bds09.readVelocity sub) Q (st F 45 l r) ↔
      Q [ fld (key! "groundspeed") (Bds09.groundspeedJ ew ns), fld (key! "track") (Bds09.trackJ ew ns) ]
        (st F 67 11 (r + 22)) := by
  simp only [Carries, velGround, Nat.reduceAdd] at hC
  rcases hsub with rfl | rfl <;>
  simp only [frame_run, Bds09.readVelocity, Bds09.readGroundSpeed, ↓wpOk_bits_zero, ↓hC, hew, hns, Nat.reduceBEq,
    Bool.or_true, Bool.true_or, Bool.false_eq_true, if_false, if_true, Nat.add_assoc]

theorem readVelocity_air (F : List Nat) (sub hst hdg ast asp : Nat) (spd : Option Nat)
    (hsub : sub = 3 ∨ sub = 4)
    (hsp : (if sub = 3 then Bds09.airspeedSub asp else Bds09.airspeedSuper asp) = .ok spd)
    (hC : Carries F 45 (velAir hst hdg ast asp)) (Q : Fields → Rd → Prop) (l r : Nat) :
    wpOk (Bds09.readVelocity sub) Q (st F 45 l r) ↔
      Q (Bds09.airspeedFields (if hst == 1 then some (jrat (Bds09.headingNum hdg) Bds09.headingDen) else none)
          ast spd) (st F 67 11 (r + 22)) := by
  simp only [Carries, velAir, Nat.reduceAdd] at hC
  rcases hsub with rfl | rfl <;>
  simp only [Nat.reduceEqDiff, if_true, if_false] at hsp <;>
  simp only [frame_run, Bds09.readVelocity, Bds09.readAirspeedSub, Bds09.readAirspeedSuper, ↓flag, ↓wpOk_bits_zero,
    ↓hC, hsp, Nat.reduceBEq, Bool.or_false, Bool.false_eq_true, if_false, if_true, Nat.add_assoc]

/-- BDS 0,9 around its 22 velocity bits `vel`: `hvel` is the run of the subtype's velocity reader over them
    (`readVelocity_ground`, `readVelocity_air`), the rest is common to all subtypes -/
theorem me_bds09 {sub ic ifr nacv vsrc vsign vr gsign g : Nat} {vel : List Field} {velJ : Fields}
    {vrv gbv : Option Int} (hsub : sub < 2 ^ 3) (hic : ic < 2 ^ 1) (hifr : ifr < 2 ^ 1) (hnacv : nacv < 2 ^ 3)
    (hw : width vel = 22) (hfit : fits vel = true) (hvsrc : vsrc < 2 ^ 1) (hvsign : vsign < 2 ^ 1)
    (hvr : vr < 2 ^ 9) (hgsign : gsign < 2 ^ 1) (hg : g < 2 ^ 7)
    (hvel : ∀ F, Carries F 45 vel → ∀ (Q : Fields → Rd → Prop) l r,
      wpOk (Bds09.readVelocity sub) Q (st F 45 l r) ↔ Q velJ (st F 67 11 (r + 22)))
    (hvrv : Bds09.vrate vsign vr = .ok vrv) (hgbv : Bds09.geoBaro gsign g = .ok gbv) :
    DecodesME (me09 sub ic ifr nacv vel vsrc vsign vr gsign g) (out09 nacv velJ vsrc vrv gbv) := by
  refine ⟨by simp [width, width_append, me09, hw], by simp [fits, fits_append, me09, *], fun F hC => ?_⟩
  obtain ⟨hH, hT⟩ := (carries_append F _ _ 32).1 hC
  obtain ⟨hH, hV⟩ := (carries_append F _ _ 32).1 hH
  simp only [Carries, width_append, width, hw, Nat.reduceAdd] at hH hT
  simp only [frame_run, Message.me, meBody_19, Bds09.read, ↓flag, ↓hH, ↓hT, ↓hvel F hV, hvrv, hgbv]
  exact ⟨rfl, rfl, Nat.le_refl 88⟩

theorem meBody_28 : meBody 28 = (do let v ← Bds61.read; pure (tagged (key! "bds") (key! "61") v)) := rfl

def out61 (sub es id : Nat) : SerFields :=
  tagged (key! "bds") (key! "61") (.ok [
    fld (key! "subtype") (.lit (Bds61.subtypeName sub)),
    fld (key! "emergency_state") (.lit (Bds61.emergencyName es)),
    fld (key! "squawk") (jhex4 (decodeId13 id)) ])

/-- the reader stops at ME bit 24: the 32 reserved bits are never consumed -/
theorem me_bds61 {sub es id : Nat} (hsub : sub < 2 ^ 3) (hes : es < 2 ^ 3) (hid : id < 2 ^ 13) :
    DecodesME (me61 sub es id) (out61 sub es id) := by
  refine ⟨by simp [width, me61], by simp [fits, me61, *], fun F hC => ?_⟩
  simp only [Carries, me61, Nat.reduceAdd] at hC
  simp only [frame_run, Message.me, meBody_28, Bds61.read, ↓hC]
  exact ⟨rfl, rfl, show 56 ≤ 88 by decide⟩

theorem meBody_29 : meBody 29 = (do let v ← Bds62.read; pure (tagged (key! "bds") (key! "62") v)) := rfl

def out62 (altType : Nat) (alt : Option Nat) (qnh : Option (Nat × Nat)) (hst hdg nacp ms ap vnav ah app tcas lnav : Nat) :
    SerFields :=
  tagged (key! "bds") (key! "62") (.ok [
    fld (key! "source") (.lit (Bds62.altSourceName altType)),
    skipNone (key! "selected_altitude") (alt.map jnat),
    skipNone (key! "barometric_setting") (qnh.map fun (n, d) => jrat n d),
    skipNone (key! "selected_heading") (if hst == 1 then some (jrat (Bds62.headingNum hdg) Bds62.headingDen) else none),
    fld (key! "NACp") (jnat nacp),
    skipNone (key! "autopilot") (Bds62.modeFlag (ms == 1) (ap == 1)),
    skipNone (key! "vnav_mode") (Bds62.modeFlag (ms == 1) (vnav == 1)),
    skipNone (key! "alt_hold") (Bds62.modeFlag (ms == 1) (ah == 1)),
    skipNone (key! "approach_mode") (Bds62.modeFlag (ms == 1) (app == 1)),
    fld (key! "tcas_operational") (jbool (tcas == 1)),
    skipNone (key! "lnav_mode") (Bds62.modeFlag (ms == 1) (lnav == 1)) ])

theorem me_bds62 {silSup altType selAlt qnh hst hdg nacp nicb sil ms ap vnav ah adsr app tcas lnav : Nat}
    {altv : Option Nat} {qv : Option (Nat × Nat)}
    (h1 : silSup < 2 ^ 1) (h2 : altType < 2 ^ 1) (hsa : selAlt < 2 ^ 11) (hqc : qnh < 2 ^ 9) (h3 : hst < 2 ^ 1)
    (h4 : hdg < 2 ^ 9) (h5 : nacp < 2 ^ 4) (h6 : nicb < 2 ^ 1) (h7 : sil < 2 ^ 2) (h8 : ms < 2 ^ 1)
    (h9 : ap < 2 ^ 1) (h10 : vnav < 2 ^ 1) (h11 : ah < 2 ^ 1) (h12 : adsr < 2 ^ 1) (h13 : app < 2 ^ 1)
    (h14 : tcas < 2 ^ 1) (h15 : lnav < 2 ^ 1)
    (halt : Bds62.selectedAltitude selAlt = .ok altv) (hq : Bds62.barometricSetting qnh = .ok qv) :
    DecodesME (me62 silSup altType selAlt qnh hst hdg nacp nicb sil ms ap vnav ah adsr app tcas lnav)
      (out62 altType altv qv hst hdg nacp ms ap vnav ah app tcas lnav) := by
  refine ⟨by simp [width, me62], by simp [fits, me62, *], fun F hC => ?_⟩
  simp only [Carries, me62, Nat.reduceAdd] at hC
  simp only [frame_run, Message.me, meBody_29, Bds62.read, ↓flag, ↓pad, ↓hC, halt, hq]
  exact ⟨rfl, rfl, Nat.le_refl 88⟩

end Rs1090.Proofs.C03
