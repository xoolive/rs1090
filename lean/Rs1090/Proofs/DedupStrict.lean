/-
For Props/C10.lean: the grouping rule as implemented (Spec/Dedup.lean: join, then close) against
the independent strict reading (Spec/DedupStrict.lean: close, join, close).  They agree on an arrival
unless it is a late joiner (`LateJoin`), and then they differ.
-/
import Rs1090.Proofs.DedupSpec
import Rs1090.Spec.DedupStrict
namespace Rs1090.Dedup
open Rs1090.Spec.Dedup (firstT closes join sortBy)
open Rs1090.Spec.DedupStrict (LateJoin NoLateJoin)

theorem closes_snoc {w t : Nat} {f : Frame} {ms : List Arrival} (a : Arrival) (h : ms ≠ []) :
    closes w t (f, ms ++ [a]) = closes w t (f, ms) := by
  simp only [closes, firstT_snoc a h]

theorem join_nonempty (a : Arrival) {o : List Group} (h : ∀ g ∈ o, g.2 ≠ []) :
    ∀ g ∈ join o a, g.2 ≠ [] := by
  intro g hg
  rcases mem_push (push_eq_join o a ▸ hg) with h1 | ⟨ms, _, rfl⟩ | rfl
  · exact h g h1
  · exact List.append_ne_nil_of_right_ne_nil _ (List.cons_ne_nil _ _)
  · exact List.cons_ne_nil _ _

theorem filter_false (l : List Group) : l.filter (fun _ => false) = [] := by
  simp

/-- The group of the arrival's frame, if there is one, is not closed at `a.t` with or without the
    arrival in it, so closing before the arrival joins removes the same groups as closing after. -/
theorem strict_step_agrees {w : Nat} {o : List Group} {a : Arrival} (hne : ∀ g ∈ o, g.2 ≠ [])
    (hl : ¬ LateJoin w o a) : Spec.DedupStrict.stepG w o a = Spec.Dedup.stepG w o a := by
  have hsub : ∀ {l : List Group}, a.frame ∉ keys l →
      a.frame ∉ keys (l.filter (fun g => !closes w a.t g)) := fun h h' =>
    h ((List.filter_sublist.map _).subset h')
  simp only [Spec.DedupStrict.stepG, Spec.Dedup.stepG, ← push_eq_join]
  rcases push_cases o a with ⟨l, ms, r, rfl, hk, hp⟩ | ⟨hk, hp⟩
  · have hc : closes w a.t (a.frame, ms) = false := by
      cases hc : closes w a.t (a.frame, ms)
      · rfl
      · exact absurd ⟨_, List.mem_append_right _ List.mem_cons_self, rfl, closes_iff.mp hc⟩ hl
    have hc' := (closes_snoc (w := w) (t := a.t) a (hne _ (List.mem_append_right _ List.mem_cons_self))).trans hc
    have hf : (l ++ (a.frame, ms) :: r).filter (fun g => !closes w a.t g) =
        l.filter (fun g => !closes w a.t g) ++ (a.frame, ms) :: r.filter (fun g => !closes w a.t g) := by
      simp [List.filter_append, hc]
    rw [hp, hf, push_split _ (hsub hk)]
    simp [List.filter_append, hc, hc', filter_false]
  · rw [hp, push_new _ (hsub hk)]
    simp [List.filter_append, filter_false]

theorem not_mem_join {a : Arrival} {o : List Group} (hnd : (keys o).Nodup) :
    ∀ g ∈ o, g.1 = a.frame → g ∉ join o a := by
  intro g hg hga hj
  rw [← push_eq_join] at hj
  rcases push_cases o a with ⟨l, ms, r, rfl, _, hp⟩ | ⟨hk, _⟩
  · -- there is one group per frame, before and after: `g` would be that group with and without `a`
    have hnd' : (keys (l ++ (a.frame, ms ++ [a]) :: r)).Nodup := by
      simpa only [keys_append, keys_cons] using hnd
    have hmem : ∀ {x : List Arrival}, (a.frame, x) ∈ l ++ (a.frame, x) :: r :=
      List.mem_append_right _ List.mem_cons_self
    have e1 := eq_of_key_eq hnd hg hmem hga
    have e2 := eq_of_key_eq hnd' (hp ▸ hj) hmem hga
    have := congrArg (fun y => y.2.length) (e1.symm.trans e2)
    simp at this
  · exact hk (hga ▸ mem_keys hg)

/-- the strict rule closes the old group as it is, the implemented rule closes it with the arrival
    appended -/
theorem strict_step_differs {w : Nat} {o : List Group} {a : Arrival} (hnd : (keys o).Nodup)
    (hl : LateJoin w o a) : Spec.DedupStrict.stepG w o a ≠ Spec.Dedup.stepG w o a := by
  obtain ⟨g, hg, hga, hc⟩ := hl
  intro h
  have h2 := congrArg Prod.snd h
  simp only [Spec.DedupStrict.stepG, Spec.Dedup.stepG] at h2
  have hin : g ∈ sortBy (o.filter (closes w a.t) ++
      (join (o.filter (fun g => !closes w a.t g)) a).filter (closes w a.t)) :=
    (sortBy_perm _).symm.subset
      (List.mem_append_left _ (List.mem_filter.mpr ⟨hg, closes_iff.mpr hc⟩))
  rw [h2] at hin
  exact not_mem_join hnd g hg hga (List.mem_filter.mp ((sortBy_perm _).subset hin)).1

theorem strict_step_iff {w : Nat} {o : List Group} {a : Arrival} (hnd : (keys o).Nodup)
    (hne : ∀ g ∈ o, g.2 ≠ []) :
    Spec.DedupStrict.stepG w o a = Spec.Dedup.stepG w o a ↔ ¬ LateJoin w o a :=
  ⟨fun heq hl => strict_step_differs hnd hl heq, strict_step_agrees hne⟩

theorem strict_step_nonempty {w : Nat} {o : List Group} (a : Arrival) (hne : ∀ g ∈ o, g.2 ≠ []) :
    ∀ g ∈ (Spec.DedupStrict.stepG w o a).1, g.2 ≠ [] := by
  intro g hg
  simp only [Spec.DedupStrict.stepG] at hg
  exact join_nonempty a (fun y hy => hne y (List.mem_filter.mp hy).1) g (List.mem_filter.mp hg).1

theorem strict_runG_agrees {w : Nat} : ∀ (hist : List Arrival) {o : List Group}, (∀ g ∈ o, g.2 ≠ []) →
    (∀ pre a post, hist = pre ++ a :: post → ¬ LateJoin w (Spec.DedupStrict.runG w o pre).1 a) →
    Spec.DedupStrict.runG w o hist = Spec.Dedup.runG w o hist
  | [], _, _, _ => rfl
  | a :: as, o, hne, hl => by
    have h1 := strict_step_agrees hne (hl [] a as rfl)
    have h2 := strict_runG_agrees as (strict_step_nonempty a hne) (fun pre b post hp =>
      hl (a :: pre) b post (by rw [hp]; rfl))
    rw [h1] at h2
    simp only [Spec.DedupStrict.runG, Spec.Dedup.runG, h1, h2]

theorem strict_runG_snoc (w : Nat) : ∀ (hist : List Arrival) (o : List Group) (a : Arrival),
    Spec.DedupStrict.runG w o (hist ++ [a]) =
      ((Spec.DedupStrict.stepG w (Spec.DedupStrict.runG w o hist).1 a).1,
       (Spec.DedupStrict.runG w o hist).2 ++ (Spec.DedupStrict.stepG w (Spec.DedupStrict.runG w o hist).1 a).2)
  | [], o, a => by simp [Spec.DedupStrict.runG]
  | b :: bs, o, a => by
    simp [Spec.DedupStrict.runG, strict_runG_snoc w bs (Spec.DedupStrict.stepG w o b).1 a,
      List.append_assoc]

theorem strict_snoc_iff {w : Nat} {hist : List Arrival} {a : Arrival}
    (hagree : ((runG w init hist).1.cache, (runG w init hist).2) = Spec.DedupStrict.runG w [] hist) :
    ((runG w init (hist ++ [a])).1.cache, (runG w init (hist ++ [a])).2)
        = Spec.DedupStrict.runG w [] (hist ++ [a]) ↔
      ¬ LateJoin w (Spec.DedupStrict.runG w [] hist).1 a := by
  have hinv := reach w hist
  rw [runG_snoc, strict_runG_snoc, ← hagree,
    ← strict_step_iff hinv.nodup (fun g hg => (hinv.wf g hg).1), ← stepG_refines a hinv]
  constructor
  · intro h
    exact Prod.ext (Prod.mk.inj h).1.symm (List.append_cancel_left (Prod.mk.inj h).2).symm
  · intro h; rw [h]

theorem noLateJoinFrom_iff {w : Nat} : ∀ (hist : List Arrival) (o : List Group),
    (∀ pre a post, hist = pre ++ a :: post → ¬ LateJoin w (Spec.DedupStrict.runG w o pre).1 a) ↔
      Spec.DedupStrict.noLateJoinFrom w o hist = true
  | [], o => by
    simp only [Spec.DedupStrict.noLateJoinFrom, iff_true]
    intro pre a post hp
    cases pre <;> cases hp
  | b :: bs, o => by
    simp only [Spec.DedupStrict.noLateJoinFrom, Bool.and_eq_true, Bool.not_eq_true',
      decide_eq_false_iff_not, ← noLateJoinFrom_iff bs]
    constructor
    · intro h
      exact ⟨h [] b bs rfl, fun pre a post hp => h (b :: pre) a post (by rw [hp]; rfl)⟩
    · intro ⟨h0, h1⟩ pre a post hp
      cases pre with
      | nil =>
        simp only [List.nil_append, List.cons.injEq] at hp
        rw [← hp.1]; exact h0
      | cons p pre =>
        simp only [List.cons_append, List.cons.injEq] at hp
        rw [← hp.1]
        exact h1 pre a post hp.2

theorem noLateJoin_iff {w : Nat} (hist : List Arrival) :
    NoLateJoin w hist ↔ Spec.DedupStrict.noLateJoinFrom w [] hist = true :=
  noLateJoinFrom_iff hist []

theorem noLateJoin_prefix {w : Nat} {pre suf : List Arrival} (h : NoLateJoin w (pre ++ suf)) :
    NoLateJoin w pre := fun p a q hp => h p a (q ++ suf) (by rw [hp]; simp)

end Rs1090.Dedup
