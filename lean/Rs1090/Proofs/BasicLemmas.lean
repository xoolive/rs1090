/-
Lemmas on the vocabulary of `Model/Basic.lean`: checked 16-bit signed arithmetic that stays in range, `isOk` against
`= .ok _`, the `Prop` form of a kernel sweep, and one-bit masks read as arithmetic (so that `omega` can use them).
-/
import Rs1090.Model.Basic
namespace Rs1090

theorem subS16_ok {a b : Int} (h1 : -32768 ≤ a - b) (h2 : a - b < 32768) : subS 16 a b = .ok (a - b) := by
  simp [subS, inS, h1, h2]

theorem mulS16_ok {a b : Int} (h1 : -32768 ≤ a * b) (h2 : a * b < 32768) : mulS 16 a b = .ok (a * b) := by
  simp [mulS, inS, h1, h2]

theorem Outcome.isOk_of_eq {α} {o : Outcome α} {a : α} (h : o = .ok a) : o.isOk = true := by
  rw [h]; rfl

theorem Outcome.eq_ok_of_isOk {α} {o : Outcome α} (h : o.isOk = true) : ∃ a, o = .ok a := by
  cases o with
  | ok a => exact ⟨a, rfl⟩
  | err e => cases h
  | panic x => cases h

theorem forall_lt_of_sweep {P : Nat → Prop} [DecidablePred P] (d : Nat)
    (h : allBits (fun x => decide (P x)) d 0 = true) : ∀ x, x < 2 ^ d → P x :=
  fun x hx => of_decide_eq_true (forall_lt_of_allBits _ d h x hx)

theorem bitN_le (x i : Nat) : bitN x i ≤ 1 := by unfold bitN; omega

theorem and_two_pow (x i : Nat) : x &&& 2 ^ i = 2 ^ i * bitN x i := by
  have hd : (x &&& 2 ^ i) / 2 ^ i = bitN x i := by
    rw [Nat.and_div_two_pow, Nat.div_self (Nat.two_pow_pos i), Nat.and_one_is_mod, bitN, Nat.shiftRight_eq_div_pow]
  have hm : (x &&& 2 ^ i) % 2 ^ i = 0 := by
    rw [Nat.and_mod_two_pow, Nat.mod_self, Nat.and_zero]
  rw [← Nat.div_add_mod (x &&& 2 ^ i) (2 ^ i), hd, hm, Nat.add_zero]

/-- `m` is the literal `2 ^ i` of the caller -/
theorem ite_and_two_pow (x i m t : Nat) (hm : m = 2 ^ i) :
    (if x &&& m != 0 then t else 0) = bitN x i * t := by
  have hb : bitN x i = 0 ∨ bitN x i = 1 := by have := bitN_le x i; omega
  rw [hm, and_two_pow]
  rcases hb with hb | hb
  · rw [hb]; simp
  · rw [hb, Nat.mul_one, Nat.one_mul, if_pos]
    exact bne_iff_ne.2 (Nat.ne_of_gt (Nat.two_pow_pos i))

theorem bit_eq_zero_of_and_eq_zero {x m : Nat} (h : x &&& m = 0) (i : Nat) (hm : m.testBit i = true) :
    x / 2 ^ i % 2 = 0 := by
  have ht : (x &&& m).testBit i = false := by rw [h, Nat.zero_testBit]
  rw [Nat.testBit_and, hm, Bool.and_true, Nat.testBit_eq_decide_div_mod_eq, decide_eq_false_iff_not] at ht
  omega

end Rs1090
