/-
BDS 6,5 aircraft operation status: every subtype (airborne, surface, reserved 2..7) and every version
(0, 1, 2, reserved 3..7), and the Comm-B entry point `readEnum`.
-/
import Rs1090.Proofs.Decode.FieldsLemmas
import Rs1090.Model.Decode.Bds65
namespace Rs1090.Model.Bds65
open Rs1090 Rs1090.Model

/-! ### the parts that are read and not printed: panic-freedom only -/

theorem reserved2_noPanic : NoPanic reserved2 := by
  intro s; unfold NoPanicAt reserved2
  wp_run
  wp_if h <;> wp_run

theorem capabilityClassAirborne_noPanic : NoPanic capabilityClassAirborne := by
  intro s; unfold NoPanicAt capabilityClassAirborne
  rw [wp_bind]; apply wp_of_noPanic reserved2_noPanic; intro _ _
  wp_run
  apply wp_of_noPanic reserved2_noPanic; intro _ _
  wp_run

theorem capabilityClassSurface_noPanic : NoPanic capabilityClassSurface := by
  intro s; unfold NoPanicAt capabilityClassSurface
  rw [wp_bind]; apply wp_of_noPanic reserved2_noPanic; intro _ _
  wp_run

theorem operationalMode_noPanic : NoPanic operationalMode := by
  intro s; unfold NoPanicAt operationalMode
  rw [wp_bind]; apply wp_of_noPanic reserved2_noPanic; intro _ _
  wp_run

/-! No BDS 6,5 key is in the C08 table: the values are small unsigned integers and literal tags, so every
field list below is good by evaluation. -/

theorem versionEmpty_good : FieldsGood outerKeys versionEmpty := ⟨rfl, rfl⟩

theorem versionReserved_spec (s : Rd) : wp versionReserved (fun fs _ => FieldsGood outerKeys fs) s := by
  unfold versionReserved; wp_run; exact ⟨rfl, rfl⟩

theorem airborneV1_spec (s : Rd) : wp airborneV1 (fun fs _ => FieldsGood outerKeys fs) s := by
  unfold airborneV1; wp_run; exact ⟨rfl, rfl⟩

theorem airborneV2_spec (s : Rd) : wp airborneV2 (fun fs _ => FieldsGood outerKeys fs) s := by
  unfold airborneV2; wp_run; exact ⟨rfl, rfl⟩

theorem surfaceV1_spec (s : Rd) : wp surfaceV1 (fun fs _ => FieldsGood outerKeys fs) s := by
  unfold surfaceV1; wp_run; exact ⟨rfl, rfl⟩

theorem surfaceV2_spec (s : Rd) : wp surfaceV2 (fun fs _ => FieldsGood outerKeys fs) s := by
  unfold surfaceV2; wp_run; exact ⟨rfl, rfl⟩

theorem versionAirborne_spec (s : Rd) : wp versionAirborne (fun fs _ => FieldsGood outerKeys fs) s := by
  unfold versionAirborne
  wp_run
  wp_if h
  · wp_run; exact versionEmpty_good
  wp_if h
  · exact airborneV1_spec _
  wp_if h
  · exact airborneV2_spec _
  · exact versionReserved_spec _

theorem versionSurface_spec (s : Rd) : wp versionSurface (fun fs _ => FieldsGood outerKeys fs) s := by
  unfold versionSurface
  wp_run
  wp_if h
  · wp_run; exact versionEmpty_good
  wp_if h
  · exact surfaceV1_spec _
  wp_if h
  · exact surfaceV2_spec _
  · exact versionReserved_spec _

theorem airborne_spec (s : Rd) : wp airborne (fun fs _ => FieldsGood outerKeys fs) s := by
  unfold airborne
  rw [wp_bind]; apply wp_of_noPanic capabilityClassAirborne_noPanic; intro _ _
  rw [wp_bind]; apply wp_of_noPanic operationalMode_noPanic; intro _ _
  wp_run
  exact versionAirborne_spec _

theorem surface_spec (s : Rd) : wp surface (fun fs _ => FieldsGood outerKeys fs) s := by
  unfold surface
  rw [wp_bind]; apply wp_of_noPanic capabilityClassSurface_noPanic; intro _ _
  wp_run
  apply wp_of_noPanic operationalMode_noPanic; intro _ _
  wp_run
  exact versionSurface_spec _

theorem reservedSubtype_spec (s : Rd) : wp reservedSubtype (fun fs _ => FieldsGood outerKeys fs) s := by
  unfold reservedSubtype
  wp_run
  apply wp_of_noPanic (noPanic_bytesN 5); intro _ _
  wp_run
  exact FieldsGood.nil _

/-- every subtype × version serialises (reserved subtypes as an empty map, after fix d0d10b1) -/
theorem read_good : ReadsGood outerKeys read := by
  intro s
  unfold read
  wp_run
  refine wp_mono (Q := fun fs _ => FieldsGood outerKeys fs) ?_ fun fs s' hfs => by rw [wp_pure]; exact ⟨fs, rfl, hfs⟩
  wp_if h
  · exact airborne_spec _
  wp_if h
  · exact surface_spec _
  · exact reservedSubtype_spec _

theorem read_noPanic : NoPanic read := read_good.noPanic

theorem read_serGood : ∀ s, wp read (fun r _ => SerGood outerKeys r) s := read_good.serGood

theorem read_rangeGood : ∀ s, wp read (fun r _ => RangeGood r) s := read_good.rangeGood

theorem readEnum_good : ReadsGood outerKeys readEnum := read_good

end Rs1090.Model.Bds65
