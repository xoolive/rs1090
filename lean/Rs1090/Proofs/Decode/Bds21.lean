import Rs1090.Proofs.Decode.Bds08
import Rs1090.Model.Decode.Bds21
namespace Rs1090.Model.Bds21
open Rs1090 Rs1090.Model
open Rs1090.Gen.Chars21 (charLookup21 regLen airlineLen)

/-- obligation on the GENERATED table: every 6-bit code is a valid index -/
theorem charLookup_len : charLookup21.length = 64 := by decide

/-- the character loop is `bds08::callsign_read`'s -/
theorem readCodes_eq : ∀ k, readCodes k = Bds08.callsignChars k
  | 0 => rfl
  | k + 1 => by unfold readCodes Bds08.callsignChars; rw [readCodes_eq k]

/-- `CHAR_LOOKUP[b as usize]` is in bounds for 6-bit codes -/
theorem encode_noPanic : ∀ cs : List Nat, (∀ c ∈ cs, c < 64) → (encode cs).isPanic = false
  | [], _ => rfl
  | c :: rest, h => by
    unfold encode
    apply Outcome.bind_noPanic (idx_noPanic _ _ (by rw [charLookup_len]; exact h c (by simp))); intro _
    apply Outcome.bind_noPanic (encode_noPanic rest fun x hx => h x (by simp [hx])); intro _
    rfl

theorem aircraftRegistration_noPanic (status : Bool) (codes : List Nat) (h : ∀ c ∈ codes, c < 64) :
    (aircraftRegistration status codes).isPanic = false := by
  unfold aircraftRegistration
  apply Outcome.bind_noPanic (encode_noPanic codes h); intro _
  repeat' split
  all_goals rfl

theorem airlineRegistration_noPanic (status : Bool) (codes : List Nat) (h : ∀ c ∈ codes, c < 64) :
    (airlineRegistration status codes).isPanic = false := by
  unfold airlineRegistration
  apply Outcome.bind_noPanic (encode_noPanic codes h); intro _
  repeat' split
  all_goals rfl

/-- `registration` is a string or `null`, `airline` a string or absent; neither key names a constrained quantity -/
theorem read_good : ReadsGood [] read := by
  intro s
  unfold read
  wp_run
  rw [readCodes_eq]; apply Bds08.callsignChars_wp; intro codes s1 hcodes
  rw [wp_bind]; apply wp_lift_of (aircraftRegistration_noPanic _ codes hcodes); intro reg _
  wp_run
  rw [readCodes_eq]; apply Bds08.callsignChars_wp; intro acodes s2 hacodes
  rw [wp_bind]; apply wp_lift_of (airlineRegistration_noPanic _ acodes hacodes); intro airline _
  wp_run
  refine ⟨_, rfl, rfl, ?_⟩
  entrywise
  exact ⟨rfl, entryGood_map _ _ _ fun _ _ => rfl, entryGood_map _ _ _ fun _ _ => rfl⟩

theorem read_noPanic : NoPanic read := read_good.noPanic

theorem read_serGood : ∀ s, wp read (fun r _ => SerGood [] r) s := read_good.serGood

theorem read_rangeGood : ∀ s, wp read (fun r _ => RangeGood r) s := read_good.rangeGood

end Rs1090.Model.Bds21
