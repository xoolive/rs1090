/-
BDS 6,2 target state and status.  The two checked conversions have closed forms (`Conversions.lean`).
-/
import Rs1090.Proofs.Decode.FieldsLemmas
import Rs1090.Proofs.Decode.Conversions
namespace Rs1090.Model.Bds62
open Rs1090 Rs1090.Model

theorem selectedAltitude_noPanic (v : Nat) (h : v < 2 ^ 11) : (selectedAltitude v).isPanic = false := by
  rw [selectedAltitude_eq v h]; rfl

theorem barometricSetting_noPanic (q : Nat) (h : q < 2 ^ 9) : (barometricSetting q).isPanic = false := by
  have _ := h  -- no bound on `q` is used: `qnh - 1` is guarded by `qnh == 0`
  rw [barometricSetting_eq]; rfl

theorem heading_range (h : Nat) (hh : h < 2 ^ 9) :
    Constraint.holds (.range 0 360 false) (jrat (headingNum h) headingDen) = true := by
  simp [Constraint.holds, jrat, ratIn, headingNum, headingDen]
  omega

theorem modeFlag_good (k : Key) (ms v : Bool) (hk : specFor k.id = none) : entryGood (k, modeFlag ms v) = true :=
  entryGood_ite _ _ _ fun _ => entryGood_free _ _ hk rfl rfl

theorem read_good : ReadsGood outerKeys read := by
  intro s
  unfold read
  wp_run
  apply wp_lift_ok (selectedAltitude_eq _ (by assumption))
  wp_run
  -- a barometric setting is reported over the denominator `2^24` (so it is a finite number)
  apply wp_lift_ok (barometricSetting_eq _)
  wp_run
  refine ⟨_, rfl, rfl, ?_⟩
  entrywise
  exact ⟨rfl, entryGood_map _ _ _ fun _ _ => rfl, by split <;> rfl,
    entryGood_ite _ _ _ fun _ => entryGood_spec _ _ _ rfl rfl (heading_range _ (by assumption)), rfl,
    modeFlag_good _ _ _ rfl, modeFlag_good _ _ _ rfl, modeFlag_good _ _ _ rfl, modeFlag_good _ _ _ rfl, rfl,
    modeFlag_good _ _ _ rfl⟩

theorem read_noPanic : NoPanic read := read_good.noPanic

theorem read_serGood : ∀ s, wp read (fun r _ => SerGood outerKeys r) s := read_good.serGood

theorem read_rangeGood : ∀ s, wp read (fun r _ => RangeGood r) s := read_good.rangeGood

end Rs1090.Model.Bds62
