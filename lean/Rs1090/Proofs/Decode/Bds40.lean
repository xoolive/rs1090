/-
BDS 4,0 selected vertical intention.  None of the register's keys is in the C08 table.
-/
import Rs1090.Proofs.Decode.FieldsLemmas
import Rs1090.Proofs.Decode.Conversions
namespace Rs1090.Model.Bds40
open Rs1090 Rs1090.Model

theorem selectedAlt_noPanic (st : Bool) (v : Nat) (hv : v < 2 ^ 12) : (selectedAlt st v).isPanic = false := by
  cases st
  · show (if v != 0 then Outcome.err .assertion else .ok none).isPanic = false
    split <;> rfl
  · rw [selectedAlt_true v hv]
    split <;> rfl

theorem qnhNum_noPanic (st : Bool) (v : Nat) : (qnhNum st v).isPanic = false := by
  unfold qnhNum
  split
  · split <;> rfl
  · rfl

theorem readSelected_noPanic : NoPanic readSelected := by
  intro s
  unfold NoPanicAt readSelected
  wp_run
  exact wp_lift_of (selectedAlt_noPanic _ _ (by assumption)) fun _ _ => trivial

theorem readQnh_noPanic : NoPanic readQnh := by
  intro s
  unfold NoPanicAt readQnh
  wp_run
  exact wp_lift_of (qnhNum_noPanic _ _) fun _ _ => trivial

theorem targetSource_good (k : Key) (id : Nat) (hk : specFor k.id = none) : entryGood (k, targetSource id) = true := by
  refine entryGood_opt _ _ fun v h => ?_
  unfold targetSource at h
  split at h <;> cases h <;> exact entryGood_free _ _ hk rfl rfl

theorem read_good : ReadsGood [] read := by
  intro s
  unfold read
  rw [wp_bind]; apply wp_of_noPanic readSelected_noPanic; intro mcp s1
  rw [wp_bind]; apply wp_of_noPanic readSelected_noPanic; intro fms s2
  rw [wp_bind]; apply wp_of_noPanic readQnh_noPanic; intro qnh s3
  wp_run
  wp_if hres
  · wp_run
  wp_run
  wp_if hres1
  · wp_run
  wp_run
  refine ⟨_, rfl, rfl, ?_⟩
  entrywise
  exact ⟨rfl, entryGood_map _ _ _ fun _ _ => rfl, entryGood_map _ _ _ fun _ _ => rfl,
    entryGood_map _ _ _ fun _ _ => rfl, targetSource_good _ _ rfl⟩

theorem read_noPanic : NoPanic read := read_good.noPanic

theorem read_serGood (s : Rd) : wp read (fun r _ => SerGood [] r) s := read_good.serGood s

theorem read_rangeGood (s : Rd) : wp read (fun r _ => RangeGood r) s := read_good.rangeGood s

end Rs1090.Model.Bds40
