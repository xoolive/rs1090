/-
The Comm-B glue (`DF20/DF21DataSelector`): every register hypothesis returns (no panic) a value `hyp r buf`
that is absent or good (`hyp_good`), so `Commb.common` returns the list of the fourteen register values
(`common_eq`: BDS 0,5 is tried by the caller and passed in, the other thirteen are run by `common`), which is a
good field list of `bdsNN` keys.
-/
import Rs1090.Proofs.Decode.Bds05
import Rs1090.Proofs.Decode.Bds10
import Rs1090.Proofs.Decode.Bds17
import Rs1090.Proofs.Decode.Bds18
import Rs1090.Proofs.Decode.Bds19
import Rs1090.Proofs.Decode.Bds20
import Rs1090.Proofs.Decode.Bds21
import Rs1090.Proofs.Decode.Bds30
import Rs1090.Proofs.Decode.Bds40
import Rs1090.Proofs.Decode.Bds44
import Rs1090.Proofs.Decode.Bds45
import Rs1090.Proofs.Decode.Bds50
import Rs1090.Proofs.Decode.Bds60
import Rs1090.Proofs.Decode.Bds65
import Rs1090.Model.Decode.Commb
namespace Rs1090.Model
open Rs1090

namespace Commb

/-- a register hypothesis: absent, or a field list that is good with nothing to avoid (a register is
    printed as a nested object).  In particular never `some (.error _)`. -/
def OptGood (o : Option SerFields) : Prop := ∀ v, o = some v → ReadGood [] v

theorem optGood_none : OptGood none := fun _ e => by cases e

/-- one register hypothesis as a value: what `hypo` returns, the reader being panic-free -/
def hyp (r : R SerFields) (buf : List Nat) : Option SerFields :=
  match tryFromBytes r buf with
  | .ok v => some v
  | _ => none

theorem hypo_eq {r : R SerFields} (h : NoPanic r) (buf : List Nat) : hypo r buf = .ok (hyp r buf) := by
  have hn := tryFromBytes_noPanic h buf
  unfold hypo hyp
  cases ht : tryFromBytes r buf with
  | ok v => rfl
  | err e => rfl
  | panic x => rw [ht] at hn; cases hn

theorem hyp_good {av : List Nat} {r : R SerFields} (h : ReadsGood av r) (buf : List Nat) : OptGood (hyp r buf) := by
  intro v e
  unfold hyp at e
  split at e
  · next v' ht => cases e; exact (tryFromBytes_post h ht).weaken rfl
  · cases e

def nestVal : Option SerFields → Option Json
  | some (.ok f) => some (.obj f.toObj)
  | _ => none

theorem collect_nest : ∀ (xs : List (Key × Option SerFields)), (∀ kv ∈ xs, OptGood kv.2) →
    collect (xs.map fun kv => nest kv.1 kv.2) = .ok (xs.map fun kv => (kv.1, nestVal kv.2))
  | [], _ => rfl
  | (k, o) :: rest, h => by
    have ih := collect_nest rest fun kv hkv => h kv (List.mem_cons_of_mem _ hkv)
    have ho : OptGood o := h (k, o) (List.mem_cons_self ..)
    rw [List.map_cons, List.map_cons, collect, ih]
    cases o with
    | none => rfl
    | some v =>
      obtain ⟨fv, rfl, _⟩ := ho v rfl
      rfl

theorem nestVal_good {k : Key} {o : Option SerFields} (ho : OptGood o) (hk : specFor k.id = none) :
    entryGood (k, nestVal o) = true := by
  cases o with
  | none => rfl
  | some v =>
    obtain ⟨fv, rfl, hnd, _, hwf⟩ := (ho v rfl).serGood
    refine entryGood_free _ _ hk ?_ ((ho _ rfl).rangeGood fv rfl)
    simp only [Json.wf, Bool.and_eq_true, decide_eq_true_eq]
    exact ⟨hwf, hnd⟩

/-- `hk` and `hs` hold by evaluation on literal keys -/
theorem nestVals_good {av : List Nat} (xs : List (Key × Option SerFields)) (hx : ∀ kv ∈ xs, OptGood kv.2)
    (hk : idsOk av (xs.map (·.1.id)) = true)
    (hs : (xs.map (·.1.id)).all (fun k => (specFor k).isNone) = true) :
    FieldsGood av (xs.map fun kv => (kv.1, nestVal kv.2)) := by
  refine ⟨by rw [Fields.ids, List.map_map]; exact hk, ?_⟩
  rw [List.all_map]
  exact List.all_eq_true.mpr fun kv hkv => nestVal_good (hx kv hkv) (by
    simpa using List.all_eq_true.mp hs _ (List.mem_map_of_mem (f := (·.1.id)) hkv))

/-- keys of the surveillance reply that the flattened Comm-B selector must not repeat -/
def commbAvoid : List Nat :=
  [(key! "df").id, (key! "altitude").id, (key! "squawk").id, (key! "icao24").id] ++ timedKeys

/-- the fourteen register hypotheses on the payload `buf`, in struct-field order -/
def hyps (buf : List Nat) (b05 b65 : Option SerFields) : List (Key × Option SerFields) :=
  [(key! "bds05", b05), (key! "bds10", hyp Bds10.read buf), (key! "bds17", hyp Bds17.read buf),
   (key! "bds18", hyp Bds18.read buf), (key! "bds19", hyp Bds19.read buf), (key! "bds20", hyp Bds20.read buf),
   (key! "bds21", hyp Bds21.read buf), (key! "bds30", hyp Bds30.read buf), (key! "bds40", hyp Bds40.read buf),
   (key! "bds44", hyp Bds44.read buf), (key! "bds45", hyp Bds45.read buf), (key! "bds50", hyp Bds50.read buf),
   (key! "bds60", hyp Bds60.read buf), (key! "bds65", b65)]

/-- The thirteen speculative register decoders that `common` runs never abort, whatever the 56
    payload bits, none of the accepted registers fails to serialise, and the result is the list of their
    values after that of BDS 0,5 (`b65` is `none` unless the first byte announces BDS 6,5) -/
theorem common_eq (buf : List Nat) (b05 : Option SerFields) (h05 : OptGood b05) :
    ∃ b65, (∀ kv ∈ hyps buf b05 b65, OptGood kv.2) ∧
      common buf b05 = .ok (.ok ((hyps buf b05 b65).map fun kv => (kv.1, nestVal kv.2))) := by
  have good : ∀ b65, OptGood b65 → ∀ kv ∈ hyps buf b05 b65, OptGood kv.2 := by
    intro b65 h65
    simp only [hyps, List.forall_mem_cons, List.not_mem_nil, false_imp_iff, implies_true, and_true]
    exact ⟨h05, hyp_good Bds10.read_good buf, hyp_good Bds17.read_good buf, hyp_good Bds18.read_good buf,
      hyp_good Bds19.read_good buf, hyp_good Bds20.read_good buf, hyp_good Bds21.read_good buf,
      hyp_good Bds30.read_good buf, hyp_good Bds40.read_good buf, hyp_good Bds44.read_good buf,
      hyp_good Bds45.read_good buf, hyp_good Bds50.read_good buf, hyp_good Bds60.read_good buf, h65⟩
  have run : ∃ b65, OptGood b65 ∧ common buf b05 = .ok (collect ((hyps buf b05 b65).map fun kv => nest kv.1 kv.2)) := by
    unfold common
    simp only [hypo_eq Bds10.read_noPanic, hypo_eq Bds17.read_noPanic, hypo_eq Bds18.read_noPanic,
      hypo_eq Bds19.read_noPanic, hypo_eq Bds20.read_noPanic, hypo_eq Bds21.read_noPanic,
      hypo_eq Bds30.read_noPanic, hypo_eq Bds40.read_noPanic, hypo_eq Bds44.read_noPanic,
      hypo_eq Bds45.read_noPanic, hypo_eq Bds50.read_noPanic, hypo_eq Bds60.read_noPanic,
      hypo_eq Bds65.readEnum_good.noPanic, Outcome.bind_ok']
    split
    · exact ⟨_, hyp_good Bds65.readEnum_good buf, rfl⟩
    · exact ⟨none, optGood_none, rfl⟩
  obtain ⟨b65, h65, hc⟩ := run
  exact ⟨b65, good b65 h65, by rw [hc, collect_nest _ (good b65 h65)]⟩

theorem common_readGood (buf : List Nat) (b05 : Option SerFields) (h05 : OptGood b05) :
    ∃ out, common buf b05 = .ok out ∧ ReadGood commbAvoid out := by
  obtain ⟨b65, hg, hc⟩ := common_eq buf b05 h05
  exact ⟨_, hc, _, rfl, nestVals_good _ hg rfl rfl⟩

/-- the BDS 0,5 hypothesis that `df20` hands to `common` (its `R.lift`ed middle step), as a function of the AC
    field's altitude and the payload -/
def b05Of (ac : Nat) (buf : List Nat) : Outcome (Option SerFields) :=
  if 9 ≤ (buf.getD 0 0) >>> 3 && (buf.getD 0 0) >>> 3 < 22 && (buf.getD 0 0) >>> 3 != 19 then
    match tryFromBytes Bds05.read buf with
    | .ok (.ok fs) =>
      (match fs.get? (key! "altitude") with
       | some (.int a) => if a == (ac : Int) then .ok (some (.ok fs)) else .ok none
       | _ => .ok none)
    | .ok (.error e) => .ok (some (.error e))
    | .err _ => .ok none
    | .panic x => .panic x
  else .ok none

/-- the BDS 0,5 hypothesis of DF 20 returns; what it accepts is a good register whose altitude is the AC field's -/
theorem b05_ok (ac : Nat) (buf : List Nat) :
    ∃ b05, b05Of ac buf = .ok b05 ∧ OptGood b05 ∧
      (∀ f, b05 = some (.ok f) → Fields.get? f (key! "altitude") = some (.int ac)) := by
  have none_ok : ∃ b05, Outcome.ok (none : Option SerFields) = .ok b05 ∧ OptGood b05 ∧
      (∀ f, b05 = some (.ok f) → Fields.get? f (key! "altitude") = some (.int ac)) :=
    ⟨none, rfl, optGood_none, fun _ e => by cases e⟩
  have hnp := tryFromBytes_noPanic Bds05.read_noPanic buf
  unfold b05Of
  split
  · cases hr : tryFromBytes Bds05.read buf with
    | ok v =>
      have hv : ReadGood [] v := (tryFromBytes_post Bds05.read_good hr).weaken rfl
      cases v with
      | ok fs =>
        simp only []
        split
        · rename_i a hg
          split
          · rename_i ha
            refine ⟨_, rfl, fun _ e => by cases e; exact hv, fun f e => ?_⟩
            cases e
            rw [hg, show a = (ac : Int) by simpa using ha]
          · exact none_ok
        · exact none_ok
      | error e => obtain ⟨_, e', _⟩ := hv; cases e'
    | err e => exact none_ok
    | panic x => rw [hr] at hnp; cases hnp
  · exact none_ok

theorem df20_good (ac : Nat) (s : Rd) : wp (df20 ac) (fun r _ => ReadGood commbAvoid r) s := by
  unfold df20
  rw [wp_bind]; apply wp_of_noPanic (noPanic_bytesN 7); intro buf s1
  wp_if hz
  · rw [wp_pure]; exact ⟨_, rfl, FieldsGood.nil _⟩
  · obtain ⟨b05, hb, h05, _⟩ := b05_ok ac buf
    obtain ⟨out, ho, hg⟩ := common_readGood buf b05 h05
    rw [wp_bind]
    exact wp_lift_ok hb (wp_lift_ok ho hg)

theorem df21_good (s : Rd) : wp df21 (fun r _ => ReadGood commbAvoid r) s := by
  unfold df21
  rw [wp_bind]; apply wp_of_noPanic (noPanic_bytesN 7); intro buf s1
  wp_if hz
  · rw [wp_pure]; exact ⟨_, rfl, FieldsGood.nil _⟩
  · obtain ⟨out, ho, hg⟩ := common_readGood buf none optGood_none
    exact wp_lift_ok ho hg

end Commb
end Rs1090.Model
