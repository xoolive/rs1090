/-
BDS 5,0 track and turn report.  What an accepted value of each field can be, from the closed forms of the
conversions (`Conversions.lean`); the cross-check of `tas` uses that an accepted ground speed is ≤ 600 kt.
-/
import Rs1090.Proofs.Decode.FieldsLemmas
import Rs1090.Proofs.Decode.Conversions
namespace Rs1090.Model.Bds50
open Rs1090 Rs1090.Model

/-- accepted roll: `|n·45/256| ≤ 50` (hence within ±90) -/
theorem roll_spec (st : Bool) (sg v : Nat) :
    (roll st sg v).okAnd (optAll fun n => decide (-50 * 256 ≤ n * 45) && decide (n * 45 ≤ 50 * 256)) = true := by
  unfold roll
  split
  · split <;> rfl
  · simp only []
    split
    · rfl
    · simp only [Outcome.okAnd, optAll, Bool.and_eq_true, decide_eq_true_eq]
      omega

theorem angleNum_range (x : Int) (h1 : -1024 ≤ x) (h2 : x < 1024) : 0 ≤ angleNum x ∧ angleNum x < 360 * 512 := by
  unfold angleNum; split <;> omega

/-- accepted track: `0 ≤ n/512 < 360` -/
theorem track_spec (st : Bool) (sg v : Nat) (hv : v < 2 ^ 10) :
    (track st sg v).okAnd (optAll fun n => decide (0 ≤ n) && decide (n < 360 * 512)) = true := by
  cases st
  · show (if sg != 0 || v != 0 then Outcome.err .assertion else .ok none).okAnd _ = true
    split <;> rfl
  · rw [track_true sg v (by omega)]
    simpa [Outcome.okAnd, optAll] using angleNum_range _ (by split <;> omega) (by split <;> omega)

/-- accepted ground speed: at most 600 kt -/
theorem groundspeed_spec (st : Bool) (v : Nat) (hv : v < 2 ^ 10) :
    (groundspeed st v).okAnd (optAll fun g => decide (g ≤ 600)) = true := by
  cases st
  · show (if v != 0 then Outcome.err .assertion else .ok none).okAnd _ = true
    split <;> rfl
  · rw [groundspeed_true v (by omega)]
    split
    · rfl
    · simp only [Outcome.okAnd, optAll, decide_eq_true_eq]; omega

theorem rate_noPanic (rollN : Option Int) (st : Bool) (sg v : Nat) (hv : v < 2 ^ 9) :
    (rate rollN st sg v).isPanic = false := by
  unfold rate
  split
  · split <;> rfl
  · split
    · rfl
    · rw [signed_eq 512 sg v (by omega) (by omega), Outcome.bind_ok']
      generalize (if sg == 1 then (v : Int) - 512 else v) = x
      cases rollN with
      | none => rfl
      | some n => simp only []; split <;> rfl

/-- the cross-check `(gs as i16 - tas as i16).abs()` stays inside the `i16` because an accepted ground speed is ≤ 600 -/
theorem tas_noPanic (gs : Option Nat) (hgs : optAll (fun g => decide (g ≤ 600)) gs = true) (st : Bool) (v : Nat)
    (hv : v < 2 ^ 10) : (tas gs st v).isPanic = false := by
  unfold tas
  split
  · split <;> rfl
  · rw [mulU_ok (by omega), Outcome.bind_ok']
    cases gs with
    | none => rfl
    | some g =>
      simp only [optAll, decide_eq_true_eq] at hgs
      simp only []
      rw [subS16_ok (by omega) (by omega), Outcome.bind_ok', absS16_ok _ (by omega), Outcome.bind_ok']
      split <;> rfl

theorem read_good : ReadsGood [] read := by
  intro s
  unfold read
  wp_run
  apply wp_lift_okAnd (roll_spec _ _ _); intro rollN hroll
  wp_run
  apply wp_lift_okAnd (track_spec _ _ _ (by assumption)); intro trk htrk
  wp_run
  apply wp_lift_okAnd (groundspeed_spec _ _ (by assumption)); intro gs hgs
  wp_run
  apply wp_lift_of (rate_noPanic rollN _ _ _ (by assumption)); intro rt _
  wp_run
  apply wp_lift_of (tas_noPanic gs hgs _ _ (by assumption)); intro ta _
  wp_run
  refine ⟨_, rfl, rfl, ?_⟩
  entrywise
  refine ⟨rfl, entryGood_map _ _ _ fun n hn => entryGood_spec _ _ _ rfl rfl ?_,
    entryGood_map _ _ _ fun n hn => entryGood_spec _ _ _ rfl rfl ?_,
    entryGood_map _ _ _ fun _ _ => entryGood_spec _ _ _ rfl rfl (holds_nonneg_jnat _),
    entryGood_map _ _ _ fun _ _ => rfl,
    entryGood_map _ _ _ fun _ _ => entryGood_spec _ _ _ rfl rfl (holds_nonneg_jnat _)⟩
  · have := optAll_some hroll hn
    simp only [Bool.and_eq_true, decide_eq_true_eq] at this
    exact holds_range_jrat _ _ _ _ _ (by decide) (by omega) (by simp; omega)
  · have := optAll_some htrk hn
    simp only [Bool.and_eq_true, decide_eq_true_eq] at this
    exact holds_range_jrat _ _ _ _ _ (by decide) (by omega) (by simp; omega)

theorem read_noPanic : NoPanic read := read_good.noPanic

theorem read_serGood (s : Rd) : wp read (fun r _ => SerGood [] r) s := read_good.serGood s

theorem read_rangeGood (s : Rd) : wp read (fun r _ => RangeGood r) s := read_good.rangeGood s

end Rs1090.Model.Bds50
