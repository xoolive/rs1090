/-
ONE symbolic execution of the frame decoder `Message.df` (and of the `ME` dispatch inside DF17/18)
with everything its users need as post-condition: it does not panic (C01), its result is a good field
list (C07, C08), and the result shows the `df` tag and the `icao24` that the header view of the
frame (`Filters.hdrView`) announces (C11), in the place the format prescribes — last for the
address/parity formats (C02), not at all for DF19 / Comm-D (C12) — whatever the payload readers return.
-/
import Rs1090.Proofs.Decode.Commb
import Rs1090.Proofs.Decode.Bds06
import Rs1090.Proofs.Decode.Bds08
import Rs1090.Proofs.Decode.Bds09
import Rs1090.Proofs.Decode.Bds61
import Rs1090.Proofs.Decode.Bds62
import Rs1090.Model.Filters
import Rs1090.Proofs.Altitude

namespace Rs1090.Model.Message
open Rs1090 Rs1090.Model Rs1090.Model.Filters

/-- where `fs` shows the address of `v`: the address/parity formats print the checksum remainder last (`ap` is the
    last field of their structs), DF 11, 17, 18 print the AA field somewhere, DF19 and Comm-D have no `icao24` entry -/
def ShowsAddr (fs : Fields) : MsgView → Prop
  | .military | .commD _ => fs.ids.contains (key! "icao24").id = false
  | .allCall a _ | .adsb a | .tisb a => (key! "icao24", some (jhex6 a)) ∈ fs
  | .shortAirAir a | .survAltitude a | .survIdentity a | .longAirAir a | .commBAltitude a | .commBIdentity a =>
    fs.getLast? = some (key! "icao24", some (jhex6 a))

/-- the field list starts with the `df` tag (serde writes the tag of an internally tagged enum first), named as
    the header view displays it, and shows the view's address -/
def Shows (fs : Fields) (v : MsgView) : Prop :=
  (∃ k, fs.head? = some (key! "df", some (Json.lit k)) ∧ k.name = (display v).1) ∧ ShowsAddr fs v

theorem ShowsAddr.mem {fs : Fields} {v : MsgView} {a : Nat} (h : ShowsAddr fs v) (ha : (display v).2 = some a) :
    (key! "icao24", some (jhex6 a)) ∈ fs :=
  match v, h, ha with
  | .military, _, ha | .commD _, _, ha => nomatch ha
  | .allCall _ _, h, rfl | .adsb _, h, rfl | .tisb _, h, rfl => h
  | .shortAirAir _, h, rfl | .survAltitude _, h, rfl | .survIdentity _, h, rfl | .longAirAir _, h, rfl
  | .commBAltitude _, h, rfl | .commBIdentity _, h, rfl => List.mem_of_getLast? h

theorem ShowsAddr.noaddr {fs : Fields} {v : MsgView} (h : ShowsAddr fs v) (hv : addressCarrying v = false) :
    (key! "icao24").id ∉ fs.ids :=
  match v, h, hv with
  | .military, h, _ | .commD _, h, _ => by simpa [ShowsAddr] using h

/-- keys of the DF17/18 envelope -/
def envKeys : List Nat := [(key! "df").id, (key! "icao24").id, (key! "tisb").id] ++ timedKeys

theorem specFor_bds : specFor (key! "bds").id = none := by decide

theorem tagged_good {name : Key} {inner : SerFields} (h : ReadGood outerKeys inner) :
    ReadGood envKeys (tagged (key! "bds") name inner) :=
  h.tagged ⟨rfl, rfl⟩ rfl

theorem unused_good : ReadsGood outerKeys unused := by
  intro s
  unfold unused
  wp_run
  exact ⟨_, rfl, FieldsGood.nil _⟩

/-- The payload readers of `id_pat` variants re-read the type code after `seek_last_read`.
    When the 5-bit code was read from a byte boundary (`p0 % 8 = 0`), the seek returns to `p0`, so
    they see the *same* type code as the dispatch — which is what bounds `14 - tc` in BDS 0,6. -/
theorem meBody_good (bytes : List Nat) (p0 nread : Nat) (hp : p0 % 8 = 0) :
    wp (meBody (bitsBE bytes p0 5)) (fun r _ => ReadGood envKeys r)
      { bytes := bytes, p := p0 + 5, last := 5, nread := nread } := by
  have tg : ∀ {rd : R SerFields} {name : Key} {s : Rd}, wp rd (fun r _ => ReadGood outerKeys r) s →
      wp (rd >>= fun v => pure (tagged (key! "bds") name v)) (fun r _ => ReadGood envKeys r) s := by
    intro rd name s h
    rw [wp_bind]
    exact wp_mono h fun v _ hv => by rw [wp_pure]; exact tagged_good hv
  delta meBody
  generalize htc : bitsBE bytes p0 5 = tc
  wp_if h
  · exact tg (unused_good _)
  wp_if h
  · rw [wp_bind]; apply wp_seekLast_any; intro _; exact tg (Bds08.read_good _)
  wp_if h5
  · rw [wp_bind, wp_seekLast]; intro _
    refine tg (Bds06.read_good _ ?_)
    simp only [ceilDiv8]
    have e : 8 * ((p0 + 5 + 7) / 8 - (5 + 7) / 8) = p0 := by omega
    rw [e, htc]
    simp at h5; omega
  wp_if h
  · rw [wp_bind]; apply wp_seekLast_any; intro _; exact tg (Bds05.read_good _)
  wp_if h
  · exact tg (Bds09.read_good _)
  wp_if h
  · exact tg (unused_good _)
  wp_if h
  · exact tg (unused_good _)
  wp_if h
  · wp_run
    exact tagged_good ⟨_, rfl, rfl, rfl⟩
  wp_if h
  · exact tg (Bds61.read_good _)
  wp_if h
  · exact tg (Bds62.read_good _)
  wp_if h
  · exact tg (unused_good _)
  · exact tg (Bds65.read_good _)

theorem me_good (s : Rd) (hp : s.p % 8 = 0) : wp me (fun r _ => ReadGood envKeys r) s := by
  unfold me
  rw [wp_bind, wp_enumId_pos 5 (by decide)]
  intro _
  exact meBody_good s.bytes s.p _ hp

def DfGood (crc : Nat) (bs : List Nat) (r : SerFields) : Prop :=
  ReadGood timedKeys r ∧ ∃ v, hdrView crc bs = some v ∧ ∀ fs, r = .ok fs → Shows fs v

theorem DfGood.lit {crc : Nat} {bs : List Nat} {fs : Fields} (v : MsgView) (hg : FieldsGood timedKeys fs)
    (hv : hdrView crc bs = some v) (hs : Shows fs v) : DfGood crc bs (.ok fs) :=
  ⟨⟨fs, rfl, hg⟩, v, hv, fun _ e => by cases e; exact hs⟩

theorem DfGood.withFields {crc : Nat} {bs : List Nat} {pre post : Fields} {inner : SerFields} {avI : List Nat}
    (v : MsgView) (hi : ReadGood avI inner) (hlit : FieldsGood timedKeys (pre ++ post))
    (hsub : subIds ((pre ++ post).ids ++ timedKeys) avI = true) (hv : hdrView crc bs = some v)
    (hs : ∀ mid, Shows (pre ++ mid ++ post) v) : DfGood crc bs (withFields pre inner post) := by
  obtain ⟨fs, rfl, hfs⟩ := hi
  exact ⟨⟨_, rfl, hfs.wrap hlit hsub⟩, v, hv, fun _ e => by cases e; exact hs fs⟩

theorem hdrView_commD (crc : Nat) (bs : List Nat) (h : (24 ≤ bitsBE bs 0 5 && bitsBE bs 0 5 ≤ 31) = true) :
    hdrView crc bs = some (.commD (bitsBE bs 86 24)) := by
  unfold hdrView
  generalize bitsBE bs 0 5 = id at h
  simp only [Bool.and_eq_true, decide_eq_true_eq] at h
  have h8 : id = 24 ∨ id = 25 ∨ id = 26 ∨ id = 27 ∨ id = 28 ∨ id = 29 ∨ id = 30 ∨ id = 31 := by omega
  rcases h8 with rfl | rfl | rfl | rfl | rfl | rfl | rfl | rfl <;> rfl

/-- `ac13` accepts every 13-bit altitude code (`ac13_ok`), so the AC field of DF0, 4, 16 and 20 only advances
    the reader -/
theorem wp_ac13Field (Q : Nat → Rd → Prop) (s : Rd) (h : ∀ ac s', Q ac s') : wp ac13Field Q s := by
  unfold ac13Field
  wp_run
  exact wp_lift_of_ok (Proofs.Altitude.ac13_ok _) fun _ _ => h _ _

/-- the identity code of DF5 and DF21 prints as four octal digits -/
theorem squawk_good {f : Nat} (hf : f < 2 ^ 13) :
    entryGood (fld (key! "squawk") (jhex4 (decodeId13 f))) = true :=
  entryGood_spec _ _ _ rfl rfl (Bds61.squawk_octal f hf)

/-- DF17 and DF18 are one reader: 5 + 3 + 24 bits, then the ME field at bit 32 (a byte boundary, which `me_good`
    asks for), then the parity. They differ in the envelope `env c a` printed from the 3-bit code `c` and the
    address `a`, and in the view `v a`; the ME fields land after the envelope and change nothing it shows. -/
theorem squitter_spec {crc : Nat} {bs : List Nat} {nread : Nat} (v : Nat → MsgView) (env : Nat → Nat → Fields)
    (hview : hdrView crc bs = some (v (bitsBE bs 8 24)))
    (henv : ∀ c a, FieldsGood timedKeys (env c a) ∧ subIds ((env c a).ids ++ timedKeys) envKeys = true)
    (hs : ∀ c a mid, Shows (env c a ++ mid) (v a)) :
    wp (do let c ← enumId 3; let a ← bits 24; let m ← me; let _ ← bits 24; pure (withFields (env c a) m))
      (fun r _ => DfGood crc bs r) { bytes := bs, p := 5, last := 5, nread := nread } := by
  rw [wp_bind, wp_enumId_pos 3 (by decide)]; intro _
  rw [wp_bind, wp_bits_pos 24 (by decide)]; intro _
  rw [wp_bind]
  refine wp_mono (me_good _ (by simp [Rd.adv])) fun m _ hm => ?_
  wp_run
  refine DfGood.withFields (post := []) (v _) hm ?_ ?_ hview ?_
  · rw [List.append_nil]; exact (henv _ _).1
  · rw [List.append_nil]; exact (henv _ _).2
  · intro mid; rw [List.append_nil]; exact hs _ _ mid

theorem dfBody_spec (crc : Nat) (bs : List Nat) (nread id : Nat) (hid : bitsBE bs 0 5 = id) :
    wp (dfBody crc id) (fun r _ => DfGood crc bs r) { bytes := bs, p := 5, last := 5, nread := nread } := by
  -- the header view as a function of `id`; `split` below turns `id` into the literal of each arm
  have hview : hdrView crc bs = hdrView crc bs := rfl
  conv at hview => rhs; unfold hdrView; rw [hid]
  unfold dfBody surveillanceHeader identityCode
  split
  · wp_run
    apply wp_ac13Field; intro ac _
    wp_run
    exact DfGood.lit (.shortAirAir crc) ⟨rfl, rfl⟩ hview ⟨⟨_, rfl, rfl⟩, rfl⟩
  · wp_run
    apply wp_ac13Field; intro ac _
    wp_run
    exact DfGood.lit (.survAltitude crc) ⟨rfl, rfl⟩ hview ⟨⟨_, rfl, rfl⟩, rfl⟩
  · wp_run
    refine DfGood.lit (.survIdentity crc) ⟨rfl, ?_⟩ hview ⟨⟨_, rfl, rfl⟩, rfl⟩
    entrywise
    exact ⟨rfl, squawk_good (by assumption), rfl⟩
  · -- DF11: `icao` is the 24 bits after the 5-bit DF and the 3-bit capability
    rw [wp_bind, wp_enumId_pos 3 (by decide)]; intro _
    rw [wp_bind, wp_bits_pos 24 (by decide)]; intro _
    wp_run
    exact DfGood.lit (.allCall (bitsBE bs 8 24) (bitsBE bs 32 24)) ⟨rfl, rfl⟩ hview
      ⟨⟨_, rfl, rfl⟩, by simp [ShowsAddr, fld]⟩
  · wp_run
    apply wp_ac13Field; intro ac _
    rw [wp_bind]; apply wp_of_noPanic (noPanic_bytesN 7); intro _ _
    wp_run
    exact DfGood.lit (.longAirAir crc) ⟨rfl, rfl⟩ hview ⟨⟨_, rfl, rfl⟩, rfl⟩
  · exact squitter_spec .adsb (fun _ a => [dfTag (key! "17"), fld (key! "icao24") (jhex6 a)]) hview
      (fun _ _ => ⟨⟨rfl, rfl⟩, rfl⟩) fun _ _ _ => ⟨⟨_, rfl, rfl⟩, by simp [ShowsAddr, fld]⟩
  · exact squitter_spec .tisb (fun c a => [dfTag (key! "18"), fld (key! "tisb") (.lit (controlFieldName c)),
        fld (key! "icao24") (jhex6 a)]) hview
      (fun _ _ => ⟨⟨rfl, rfl⟩, rfl⟩) fun _ _ _ => ⟨⟨_, rfl, rfl⟩, by simp [ShowsAddr, fld]⟩
  · wp_run
    exact DfGood.lit .military ⟨rfl, rfl⟩ hview ⟨⟨_, rfl, rfl⟩, rfl⟩
  · -- DF20: `icao24` is appended after whatever the Comm-B selector yields
    wp_run
    apply wp_ac13Field; intro ac _
    rw [wp_bind]
    refine wp_mono (Commb.df20_good ac _) fun b _ hb => ?_
    wp_run
    exact DfGood.withFields (.commBAltitude crc) hb ⟨rfl, rfl⟩ rfl hview
      fun _ => ⟨⟨_, rfl, rfl⟩, List.getLast?_concat⟩
  · wp_run
    refine wp_mono (Commb.df21_good _) fun b _ hb => ?_
    wp_run
    refine DfGood.withFields (.commBIdentity crc) hb ⟨rfl, ?_⟩ rfl hview
      fun _ => ⟨⟨_, rfl, rfl⟩, List.getLast?_concat⟩
    entrywise
    exact ⟨⟨rfl, squawk_good (by assumption)⟩, rfl⟩
  · -- DF24..31, or an unknown discriminant (which fails)
    wp_if hc
    · wp_run
      apply wp_of_noPanic (noPanic_bytesN 10); intro md _
      wp_run
      refine DfGood.lit (.commD (bitsBE bs 86 24)) ⟨rfl, ?_⟩ (hdrView_commD crc bs (hid ▸ hc))
        ⟨⟨_, rfl, rfl⟩, rfl⟩
      entrywise
      exact ⟨rfl, rfl, rfl, entryGood_free _ _ rfl (wf_arr_jnat _) (inRange_arr_jnat _), rfl⟩
    · wp_run

/-- `DF::from_reader_with_ctx(reader, crc)` on the buffered frame -/
theorem df_spec (crc : Nat) (bs : List Nat) : wp (df crc) (fun r _ => DfGood crc bs r) (Rd.init bs) := by
  unfold df
  rw [wp_bind, wp_enumId_pos 5 (by decide)]
  intro _
  exact dfBody_spec crc bs _ _ rfl

end Rs1090.Model.Message
