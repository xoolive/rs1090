/-
Weakest-precondition calculus for the deku-style reader monad `R` (Model/Reader.lean): panic-freedom and a
post-condition on the value read.

`wp m Q s`  : running `m` from state `s` does not panic, and if it returns `(a, s')` then `Q a s'`
              (errors are acceptable outcomes: they are `Err(_)` values of the Rust code).

The rules push `wp` through `bind`, `pure`, `bits`, `enumId`, `seekLast`, `R.lift`, … so that what remains
of a reader are the arithmetic side conditions of its checked operations.  Also here: `Outcome.okAnd` and
`optAll` (the shape of facts about the pure conversions that `wp_lift_okAnd` consumes), bounds on `bitsBE`, and
what `wp` gives for `tryFromBytes`.
-/
import Rs1090.Model.Decode.Common
import Rs1090.Proofs.BasicLemmas
namespace Rs1090

theorem Outcome.bind_noPanic {α β} {x : Outcome α} {f : α → Outcome β}
    (hx : x.isPanic = false) (hf : ∀ a, (f a).isPanic = false) : (x >>= f).isPanic = false := by
  show (Outcome.bind x f).isPanic = false
  cases x with
  | ok a => rw [Outcome.bind_ok]; exact hf a
  | err e => rw [Outcome.bind_err]; rfl
  | panic s => cases hx

theorem Outcome.bind_eq_ok {α β} {x : Outcome α} {f : α → Outcome β} {b : β}
    (h : (x >>= f) = .ok b) : ∃ a, x = .ok a ∧ f a = .ok b := by
  change Outcome.bind x f = _ at h
  cases x with
  | ok a => rw [Outcome.bind_ok] at h; exact ⟨a, rfl, h⟩
  | err e => rw [Outcome.bind_err] at h; cases h
  | panic s => rw [Outcome.bind_panic] at h; cases h

theorem idx_noPanic {α} (xs : List α) (i : Nat) (h : i < xs.length) : (idx xs i).isPanic = false := by
  unfold idx; rw [List.getElem?_eq_getElem h]; rfl

theorem idx_mem {α} {xs : List α} {i : Nat} {a : α} (h : idx xs i = .ok a) : a ∈ xs := by
  unfold idx at h
  split at h
  · rename_i b hb; cases h; exact List.mem_of_getElem? hb
  · cases h

end Rs1090

namespace Rs1090.Model
open Rs1090

def wp {α} (m : R α) (Q : α → Rd → Prop) (s : Rd) : Prop :=
  match m s with
  | .ok (a, s') => Q a s'
  | .err _ => True
  | .panic _ => False

def NoPanicAt {α} (m : R α) (s : Rd) : Prop := wp m (fun _ _ => True) s

def NoPanic {α} (m : R α) : Prop := ∀ s, NoPanicAt m s

theorem noPanicAt_iff {α} (m : R α) (s : Rd) : NoPanicAt m s ↔ (m s).isPanic = false := by
  unfold NoPanicAt wp
  cases h : m s with
  | ok v => cases v; simp [Outcome.isPanic]
  | err e => simp [Outcome.isPanic]
  | panic x => simp [Outcome.isPanic]

theorem wp_mono {α} {m : R α} {Q Q' : α → Rd → Prop} {s : Rd}
    (h : wp m Q s) (hq : ∀ a s', Q a s' → Q' a s') : wp m Q' s := by
  unfold wp at *
  cases hm : m s with
  | ok v => cases v; rw [hm] at h; exact hq _ _ h
  | err e => trivial
  | panic x => rw [hm] at h; exact h

@[simp] theorem wp_pure {α} (a : α) (Q : α → Rd → Prop) (s : Rd) :
    wp (pure a : R α) Q s ↔ Q a s := by
  show wp (R.pure a) Q s ↔ _
  simp [wp, R.pure]

@[simp] theorem wp_Rpure {α} (a : α) (Q : α → Rd → Prop) (s : Rd) :
    wp (R.pure a : R α) Q s ↔ Q a s := by
  simp [wp, R.pure]

@[simp] theorem wp_bind {α β} (m : R α) (f : α → R β) (Q : β → Rd → Prop) (s : Rd) :
    wp (m >>= f) Q s ↔ wp m (fun a s' => wp (f a) Q s') s := by
  show wp (R.bind m f) Q s ↔ _
  unfold wp R.bind
  cases m s with
  | ok v => cases v; simp
  | err e => simp
  | panic x => simp

@[simp] theorem wp_fail {α} (e : ErrKind) (Q : α → Rd → Prop) (s : Rd) :
    wp (R.fail e : R α) Q s ↔ True := by
  simp [wp, R.fail]

@[simp] theorem wp_abort {α} (x : Site) (Q : α → Rd → Prop) (s : Rd) :
    wp (R.abort x : R α) Q s ↔ False := by
  simp [wp, R.abort]

theorem wp_lift {α} (o : Outcome α) (Q : α → Rd → Prop) (s : Rd) :
    wp (R.lift o) Q s ↔ (match o with | .ok a => Q a s | .err _ => True | .panic _ => False) := by
  cases o <;> simp [wp, R.lift]

theorem wp_lift_of {α} {o : Outcome α} {Q : α → Rd → Prop} {s : Rd}
    (hp : o.isPanic = false) (hq : ∀ a, o = .ok a → Q a s) : wp (R.lift o) Q s := by
  rw [wp_lift]
  cases o with
  | ok a => exact hq a rfl
  | err e => trivial
  | panic x => simp [Outcome.isPanic] at hp

theorem wp_lift_of_ok {α} {o : Outcome α} {Q : α → Rd → Prop} {s : Rd}
    (ho : ∃ a, o = .ok a) (hq : ∀ a, o = .ok a → Q a s) : wp (R.lift o) Q s := by
  obtain ⟨a, h⟩ := ho
  exact (wp_lift _ _ _).mpr (h ▸ hq a h)

theorem wp_lift_ok {α} {o : Outcome α} {a : α} {Q : α → Rd → Prop} {s : Rd} (h : o = .ok a) (hq : Q a s) :
    wp (R.lift o) Q s := by
  subst h; exact (wp_lift _ _ _).mpr hq

/-- The shape in which facts about the pure field conversions are stated (from the closed form of the
    conversion, or by kernel enumeration of the field's code space) and then consumed at the `R.lift` sites
    of the readers. Boolean, so that the enumerations can decide it. -/
def _root_.Rs1090.Outcome.okAnd {α} (o : Outcome α) (p : α → Bool) : Bool :=
  match o with
  | .ok a => p a
  | .err _ => true
  | .panic _ => false

theorem wp_lift_okAnd {α} {o : Outcome α} {p : α → Bool} {Q : α → Rd → Prop} {s : Rd}
    (h : o.okAnd p = true) (hq : ∀ a, p a = true → Q a s) : wp (R.lift o) Q s := by
  rw [wp_lift]
  cases o with
  | ok a => exact hq a h
  | err e => trivial
  | panic x => cases h

def optAll {α} (p : α → Bool) : Option α → Bool
  | some a => p a
  | none => true

theorem optAll_some {α} {p : α → Bool} {o : Option α} {a : α} (h : optAll p o = true) (e : o = some a) :
    p a = true := by subst e; exact h

theorem wp_ite {α} (c : Prop) [Decidable c] (a b : R α) (Q : α → Rd → Prop) (s : Rd) :
    wp (if c then a else b) Q s ↔ (c → wp a Q s) ∧ (¬ c → wp b Q s) := by
  by_cases h : c <;> simp [h]

theorem bitAt_lt (bytes : List Nat) (i : Nat) : bitAt bytes i < 2 := by
  unfold bitAt; omega

theorem bitsBE_lt (bytes : List Nat) (p : Nat) : ∀ n, bitsBE bytes p n < 2 ^ n
  | 0 => by simp [bitsBE]
  | n + 1 => by
    have ih := bitsBE_lt bytes p n
    have hb := bitAt_lt bytes (p + n)
    simp only [bitsBE, Nat.pow_succ]
    omega

theorem bitsBE_byte_prefix (F : List Nat) (j : Nat) (hb : F.getD j 0 < 256) : ∀ k, k ≤ 8 →
    bitsBE F (8 * j) k = F.getD j 0 >>> (8 - k)
  | 0, _ => by rw [bitsBE, Nat.shiftRight_eq_div_pow, Nat.div_eq_of_lt hb]
  | k + 1, h => by
    have e : 8 - k = (7 - k) + 1 := by omega
    have h1 : (8 * j + k) / 8 = j := by omega
    have h2 : (8 * j + k) % 8 = k := by omega
    rw [bitsBE, bitsBE_byte_prefix F j hb k (by omega), bitAt, h1, h2, e, Nat.shiftRight_succ,
      show 8 - (k + 1) = 7 - k by omega]
    omega

/-- the downlink format is the top five bits of the first byte -/
theorem bitsBE_df (b0 : Nat) (rest : List Nat) (h : b0 < 256) : bitsBE (b0 :: rest) 0 5 = b0 >>> 3 :=
  bitsBE_byte_prefix (b0 :: rest) 0 h 5 (by decide)

def Rd.adv (s : Rd) (n : Nat) : Rd := { s with p := s.p + n, last := s.last + n, nread := s.nread + n }

@[simp] theorem Rd.adv_bytes (s : Rd) (n : Nat) : (s.adv n).bytes = s.bytes := rfl
@[simp] theorem Rd.adv_p (s : Rd) (n : Nat) : (s.adv n).p = s.p + n := rfl
@[simp] theorem Rd.adv_last (s : Rd) (n : Nat) : (s.adv n).last = s.last + n := rfl

theorem wp_bits (n : Nat) (Q : Nat → Rd → Prop) (s : Rd) :
    wp (bits n) Q s ↔
      (if n = 0 then Q 0 s
       else (ceilDiv8 (s.p + n) ≤ s.bytes.length → Q (bitsBE s.bytes s.p n) (s.adv n))) := by
  unfold wp bits
  by_cases h0 : n = 0
  · simp [h0]
  · have : (n == 0) = false := by simp [h0]
    simp only [this, h0, if_false]
    by_cases hl : ceilDiv8 (s.p + n) ≤ s.bytes.length
    · simp [hl, Rd.adv]
    · simp [hl]

theorem wp_bits_of (n : Nat) (Q : Nat → Rd → Prop) (s : Rd)
    (h : ∀ v, v < 2 ^ n → v = bitsBE s.bytes s.p n → Q v (if n = 0 then s else s.adv n)) :
    wp (bits n) Q s := by
  rw [wp_bits]
  by_cases h0 : n = 0
  · subst h0
    simpa using h 0 (by simp) (by simp [bitsBE])
  · simp only [h0, if_false]
    intro _
    have := h _ (bitsBE_lt s.bytes s.p n) rfl
    simpa [h0] using this

theorem wp_bits_any (n : Nat) (Q : Nat → Rd → Prop) (s : Rd)
    (h : ∀ v s', v < 2 ^ n → Q v s') : wp (bits n) Q s :=
  wp_bits_of n Q s (fun v hv _ => h v _ hv)

theorem wp_bits_pos (n : Nat) (hn : n ≠ 0) (Q : Nat → Rd → Prop) (s : Rd) :
    wp (bits n) Q s ↔ (ceilDiv8 (s.p + n) ≤ s.bytes.length → Q (bitsBE s.bytes s.p n) (s.adv n)) := by
  rw [wp_bits, if_neg hn]

theorem wp_enumId_any (n : Nat) (Q : Nat → Rd → Prop) (s : Rd)
    (h : ∀ v s', v < 2 ^ n → Q v s') : wp (enumId n) Q s := by
  unfold wp enumId; exact wp_bits_any n Q _ h

theorem wp_flag_any (Q : Bool → Rd → Prop) (s : Rd) (h : ∀ b s', Q b s') : wp flag Q s := by
  unfold flag
  show wp (bits 1 >>= fun v => pure (v == 1)) Q s
  rw [wp_bind]; apply wp_bits_any; intro v s' _; rw [wp_pure]; exact h _ _

theorem wp_pad_any (n : Nat) (Q : Unit → Rd → Prop) (s : Rd) (h : ∀ s', Q () s') : wp (pad n) Q s := by
  unfold pad
  show wp (bits n >>= fun _ => pure ()) Q s
  rw [wp_bind]; apply wp_bits_any; intro v s' _; rw [wp_pure]; exact h _

theorem wp_bitsLE_any (n : Nat) (Q : Nat → Rd → Prop) (s : Rd)
    (h : ∀ v s', Q v s') : wp (bitsLE n) Q s := by
  unfold wp bitsLE
  by_cases h0 : (n == 0) = true
  · simp only [h0, if_true]; exact h _ _
  · simp only [h0]
    by_cases hl : ceilDiv8 (s.p + n) ≤ s.bytes.length
    · simp only [hl, if_true, Bool.false_eq_true, if_false]; exact h _ _
    · simp [hl]

theorem wp_of_noPanic {α} {m : R α} (hm : NoPanic m) (Q : α → Rd → Prop) (s : Rd)
    (h : ∀ a s', Q a s') : wp m Q s :=
  wp_mono (hm s) (fun a s' _ => h a s')

theorem wp_bitsLE_of (n : Nat) (Q : Nat → Rd → Prop) (s : Rd)
    (h : ∀ v, Q v (if n = 0 then s else s.adv n)) : wp (bitsLE n) Q s := by
  unfold wp bitsLE
  by_cases h0 : n = 0
  · subst h0; simpa using h 0
  · have : (n == 0) = false := by simp [h0]
    simp only [this]
    by_cases hl : ceilDiv8 (s.p + n) ≤ s.bytes.length
    · have := h (leValue s.bytes s.p n); simp [h0] at this; simp [hl]; exact this
    · simp [hl]

theorem wp_enumId (n : Nat) (Q : Nat → Rd → Prop) (s : Rd) :
    wp (enumId n) Q s ↔ wp (bits n) Q { s with last := 0 } := by
  unfold wp enumId; rfl

theorem wp_enumId_pos (n : Nat) (hn : n ≠ 0) (Q : Nat → Rd → Prop) (s : Rd) :
    wp (enumId n) Q s ↔ (ceilDiv8 (s.p + n) ≤ s.bytes.length →
      Q (bitsBE s.bytes s.p n) { bytes := s.bytes, p := s.p + n, last := n, nread := s.nread + n }) := by
  rw [wp_enumId, wp_bits_pos n hn]
  simp [Rd.adv]

theorem wp_seekLast (Q : Unit → Rd → Prop) (s : Rd) :
    wp seekLast Q s ↔
      (ceilDiv8 s.last ≤ ceilDiv8 s.p →
        Q () { s with p := 8 * (ceilDiv8 s.p - ceilDiv8 s.last), nread := s.nread - s.last }) := by
  unfold wp seekLast
  by_cases h : ceilDiv8 s.last ≤ ceilDiv8 s.p <;> simp [h]

theorem wp_seekLast_any (Q : Unit → Rd → Prop) (s : Rd) (h : ∀ s', Q () s') : wp seekLast Q s := by
  rw [wp_seekLast]; intro _; exact h _

theorem wp_getPos (Q : Nat → Rd → Prop) (s : Rd) : wp getPos Q s ↔ Q s.p s := by
  simp [wp, getPos]
theorem wp_getRead (Q : Nat → Rd → Prop) (s : Rd) : wp getRead Q s ↔ Q s.nread s := by
  simp [wp, getRead]

theorem noPanic_bits (n : Nat) : NoPanic (bits n) := by
  intro s; exact wp_bits_of n _ s (fun _ _ _ => trivial)

theorem noPanic_bitsLE (n : Nat) : NoPanic (bitsLE n) := by
  intro s; exact wp_bitsLE_of n _ s (fun _ => trivial)

theorem noPanic_enumId (n : Nat) : NoPanic (enumId n) := by
  intro s; unfold NoPanicAt; rw [wp_enumId]; exact noPanic_bits n _

theorem noPanic_seekLast : NoPanic seekLast := by
  intro s; unfold NoPanicAt; rw [wp_seekLast]; intro _; trivial

theorem noPanic_pure {α} (a : α) : NoPanic (pure a : R α) := by
  intro s; unfold NoPanicAt; simp

theorem noPanic_fail {α} (e : ErrKind) : NoPanic (R.fail e : R α) := by
  intro s; unfold NoPanicAt; simp

theorem noPanicAt_bind {α β} {m : R α} {f : α → R β} {s : Rd}
    (hm : NoPanicAt m s) (hf : ∀ a, NoPanic (f a)) : NoPanicAt (m >>= f) s := by
  unfold NoPanicAt at *
  rw [wp_bind]
  exact wp_mono hm (fun a s' _ => hf a s')

theorem noPanic_bind {α β} {m : R α} {f : α → R β}
    (hm : NoPanic m) (hf : ∀ a, NoPanic (f a)) : NoPanic (m >>= f) :=
  fun s => noPanicAt_bind (hm s) hf

theorem noPanic_flag : NoPanic flag := by
  unfold flag; exact noPanic_bind (noPanic_bits 1) (fun _ => noPanic_pure _)

theorem noPanic_pad (n : Nat) : NoPanic (pad n) := by
  unfold pad; exact noPanic_bind (noPanic_bits n) (fun _ => noPanic_pure _)

theorem noPanic_bytesN : ∀ k, NoPanic (bytesN k)
  | 0 => by unfold bytesN; exact noPanic_pure _
  | k + 1 => by
    unfold bytesN
    exact noPanic_bind (noPanic_bits 8) (fun _ => noPanic_bind (noPanic_bytesN k) (fun _ => noPanic_pure _))

theorem noPanic_lift {α} {o : Outcome α} (h : o.isPanic = false) : NoPanic (R.lift o) := by
  intro s; unfold NoPanicAt; exact wp_lift_of h (fun _ _ => trivial)

theorem noPanic_ite {α} (c : Prop) [Decidable c] {a b : R α} (ha : NoPanic a) (hb : NoPanic b) :
    NoPanic (if c then a else b) := by
  by_cases h : c <;> simp [h, ha, hb]

theorem noPanic_cond {α} (c : Bool) {a b : R α} (ha : NoPanic a) (hb : NoPanic b) :
    NoPanic (if c then a else b) := by
  cases c <;> simp [ha, hb]


/-! `tryFromBytes` (a register reader run on its own buffer) inherits panic-freedom and post-condition -/

theorem tryFromBytes_noPanic {α} {r : R α} (h : NoPanic r) (buf : List Nat) :
    (tryFromBytes r buf).isPanic = false := by
  have := (noPanicAt_iff r (Rd.init buf)).mp (h _)
  unfold tryFromBytes R.run
  cases hr : r (Rd.init buf) with
  | ok v => cases v; simp only []; split <;> rfl
  | err e => rfl
  | panic x => rw [hr] at this; cases this

theorem tryFromBytes_post {α} {r : R α} {P : α → Prop} (hr : ∀ s, wp r (fun a _ => P a) s)
    {buf : List Nat} {a : α} (h : tryFromBytes r buf = .ok a) : P a := by
  have := hr (Rd.init buf)
  unfold wp at this
  unfold tryFromBytes R.run at h
  cases hm : r (Rd.init buf) with
  | ok v =>
    obtain ⟨a', s'⟩ := v
    rw [hm] at h this
    simp only [] at h this
    split at h
    · cases h
    · cases h; exact this
  | err e => rw [hm] at h; cases h
  | panic x => rw [hm] at h; cases h

/-- one step of symbolic execution of a reader under `wp`, forgetting positions: peels a bind,
    a primitive read (the value is introduced with its bound), `pure`, `fail`. Stops at `R.lift`
    and at conditionals, which the caller handles (`wp_lift_of`, `wp_if`).
    The rules are applied at the head of the goal only (no search through the continuation), and everything
    runs `with_reducible`: at default transparency `wp_pure` on a goal `wp (bitsLE 24) …` tries to unify
    `pure ?a` with the unfolded body of `bitsLE` (deep recursion). -/
syntax "wp_step" : tactic
macro_rules
  | `(tactic| wp_step) => `(tactic| first
      | with_reducible refine (wp_bind _ _ _ _).mpr ?_
      | with_reducible refine (wp_pure _ _ _).mpr ?_
      | with_reducible refine (wp_Rpure _ _ _).mpr ?_
      | with_reducible refine (wp_fail _ _ _).mpr ?_
      | (with_reducible apply wp_bits_any; intro _ _ _)
      | (with_reducible apply wp_enumId_any; intro _ _ _)
      | (with_reducible apply wp_flag_any; intro _ _)
      | (with_reducible apply wp_pad_any; intro _)
      | (with_reducible apply wp_bitsLE_any; intro _ _)
      | (with_reducible apply wp_seekLast_any; intro _)
      | with_reducible exact True.intro)

/-- case split on a reader of the form `if c then a else b` under `wp` (cheaper and more robust than
    `split`, whose internal `simp` can time out on long `else if` chains): two goals, each with the
    (negated) condition as hypothesis `h`. -/
macro "wp_if" h:ident : tactic =>
  `(tactic| (rw [wp_ite]; refine ⟨fun $h => ?_, fun $h => ?_⟩))

macro "wp_run" : tactic => `(tactic| repeat wp_step)

end Rs1090.Model
