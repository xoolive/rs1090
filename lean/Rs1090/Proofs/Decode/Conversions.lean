/-
Closed forms of the pure field conversions of `Model/Decode/Bds09, Bds62, Bds40, Bds50, Bds60`: what each returns on
EVERY code of its field, from one-line facts about the checked `u16` / `i16` operations and `omega`; before them, the
Spec's two's-complement fields read back for every width.  The round-trip and totality theorems of Props/C03.lean
and the no-panic / range facts of the readers are arithmetic on these.
-/
import Rs1090.Proofs.BasicLemmas
import Rs1090.Model.Decode.Bds09
import Rs1090.Model.Decode.Bds62
import Rs1090.Model.Decode.Bds40
import Rs1090.Model.Decode.Bds50
import Rs1090.Model.Decode.Bds60
import Rs1090.Spec.Encode
namespace Rs1090.Spec.Encode

/-! The Spec's two's-complement fields.

`k ∈ [−2^w, 2^w)` is sent as the sign bit `signBit k` and the `w` magnitude bits `twosMag w k = k mod 2^w`.  `half`
stands for `2^w`, so that the literal of the caller (`512`, `1024`) can be put in. -/

theorem signBit_lt (k : Int) : signBit k < 2 ^ 1 := by
  unfold signBit; split <;> decide

theorem twosMag_lt (w : Nat) (k : Int) : twosMag w k < 2 ^ w := by
  have hp : (0 : Int) < 2 ^ w := Int.pow_pos (by decide)
  have h1 := Int.emod_nonneg k (Int.ne_of_gt hp)
  have h2 := Int.emod_lt_of_pos k hp
  unfold twosMag
  have e : ((2 ^ w : Nat) : Int) = 2 ^ w := by norm_cast
  omega

theorem twosMag_cast (w : Nat) (half k : Int) (hh : half = 2 ^ w) (h1 : -half ≤ k) (h2 : k < half) :
    ((twosMag w k : Nat) : Int) = if k < 0 then k + half else k := by
  subst hh
  have hp : (0 : Int) < 2 ^ w := Int.pow_pos (by decide)
  unfold twosMag
  rw [Int.toNat_of_nonneg (Int.emod_nonneg k (Int.ne_of_gt hp))]
  split
  · rw [← Int.add_emod_right, Int.emod_eq_of_lt (by omega) (by omega)]
  · exact Int.emod_eq_of_lt (by omega) h2

/-- read back the way every decoder of these fields does -/
theorem twos_decode (w : Nat) (half k : Int) (hh : half = 2 ^ w) (h1 : -half ≤ k) (h2 : k < half) :
    (if signBit k == 1 then ((twosMag w k : Nat) : Int) - half else twosMag w k) = k := by
  rw [twosMag_cast w half k hh h1 h2]
  unfold signBit
  split
  · exact Int.add_sub_cancel k half
  · rfl

end Rs1090.Spec.Encode

namespace Rs1090.Model
open Rs1090

namespace Bds09

theorem signValue_cases (sign : Nat) : signValue sign = 1 ∨ signValue sign = -1 := by
  unfold signValue; split <;> simp

theorem velLsb_cases (subtype : Nat) : velLsb subtype = 1 ∨ velLsb subtype = 4 := by
  unfold velLsb; split <;> simp

/-- `(val as i16 - 1) * sign.value() * lsb` stays inside the `i16` for every 10-bit code -/
theorem velComponent_eq (subtype sign val : Nat) (hv : val < 2 ^ 10) :
    velComponent subtype sign val = .ok (((val : Int) - 1) * signValue sign * velLsb subtype) := by
  show (subS 16 (val : Int) 1 >>= fun a => mulS 16 a (signValue sign) >>= fun b => mulS 16 b (velLsb subtype)) = _
  rcases signValue_cases sign with hs | hs <;> rcases velLsb_cases subtype with hl | hl <;>
    rw [hs, hl, subS16_ok (by omega) (by omega), Outcome.bind_ok', mulS16_ok (by omega) (by omega),
      Outcome.bind_ok', mulS16_ok (by omega) (by omega)]

/-- `sign.value() * (v as i16 - 1) * 64` stays inside the `i16` for every 9-bit code -/
theorem vrate_eq (sign v : Nat) (hv : v < 2 ^ 9) :
    vrate sign v = .ok (if v = 0 then none else some (signValue sign * ((v : Int) - 1) * 64)) := by
  unfold vrate
  by_cases h0 : v = 0
  · simp [h0]
  · simp only [beq_iff_eq, h0, if_false]
    show (subS 16 (v : Int) 1 >>= fun a => mulS 16 (signValue sign) a >>= fun b => mulS 16 b 64 >>= fun c =>
      pure (some c)) = _
    rcases signValue_cases sign with hs | hs <;>
      rw [hs, subS16_ok (by omega) (by omega), Outcome.bind_ok', mulS16_ok (by omega) (by omega),
        Outcome.bind_ok', mulS16_ok (by omega) (by omega), Outcome.bind_ok'] <;> rfl

theorem geoBaro_eq (sign value : Nat) (hv : value < 2 ^ 7) :
    geoBaro sign value =
      .ok (if value = 0 then none else some ((if sign == 0 then 25 else -25) * ((value : Int) - 1))) := by
  unfold geoBaro
  by_cases h0 : value = 0
  · simp [h0]
  · have hpos : value > 0 := Nat.pos_of_ne_zero h0
    simp only [hpos, h0, if_true, if_false]
    show (subS 16 (value : Int) 1 >>= fun a => mulS 16 (if sign == 0 then 25 else -25) a >>= fun b =>
      pure (some b)) = _
    have hc : (if sign == 0 then (25 : Int) else -25) = 25 ∨ (if sign == 0 then (25 : Int) else -25) = -25 := by
      split <;> simp
    rcases hc with hc | hc <;>
      rw [hc, subS16_ok (by omega) (by omega), Outcome.bind_ok', mulS16_ok (by omega) (by omega),
        Outcome.bind_ok'] <;> rfl

theorem airspeedSub_eq (value : Nat) :
    airspeedSub value = .ok (if value = 0 then none else some (value - 1)) := by
  unfold airspeedSub
  by_cases h0 : value = 0
  · simp [h0]
  · simp only [beq_iff_eq, h0, if_false]
    show (subU value 1 >>= fun a => pure (some a)) = _
    rw [subU_ok (by omega), Outcome.bind_ok']; rfl

theorem airspeedSuper_eq (value : Nat) (hv : value < 2 ^ 14) :
    airspeedSuper value = .ok (if value = 0 then none else some (4 * (value - 1))) := by
  unfold airspeedSuper
  by_cases h0 : value = 0
  · simp [h0]
  · simp only [beq_iff_eq, h0, if_false]
    show (subU value 1 >>= fun a => mulU 16 4 a >>= fun b => pure (some b)) = _
    rw [subU_ok (by omega), Outcome.bind_ok', mulU_ok (by omega), Outcome.bind_ok']; rfl

/-! the same on the Spec's codes `n + 1` (code 0 is "no information"), in sign-and-magnitude form: direction bit
0 ↦ `+`, 1 ↦ `−` -/

theorem velComponent_code (subtype sign v lsb : Nat) (hl : velLsb subtype = lsb) (hs : sign < 2) (hv : v < 1023) :
    velComponent subtype sign (v + 1) =
      .ok (if sign = 0 then ((lsb * v : Nat) : Int) else -((lsb * v : Nat) : Int)) := by
  have e : ((v + 1 : Nat) : Int) - 1 = v := by omega
  rw [velComponent_eq subtype sign (v + 1) (by omega), hl, e, Int.natCast_mul]
  have h01 : sign = 0 ∨ sign = 1 := by omega
  rcases h01 with rfl | rfl
  · have hsv : signValue 0 = 1 := rfl
    rw [hsv, if_pos rfl, Int.mul_one, Int.mul_comm]
  · have hsv : signValue 1 = -1 := rfl
    rw [hsv, if_neg (by decide), Int.mul_neg, Int.mul_one, Int.neg_mul, Int.mul_comm]

theorem vrate_code (sign n : Nat) (hs : sign < 2) (hn : n < 511) :
    vrate sign (n + 1) = .ok (some (if sign = 0 then ((64 * n : Nat) : Int) else -((64 * n : Nat) : Int))) := by
  rw [vrate_eq sign (n + 1) (by omega), if_neg (Nat.succ_ne_zero n)]
  have h01 : sign = 0 ∨ sign = 1 := by omega
  rcases h01 with rfl | rfl
  · have hsv : signValue 0 = 1 := rfl
    rw [hsv, if_pos rfl]; congr 2; omega
  · have hsv : signValue 1 = -1 := rfl
    rw [hsv, if_neg (by decide)]; congr 2; omega

theorem geoBaro_code (sign n : Nat) (hs : sign < 2) (hn : n < 127) :
    geoBaro sign (n + 1) = .ok (some (if sign = 0 then ((25 * n : Nat) : Int) else -((25 * n : Nat) : Int))) := by
  rw [geoBaro_eq sign (n + 1) (by omega), if_neg (Nat.succ_ne_zero n)]
  have h01 : sign = 0 ∨ sign = 1 := by omega
  rcases h01 with rfl | rfl
  · have hc : (if (0 : Nat) == 0 then (25 : Int) else -25) = 25 := rfl
    rw [hc, if_pos rfl]; congr 2; omega
  · have hc : (if (1 : Nat) == 0 then (25 : Int) else -25) = -25 := rfl
    rw [hc, if_neg (by decide)]; congr 2; omega

end Bds09

namespace Bds62

/-- `((altitude - 1) * 32 + 16) / 100 * 100` stays inside the `u16` for every 11-bit code -/
theorem selectedAltitude_eq (a : Nat) (ha : a < 2 ^ 11) :
    selectedAltitude a = .ok (if a = 0 then none else some (((a - 1) * 32 + 16) / 100 * 100)) := by
  unfold selectedAltitude
  by_cases h0 : a = 0
  · simp [h0]
  · have hpos : a > 0 := Nat.pos_of_ne_zero h0
    simp only [hpos, h0, if_true, if_false]
    show (subU a 1 >>= fun x => mulU 16 x 32 >>= fun b => addU 16 b 16 >>= fun c => divU c 100 >>= fun d =>
      mulU 16 d 100 >>= fun e => pure (some e)) = _
    rw [subU_ok (by omega), Outcome.bind_ok', mulU_ok (by omega), Outcome.bind_ok', addU_ok (by omega),
      Outcome.bind_ok', divU_ok (by decide), Outcome.bind_ok', mulU_ok (by omega), Outcome.bind_ok']
    rfl

theorem barometricSetting_eq (q : Nat) :
    barometricSetting q = .ok (if q = 0 then none else some (qnhF32Num q, qnhDen)) := by
  unfold barometricSetting
  by_cases h0 : q = 0
  · simp [h0]
  · simp only [beq_iff_eq, h0, if_false]
    show (subU q 1 >>= fun _ => pure (some (qnhF32Num q, qnhDen))) = _
    rw [subU_ok (by omega), Outcome.bind_ok']; rfl

end Bds62

namespace Bds40

/-- `(value * 16 + 8) / 100 * 100` stays inside the `u16` for every 12-bit code -/
theorem selectedAlt_true (v : Nat) (hv : v < 2 ^ 12) :
    selectedAlt true v =
      if (v * 16 + 8) / 100 * 100 > 45000 then .err .assertion else .ok (some ((v * 16 + 8) / 100 * 100)) := by
  show (mulU 16 v 16 >>= fun a => addU 16 a 8 >>= fun b => divU b 100 >>= fun q => mulU 16 q 100 >>= fun r =>
    if r > 45000 then .err .assertion else .ok (some r)) = _
  rw [mulU_ok (by omega), Outcome.bind_ok', addU_ok (by omega), Outcome.bind_ok', divU_ok (by decide),
    Outcome.bind_ok', mulU_ok (by omega), Outcome.bind_ok']

end Bds40

namespace Bds50

theorem signed_eq (half : Int) (sign value : Nat) (h1 : -32768 ≤ (value : Int) - half)
    (h2 : (value : Int) - half < 32768) :
    signed half sign value = .ok (if sign == 1 then (value : Int) - half else value) := by
  unfold signed
  split
  · exact subS16_ok h1 h2
  · rfl

theorem absS16_ok (x : Int) (h : -32768 < x) : absS16 x = .ok (Int.ofNat x.natAbs) := by
  unfold absS16; rw [if_neg (by simp only [beq_iff_eq]; omega)]

/-- `sign > 0` and `sign == 1` are the same test on a sign bit -/
theorem rollNum_of_bit (sign value : Nat) (hs : sign < 2 ^ 1) :
    rollNum sign value = if sign == 1 then (value : Int) - 512 else value := by
  have h : sign = 0 ∨ sign = 1 := by omega
  rcases h with rfl | rfl <;> rfl

theorem roll_true (sign value : Nat) :
    roll true sign value =
      if (rollNum sign value).natAbs * 45 > 12800 then .err .assertion else .ok (some (rollNum sign value)) :=
  rfl

theorem track_true (sign value : Nat) (hv : value < 2 ^ 15) :
    track true sign value = .ok (some (angleNum (if sign == 1 then (value : Int) - 1024 else value))) := by
  show (signed 1024 sign value >>= fun v => .ok (some (angleNum v))) = _
  rw [signed_eq 1024 sign value (by omega) (by omega), Outcome.bind_ok']

theorem groundspeed_true (v : Nat) (hv : v < 2 ^ 15) :
    groundspeed true v = if v * 2 > 600 then .err .assertion else .ok (some (v * 2)) := by
  show (mulU 16 v 2 >>= fun gs => if gs > 600 then .err .assertion else .ok (some gs)) = _
  rw [mulU_ok (by omega), Outcome.bind_ok']

end Bds50

namespace Bds60

/-- `read_heading` is `read_track` of BDS 5,0, definition by definition -/
theorem heading_eq_track : heading = Bds50.track := rfl

theorem ias_true (v : Nat) : ias true v = if v == 0 || v > 500 then .err .assertion else .ok (some v) := rfl

/-- the rate before the limit test: `32 * (value as i16 - 512)` with the sign bit set, `32 * value as i16` without -/
def vertNum (sign value : Nat) : Int := (if sign == 1 then (value : Int) - 512 else value) * 32

/-- `read_vertical` on every 9-bit code: the product stays inside the `i16` and is not `i16::MIN` -/
theorem vertical_true (sign value : Nat) (hv : value < 2 ^ 9) :
    vertical true sign value =
      if value == 0 || value == 511 then .ok (some 0)
      else if (vertNum sign value).natAbs > 6000 then .err .assertion else .ok (some (vertNum sign value)) := by
  -- `Bds60.absS16` is `Bds50.absS16` word for word
  have habs : ∀ x : Int, -32768 < x → absS16 x = .ok (Int.ofNat x.natAbs) := Bds50.absS16_ok
  have hlim : ∀ x : Int, (if Int.ofNat x.natAbs > 6000 then Outcome.err .assertion else .ok (some x)) =
      if x.natAbs > 6000 then Outcome.err .assertion else .ok (some x) := by
    intro x
    rw [Int.ofNat_eq_natCast]
    by_cases h : x.natAbs > 6000
    · rw [if_pos h, if_pos (by omega)]
    · rw [if_neg h, if_neg (by omega)]
  unfold vertical vertNum
  simp only [Bool.not_true, Bool.false_eq_true, if_false]
  split
  · rfl
  · split
    · show (subS 16 (value : Int) 512 >>= fun d => mulS 16 d 32 >>= fun v => absS16 v >>= fun a =>
        if a > 6000 then .err .assertion else .ok (some v)) = _
      rw [subS16_ok (by omega) (by omega), Outcome.bind_ok', mulS16_ok (by omega) (by omega), Outcome.bind_ok',
        habs _ (by omega), Outcome.bind_ok']
      exact hlim _
    · show (mulS 16 (value : Int) 32 >>= fun v => absS16 v >>= fun a =>
        if a > 6000 then .err .assertion else .ok (some v)) = _
      rw [mulS16_ok (by omega) (by omega), Outcome.bind_ok', habs _ (by omega), Outcome.bind_ok']
      exact hlim _

end Bds60

end Rs1090.Model
