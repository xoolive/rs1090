/-
From the frame decoder to the entry points: `decodeBuf` is the checksum, the DF 17 gate and the parser
(`CrcGate.decodeBuf_eq_bind`), so what `df_spec` says of the parser holds of every accepted buffer
(`decodeBuf_spec`); with the characterisation of `tryFrom` (`CrcGate.lean`), what follows for every accepted
frame (`tryFrom_good`; `tryFrom_last_icao` for the address/parity formats), and one frame of the repository's tests.
-/
import Rs1090.Proofs.Decode.Message
import Rs1090.Proofs.CrcGate
namespace Rs1090.Model.Message
open Rs1090 Rs1090.Model Rs1090.Model.Filters
open Rs1090.Proofs.Crc (parseDF decodeBuf_eq_bind)

/-- `df_spec` read on the run that `decodeBuf` makes of the parser -/
theorem parseDF_spec (crc : Nat) (bs : List Nat) :
    (parseDF crc bs).isPanic = false ∧ ∀ r, parseDF crc bs = .ok r → DfGood crc bs r := by
  have h := df_spec crc bs
  unfold wp at h
  unfold parseDF R.run
  cases hr : df crc (Rd.init bs) with
  | ok v => rw [hr] at h; exact ⟨rfl, fun r e => by cases e; exact h⟩
  | err e => exact ⟨rfl, fun r e => by cases e⟩
  | panic x => rw [hr] at h; exact h.elim

theorem decodeBuf_noPanic (b0 : Nat) (buf : List Nat) (h : ∀ b ∈ buf, b < 256) :
    (decodeBuf b0 buf).isPanic = false := by
  rw [decodeBuf_eq_bind]
  refine Outcome.bind_noPanic (Proofs.Crc.modesChecksum_noPanic buf (frameBits b0) h) fun crc => ?_
  split
  · rfl
  · exact (parseDF_spec crc buf).1

theorem decodeBuf_spec {b0 : Nat} {bs : List Nat} {r : SerFields} (h : decodeBuf b0 bs = .ok r) :
    ∃ crc, modesChecksum bs (frameBits b0) = .ok crc ∧ ((b0 >>> 3) == 17 && crc > 0) = false ∧ DfGood crc bs r := by
  rw [decodeBuf_eq_bind] at h
  obtain ⟨crc, hcrc, hp⟩ := Outcome.bind_eq_ok h
  by_cases hg : ((b0 >>> 3) == 17 && crc > 0) = true
  · rw [if_pos hg] at hp; cases hp
  · rw [if_neg hg] at hp
    exact ⟨crc, hcrc, Bool.eq_false_iff.mpr hg, (parseDF_spec crc bs).2 r hp⟩

/-- everything `Message.tryFrom` accepts is one JSON object: it serialises (no serde error), no
    object at any depth repeats a key, every number is finite, and every quantity of the C08 table
    is inside its physical range -/
theorem tryFrom_good (bs : List Nat) (d : Decoded) (h : tryFrom bs = .ok d) :
    ∃ kvs, d = .json (.obj kvs) ∧ (keyIds kvs).Nodup ∧ Json.wfObj kvs = true ∧ Json.inRangeObj kvs = true ∧
      ∀ k ∈ keyIds kvs, k ∉ timedKeys := by
  obtain ⟨b0, rest, v, rfl, _, hv, rfl⟩ := tryFrom_ok_iff.mp h
  obtain ⟨_, _, _, hg, _⟩ := decodeBuf_spec hv
  obtain ⟨fs, rfl, hn, ha, hw⟩ := hg.serGood
  exact ⟨fs.toObj, rfl, hn, hw, hg.rangeGood fs rfl, ha⟩

/-- the DF17 identification frame of the repository's tests (`8d406b902015a678d4d220aa4bda`) decodes to an
    object -/
theorem tryFrom_test_json :
    ∃ kvs, tryFrom [0x8d,0x40,0x6b,0x90,0x20,0x15,0xa6,0x78,0xd4,0xd2,0x20,0xaa,0x4b,0xda] = .ok (.json (.obj kvs)) := by
  have h : (tryFrom [0x8d,0x40,0x6b,0x90,0x20,0x15,0xa6,0x78,0xd4,0xd2,0x20,0xaa,0x4b,0xda]).isOk = true := by
    decide +kernel
  cases hd : tryFrom [0x8d,0x40,0x6b,0x90,0x20,0x15,0xa6,0x78,0xd4,0xd2,0x20,0xaa,0x4b,0xda] with
  | ok d => obtain ⟨kvs, rfl, _⟩ := tryFrom_good _ d hd; exact ⟨kvs, rfl⟩
  | err e => rw [hd] at h; cases h
  | panic x => rw [hd] at h; cases h

end Rs1090.Model.Message

namespace Rs1090.Proofs.Crc
open Rs1090 Rs1090.Spec.Crc Rs1090.Model Rs1090.Model.Message

/-- the address/parity formats report the remainder of the frame, as the last entry of the object -/
theorem tryFrom_last_icao (b0 : Nat) (rest : List Nat) (hlen : 8 * (b0 :: rest).length = frameBits b0)
    (hb : Bytes (b0 :: rest))
    (hdf : b0 >>> 3 = 0 ∨ b0 >>> 3 = 4 ∨ b0 >>> 3 = 5 ∨ b0 >>> 3 = 16 ∨ b0 >>> 3 = 20 ∨ b0 >>> 3 = 21)
    (j : Json) (h : tryFrom (b0 :: rest) = .ok (.json j)) :
    ∃ kvs, j = .obj kvs ∧
      kvs.getLast? = some (key! "icao24", jhex6 (polyMod (Spec.Crc.bits (b0 :: rest))).toNat) := by
  obtain ⟨_, _, r, e, _, hr, hd⟩ := tryFrom_ok_iff.mp h
  cases e
  obtain ⟨crc, hcrc, _, _, v, hv, hs⟩ := decodeBuf_spec hr
  have h3 : 3 ≤ (b0 :: rest).length := by
    unfold frameBits at hlen; split at hlen <;> omega
  rw [← hlen, modesChecksum_eq _ h3 hb] at hcrc
  cases hcrc
  cases r with
  | error e => cases hd
  | ok fs =>
    cases hd
    -- the six formats are those whose view carries the remainder, which `Shows` puts last
    have hlast : fs.getLast? = some (key! "icao24", some (jhex6 (polyMod (Spec.Crc.bits (b0 :: rest))).toNat)) := by
      unfold Filters.hdrView at hv
      rw [bitsBE_df b0 rest (hb b0 List.mem_cons_self)] at hv
      rcases hdf with h | h | h | h | h | h <;> (rw [h] at hv; cases hv; exact (hs fs rfl).2)
    obtain ⟨ini, rfl⟩ := List.getLast?_eq_some_iff.1 hlast
    exact ⟨_, rfl, by simp [Fields.toObj]⟩

end Rs1090.Proofs.Crc
