import Rs1090.Proofs.Decode.Bds08
import Rs1090.Model.Decode.Bds20
namespace Rs1090.Model.Bds20
open Rs1090 Rs1090.Model

theorem failIfNot20_noPanic (v : Nat) : (failIfNot20 v).isPanic = false := by
  unfold failIfNot20; split <;> rfl

theorem read_good : ReadsGood [] read := by
  intro s
  unfold read
  wp_run
  apply wp_lift_of (failIfNot20_noPanic _); intro _ _
  rw [wp_bind]; apply Bds08.callsign_wp; intro cs s' hcs
  wp_run
  refine ⟨_, rfl, rfl, ?_⟩
  entrywise
  exact ⟨rfl, entryGood_spec _ _ _ rfl rfl hcs⟩

theorem read_noPanic : NoPanic read := read_good.noPanic

theorem read_serGood : ∀ s, wp read (fun r _ => SerGood [] r) s := read_good.serGood

theorem read_rangeGood : ∀ s, wp read (fun r _ => RangeGood r) s := read_good.rangeGood

end Rs1090.Model.Bds20
