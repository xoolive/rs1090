/-
BDS 3,0 reader: the flattened untagged `ThreatType` in its three serialised shapes inside the
register's own fields; `threat_bearing` ∈ [0, 360).
-/
import Rs1090.Proofs.Decode.FieldsLemmas
import Rs1090.Model.Decode.Bds30
import Rs1090.Proofs.Altitude
namespace Rs1090.Model.Bds30
open Rs1090 Rs1090.Model

theorem failIfNot30_noPanic (v : Nat) : (failIfNot30 v).isPanic = false := by
  unfold failIfNot30; split <;> rfl

/-- `6 * (n - 1) + 3` for `1 ≤ n ≤ 60` neither overflows `u16` nor reaches 360 (after the repair of /repo; the
    original code had no upper test and gave 363, 369, 375 for the codes 61..63) -/
theorem threatBearing_spec (n : Nat) : (threatBearing n).okAnd (optAll fun c => decide (c < 360)) = true := by
  unfold threatBearing
  split
  · rfl
  · rename_i h
    simp only [Bool.or_eq_true, beq_iff_eq, decide_eq_true_eq, not_or, Nat.not_lt] at h
    rw [subU_ok (by omega), Outcome.bind_ok', mulU_ok (by omega), Outcome.bind_ok', addU_ok (by omega), Outcome.bind_ok',
      Outcome.pure_eq]
    simp only [Outcome.okAnd, optAll, decide_eq_true_eq]
    omega

theorem threatRange_good (k : Key) (n : Nat) (hk : specFor k.id = none) : entryGood (k, threatRange n) = true := by
  refine entryGood_opt _ _ fun v h => ?_
  unfold threatRange at h
  split at h <;> cases h
  exact entryGood_free _ _ hk rfl rfl

/-- keys of the register itself, which the flattened threat type must not repeat -/
def ownKeys : List Nat :=
  (key! "bds").id :: (ownFields false none none none none none none none none none none false false).ids

theorem threatType_good : ReadsGood ownKeys threatType := by
  intro s
  unfold threatType
  rw [wp_bind]; apply wp_enumId_any; intro id s1 _
  wp_if h1
  · wp_run
    exact ⟨_, rfl, rfl, rfl⟩
  wp_if h2
  · wp_run
    apply wp_lift_of_ok (Proofs.Altitude.ac13_ok _); intro alt _
    wp_run
    apply wp_lift_okAnd (threatBearing_spec _); intro ob hob
    wp_run
    refine ⟨_, rfl, rfl, ?_⟩
    entrywise
    refine ⟨rfl, threatRange_good _ _ rfl, entryGood_map _ _ _ fun c hc => entryGood_spec _ _ _ rfl rfl ?_⟩
    have := optAll_some hob hc
    simp only [decide_eq_true_eq] at this
    simp only [Constraint.holds, jnat, ratIn, Bool.false_eq_true, if_false, if_true, decide_eq_true_eq,
      Bool.and_eq_true, bne_iff_ne]
    omega
  · wp_run
    exact ⟨_, rfl, FieldsGood.nil _⟩

theorem optFlag_good (k : Key) (v : Option Bool) (hk : specFor k.id = none) : entryGood (optFlag k v) = true :=
  entryGood_map _ _ _ fun _ _ => entryGood_free _ _ hk rfl rfl

theorem read_good : ReadsGood [] read := by
  intro s
  unfold read araBit
  wp_run
  apply wp_lift_of (failIfNot30_noPanic _); intro _ _
  rw [wp_bind]; apply wp_flag_any; intro issued s1
  wp_run
  refine wp_mono (threatType_good _) ?_
  intro tt s' htt
  rw [wp_pure]
  obtain ⟨fs, rfl, hfs⟩ := htt
  refine ⟨_, rfl, hfs.prepend
    (pre := fld (key! "bds") (.lit (key! "30")) :: ownFields issued _ _ _ _ _ _ _ _ _ _ _ _) ⟨rfl, ?_⟩ rfl⟩
  unfold ownFields
  entrywise
  exact ⟨rfl, rfl, optFlag_good _ _ rfl, optFlag_good _ _ rfl, optFlag_good _ _ rfl, optFlag_good _ _ rfl,
    optFlag_good _ _ rfl, optFlag_good _ _ rfl, optFlag_good _ _ rfl, optFlag_good _ _ rfl, optFlag_good _ _ rfl,
    optFlag_good _ _ rfl, rfl, rfl⟩

theorem read_noPanic : NoPanic read := read_good.noPanic

theorem read_serGood : ∀ s, wp read (fun r _ => SerGood [] r) s := read_good.serGood

theorem read_rangeGood : ∀ s, wp read (fun r _ => RangeGood r) s := read_good.rangeGood

end Rs1090.Model.Bds30
