/-
BDS 6,0 heading and speed report.  `heading` is BDS 5,0's `track`; `ias` and `mach` are tests without
arithmetic; the vertical rates are `vertical_true` (Conversions.lean).
-/
import Rs1090.Proofs.Decode.Bds50
import Rs1090.Model.Decode.Bds60
namespace Rs1090.Model.Bds60
open Rs1090 Rs1090.Model

/-- accepted heading: `0 ≤ n/512 < 360` -/
theorem heading_spec (st : Bool) (sg v : Nat) (hv : v < 2 ^ 10) :
    (heading st sg v).okAnd (optAll fun n => decide (0 ≤ n) && decide (n < 360 * 512)) = true :=
  heading_eq_track ▸ Bds50.track_spec st sg v hv

theorem ias_noPanic (st : Bool) (v : Nat) : (ias st v).isPanic = false := by
  unfold ias
  split
  · split <;> rfl
  · split <;> rfl

/-- accepted Mach code: 1 … 250, i.e. `0 < Mach ≤ 1`, whatever the IAS -/
theorem mach_spec (iasV : Option Nat) (st : Bool) (v : Nat) :
    (mach iasV st v).okAnd (optAll fun m => decide (1 ≤ m) && decide (m ≤ 250)) = true := by
  unfold mach
  split
  · split <;> rfl
  · split
    · rfl
    · rename_i h
      have hb : 1 ≤ v ∧ v ≤ 250 := by
        simp only [machEq0, machGt1, Bool.or_eq_true, beq_iff_eq, decide_eq_true_eq, not_or] at h
        omega
      have hok : (Outcome.ok (some v)).okAnd (optAll fun m => decide (1 ≤ m) && decide (m ≤ 250)) = true := by
        simp only [Outcome.okAnd, optAll, Bool.and_eq_true, decide_eq_true_eq]; exact hb
      cases iasV with
      | none => exact hok
      | some i =>
        simp only []
        split
        · rfl
        · split
          · rfl
          · exact hok

/-- accepted vertical rate: a multiple of 32 ft/min within ±6000 -/
theorem vertical_spec (st : Bool) (sg v : Nat) (hv : v < 2 ^ 9) :
    (vertical st sg v).okAnd
      (optAll fun x => decide (x % 32 = 0) && decide (-6000 ≤ x) && decide (x ≤ 6000)) = true := by
  cases st
  · show (if sg != 0 || v != 0 then Outcome.err .assertion else .ok none).okAnd _ = true
    split <;> rfl
  · rw [vertical_true sg v hv]
    have h32 : vertNum sg v % 32 = 0 := by unfold vertNum; omega
    split
    · rfl
    · split
      · rfl
      · simp only [Outcome.okAnd, optAll, Bool.and_eq_true, decide_eq_true_eq]; omega

theorem readVertical_wp (Q : Option Int → Rd → Prop) (s : Rd)
    (h : ∀ o s', optAll (fun x => decide (x % 32 = 0) && decide (-6000 ≤ x) && decide (x ≤ 6000)) o = true → Q o s') :
    wp readVertical Q s := by
  unfold readVertical
  wp_run
  apply wp_lift_okAnd (vertical_spec _ _ _ (by assumption)); intro o ho
  exact h _ _ ho

/-- `vrate_*` entries: a multiple of 32 within the table's ±16352 -/
theorem vrate_good (k : Key) (hk : specFor k.id = some (.multiple 32 (-16352) 16352)) (o : Option Int)
    (ho : optAll (fun x => decide (x % 32 = 0) && decide (-6000 ≤ x) && decide (x ≤ 6000)) o = true) :
    entryGood (k, o.map jint) = true := by
  refine entryGood_map _ _ _ fun x hx => entryGood_spec _ _ _ hk rfl ?_
  have := optAll_some ho hx
  simp only [Bool.and_eq_true, decide_eq_true_eq] at this
  exact holds_multiple_jint _ _ _ _ this.1.1 (by omega) (by omega)

theorem read_good : ReadsGood [] read := by
  intro s
  unfold read
  wp_run
  apply wp_lift_okAnd (heading_spec _ _ _ (by assumption)); intro hdg hhdg
  wp_run
  apply wp_lift_of (ias_noPanic _ _); intro iasV _
  wp_run
  apply wp_lift_okAnd (mach_spec iasV _ _); intro m hm
  rw [wp_bind]; apply readVertical_wp; intro baro s1 hbaro
  rw [wp_bind]; apply readVertical_wp; intro inertial s2 hinertial
  wp_run
  refine ⟨_, rfl, rfl, ?_⟩
  entrywise
  refine ⟨rfl, entryGood_map _ _ _ fun n hn => entryGood_spec _ _ _ rfl rfl ?_,
    entryGood_map _ _ _ fun _ _ => entryGood_spec _ _ _ rfl rfl (holds_nonneg_jnat _),
    ?_, vrate_good _ rfl _ hbaro, vrate_good _ rfl _ hinertial⟩
  · have := optAll_some hhdg hn
    simp only [Bool.and_eq_true, decide_eq_true_eq] at this
    exact holds_range_jrat _ _ _ _ _ (by decide) (by omega) (by simp; omega)
  -- the Mach code is a `Nat` lifted to `Option Int`: by cases
  · cases m with
    | none => rfl
    | some a =>
      simp only [optAll, Bool.and_eq_true, decide_eq_true_eq] at hm
      refine entryGood_spec _ _ _ rfl rfl ?_
      simp [Constraint.holds, jrat, ratIn]
      omega

theorem read_noPanic : NoPanic read := read_good.noPanic

theorem read_serGood (s : Rd) : wp read (fun r _ => SerGood [] r) s := read_good.serGood s

theorem read_rangeGood (s : Rd) : wp read (fun r _ => RangeGood r) s := read_good.rangeGood s

end Rs1090.Model.Bds60
