import Rs1090.Proofs.Decode.FieldsLemmas
import Rs1090.Model.Decode.Bds06
namespace Rs1090.Model.Bds06
open Rs1090 Rs1090.Model

theorem groundspeed_table : ∀ mov, mov < 2 ^ 7 →
    optAll (fun j => j.wf && Constraint.nonneg.holds j) (groundspeed mov) = true :=
  forall_lt_of_sweep 7 (by decide +kernel)

theorem groundspeed_good (mov : Nat) (hm : mov < 2 ^ 7) (v : Json) (h : groundspeed mov = some v) :
    v.wf = true ∧ Constraint.nonneg.holds v = true := by
  have := optAll_some (groundspeed_table mov hm) h
  simpa only [Bool.and_eq_true] using this

/-- BDS 0,6 computes `14 - tc` on a `u8`: panic-free exactly when the type code it reads is ≤ 14
    (the `ME` dispatch only sends type codes 5..8 here).  Serialisation and ranges do not depend on
    the type code. -/
theorem read_good (s : Rd) (h : bitsBE s.bytes s.p 5 ≤ 14) : wp read (fun r _ => ReadGood outerKeys r) s := by
  unfold read
  rw [wp_bind, wp_bits_pos 5 (by decide)]; intro _
  rw [wp_bind]
  apply wp_lift_of (by rw [subU_ok h]; rfl); intro nuc _
  wp_run
  refine ⟨_, rfl, rfl, ?_⟩
  entrywise
  refine ⟨rfl, rfl,
    entryGood_opt _ _ fun v hv =>
      entryGood_spec _ _ _ rfl (groundspeed_good _ (by assumption) v hv).1 (groundspeed_good _ (by assumption) v hv).2,
    entryGood_ite _ _ _ fun _ => entryGood_spec _ _ _ rfl rfl ?_, rfl,
    entryGood_spec _ _ _ rfl rfl (holds_below _ _ (by assumption)),
    entryGood_spec _ _ _ rfl rfl (holds_below _ _ (by assumption)), rfl, rfl⟩
  simp [jrat, Constraint.holds, ratIn]; omega

theorem read_serGood (s : Rd) (h : bitsBE s.bytes s.p 5 ≤ 14) : wp read (fun r _ => SerGood outerKeys r) s :=
  wp_mono (read_good s h) fun _ _ hr => hr.serGood

theorem read_rangeGood (s : Rd) (h : bitsBE s.bytes s.p 5 ≤ 14) : wp read (fun r _ => RangeGood r) s :=
  wp_mono (read_good s h) fun _ _ hr => hr.rangeGood

end Rs1090.Model.Bds06
