/-
BDS 1,8 reader: a row of 56 one-bit flags; the generic facts are in Proofs/Decode/Bds17.lean.
-/
import Rs1090.Proofs.Decode.Bds17
import Rs1090.Model.Decode.Bds18
namespace Rs1090.Model.Bds18
open Rs1090 Rs1090.Model Rs1090.Model.Gicb

theorem keys_nodup : decide (((key! "bds").id :: flags.map (·.1.id)).Nodup) = true := by decide +kernel

theorem keys_unconstrained :
    ((key! "bds").id :: flags.map (·.1.id)).all (fun k => (specFor k).isNone) = true := by decide +kernel

theorem read_good : ReadsGood [] read := by
  intro s
  unfold read
  rw [wp_bind]; apply readFlags_wp; intro fs s1 hfs
  wp_run
  exact flagsReg_good _ _ flags fs hfs keys_nodup keys_unconstrained

theorem read_noPanic : NoPanic read := read_good.noPanic

theorem read_serGood : ∀ s, wp read (fun r _ => SerGood [] r) s := read_good.serGood

theorem read_rangeGood : ∀ s, wp read (fun r _ => RangeGood r) s := read_good.rangeGood

end Rs1090.Model.Bds18
