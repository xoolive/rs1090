/-
BDS 1,7 reader, and the flag-list reader shared with BDS 1,8 / 1,9: a register that is a row of
one-bit flags is good as soon as its static key list (tag included) has no duplicate and no key of
the C08 table.
-/
import Rs1090.Proofs.Decode.FieldsLemmas
import Rs1090.Model.Decode.Bds17

namespace Rs1090.Model.Gicb
open Rs1090 Rs1090.Model

theorem applyRule_noPanic (r : Rule) (v : Bool) : (applyRule r v).isPanic = false := by
  cases r <;> cases v <;> rfl

def FlagFields (l : List (Key × Rule)) (fs : Fields) : Prop :=
  fs.ids = l.map (·.1.id) ∧ ∀ f ∈ fs, f.2 = none ∨ f.2 = some (.bool true)

theorem flagField_snd (k : Key) (v : Bool) :
    (flagField k v).2 = none ∨ (flagField k v).2 = some (.bool true) := by
  cases v
  · left; rfl
  · right; rfl

theorem readFlags_wp (l : List (Key × Rule)) (Q : Fields → Rd → Prop) (s : Rd)
    (h : ∀ fs s', FlagFields l fs → Q fs s') : wp (readFlags l) Q s := by
  induction l generalizing Q s with
  | nil =>
    unfold readFlags; rw [wp_pure]
    exact h _ _ ⟨rfl, fun f hf => by cases hf⟩
  | cons kr rest ih =>
    rcases kr with ⟨k, r⟩
    unfold readFlags
    rw [wp_bind]; apply wp_flag_any; intro v s1
    rw [wp_bind]; apply wp_lift_of (applyRule_noPanic r v); intro v' _
    rw [wp_bind]; apply ih; intro fs s2 hfs
    rw [wp_pure]; apply h
    refine ⟨?_, ?_⟩
    · rw [Fields.ids_cons, hfs.1]; rfl
    · intro f hf
      rcases List.mem_cons.mp hf with rfl | hf
      · exact flagField_snd k v'
      · exact hfs.2 f hf

theorem readFlags_noPanic (l : List (Key × Rule)) : NoPanic (readFlags l) :=
  fun s => readFlags_wp l _ s (fun _ _ _ => trivial)

theorem flagsReg_good (tag name : Key) (l : List (Key × Rule)) (fs : Fields) (h : FlagFields l fs)
    (hnd : decide ((tag.id :: l.map (·.1.id)).Nodup) = true)
    (hsp : (tag.id :: l.map (·.1.id)).all (fun k => (specFor k).isNone) = true) :
    ReadGood [] (tagged tag name (.ok fs)) := by
  have hids : Fields.ids (fld tag (.lit name) :: fs) = tag.id :: l.map (·.1.id) := by
    rw [Fields.ids_cons, h.1]; rfl
  have hval : ∀ f ∈ fld tag (.lit name) :: fs, ∀ v, f.2 = some v → v.wf = true ∧ v.inRange = true := by
    intro f hf v hv
    rcases List.mem_cons.mp hf with rfl | hf
    · cases hv; exact ⟨rfl, rfl⟩
    · rcases h.2 f hf with e | e <;> rw [e] at hv <;> cases hv
      exact ⟨rfl, rfl⟩
  refine ⟨_, rfl, idsOk_of (hids ▸ of_decide_eq_true hnd) (fun _ _ => List.not_mem_nil), ?_⟩
  refine List.all_eq_true.mpr fun f hf =>
    entryGood_opt f.1 f.2 fun v hv => entryGood_free _ _ ?_ (hval f hf v hv).1 (hval f hf v hv).2
  have hid : f.1.id ∈ tag.id :: l.map (·.1.id) := hids ▸ List.mem_map_of_mem hf
  simpa using List.all_eq_true.mp hsp _ hid

end Rs1090.Model.Gicb

namespace Rs1090.Model.Bds17
open Rs1090 Rs1090.Model Rs1090.Model.Gicb

theorem checkZeros_wp (l : List Nat) (Q : Bool → Rd → Prop) (s : Rd)
    (h : ∀ b s', Q b s') : wp (checkZeros l) Q s := by
  induction l generalizing s with
  | nil => unfold checkZeros; rw [wp_pure]; exact h _ _
  | cons n rest ih =>
    unfold checkZeros
    rw [wp_bind]; apply wp_bits_any; intro v s1 _
    wp_if hv
    · rw [wp_fail]; trivial
    · exact ih s1

theorem keys_nodup : decide (((key! "bds").id :: flags.map (·.1.id)).Nodup) = true := by decide +kernel

theorem keys_unconstrained :
    ((key! "bds").id :: flags.map (·.1.id)).all (fun k => (specFor k).isNone) = true := by decide +kernel

theorem read_good : ReadsGood [] read := by
  intro s
  unfold read
  rw [wp_bind]; apply readFlags_wp; intro fs s1 hfs
  wp_run
  apply checkZeros_wp; intro _ _
  wp_run
  exact flagsReg_good _ _ flags fs hfs keys_nodup keys_unconstrained

theorem read_noPanic : NoPanic read := read_good.noPanic

theorem read_serGood : ∀ s, wp read (fun r _ => SerGood [] r) s := read_good.serGood

theorem read_rangeGood : ∀ s, wp read (fun r _ => RangeGood r) s := read_good.rangeGood

end Rs1090.Model.Bds17
