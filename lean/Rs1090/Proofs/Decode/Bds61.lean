import Rs1090.Proofs.Decode.FieldsLemmas
import Rs1090.Model.Decode.Bds61
import Rs1090.Proofs.Altitude
namespace Rs1090.Model.Bds61
open Rs1090 Rs1090.Model

/-- every 13-bit identity field prints as four octal digits: each hex digit of `decodeId13` is at most 7 -/
theorem squawk_octal (raw : Nat) (h : raw < 2 ^ 13) :
    Constraint.holds .octal4 (jhex4 (squawk raw)) = true := by
  obtain ⟨h3, h2, h1, h0, _⟩ := Proofs.Altitude.decodeId13_octal raw h
  simp only [Nat.shiftRight_eq_div_pow] at h3 h2 h1
  exact holds_octal4_jhex4 (decodeId13 raw) h3 h2 h1 (by simpa using h0)

theorem read_good : ReadsGood outerKeys read := by
  intro s
  unfold read
  wp_run
  refine ⟨_, rfl, rfl, ?_⟩
  entrywise
  exact ⟨rfl, rfl, entryGood_spec _ _ _ rfl rfl (squawk_octal _ (by assumption))⟩

theorem read_noPanic : NoPanic read := read_good.noPanic

theorem read_serGood : ∀ s, wp read (fun r _ => SerGood outerKeys r) s := read_good.serGood

theorem read_rangeGood : ∀ s, wp read (fun r _ => RangeGood r) s := read_good.rangeGood

end Rs1090.Model.Bds61
