/-
"This field list serialises well and is in range", as a statement about the *entries* of the list:
`FieldsGood avoid fs` asks that the key ids of ALL entries (skipped or not) are pairwise distinct and
outside `avoid`, and that every present value is well formed and obeys the C08 table.  It does not
depend on which optional fields are present, so a reader proof never case-splits on them, and it is
closed under the ways readers assemble field lists (`FieldsGood.wrap`: literal fields around a
flattened payload; `tagged`).  `ReadGood avoid r` says the same of a reader's result `r`, and gives
the two post-conditions `SerGood avoid r` (C07) and `RangeGood r` (C08).
-/
import Rs1090.Proofs.Decode.Ser
namespace Rs1090.Model
open Rs1090

def Fields.ids (fs : Fields) : List Nat := fs.map (·.1.id)

def entryWf : Key × Option Json → Bool
  | (_, some j) => j.wf
  | (_, none) => true

def entryInRange : Key × Option Json → Bool
  | (k, some v) => (match specFor k.id with | some c => c.holds v | none => v.inRange)
  | (_, none) => true

theorem toObj_cons_none (k : Key) (r : Fields) : Fields.toObj ((k, none) :: r) = Fields.toObj r := rfl

theorem toObj_cons_some (k : Key) (j : Json) (r : Fields) :
    Fields.toObj ((k, some j) :: r) = (k, j) :: Fields.toObj r := rfl

theorem keyIds_toObj_sublist (fs : Fields) : (keyIds fs.toObj).Sublist fs.ids := by
  induction fs with
  | nil => exact List.Sublist.slnil
  | cons e r ih =>
    obtain ⟨k, v⟩ := e
    cases v with
    | none => exact List.Sublist.cons _ ih
    | some j => exact List.Sublist.cons_cons _ ih

def entryGood (e : Key × Option Json) : Bool := entryWf e && entryInRange e

theorem toObj_good (fs : Fields) (h : fs.all entryGood = true) :
    Json.wfObj fs.toObj = true ∧ Json.inRangeObj fs.toObj = true := by
  induction fs with
  | nil => exact ⟨rfl, rfl⟩
  | cons e r ih =>
    obtain ⟨k, v⟩ := e
    rw [List.all_cons, Bool.and_eq_true] at h
    cases v with
    | none => exact ih h.2
    | some j =>
      obtain ⟨hw, hr⟩ := Bool.and_eq_true _ _ ▸ h.1
      rw [toObj_cons_some, Json.wfObj, Json.inRangeObj, Bool.and_eq_true, Bool.and_eq_true]
      exact ⟨⟨hw, (ih h.2).1⟩, hr, (ih h.2).2⟩

/-- Boolean, so that `rfl` proves it of a list with literal keys; likewise `subIds` -/
def idsOk (avoid ids : List Nat) : Bool := decide ids.Nodup && ids.all (fun k => !avoid.contains k)

theorem idsOk_spec {avoid ids : List Nat} (h : idsOk avoid ids = true) :
    ids.Nodup ∧ ∀ k ∈ ids, k ∉ avoid := by
  unfold idsOk at h
  rw [Bool.and_eq_true] at h
  refine ⟨of_decide_eq_true h.1, fun k hk hmem => ?_⟩
  have := List.all_eq_true.mp h.2 k hk
  simp [hmem] at this

theorem idsOk_of {avoid ids : List Nat} (hn : ids.Nodup) (ha : ∀ k ∈ ids, k ∉ avoid) : idsOk avoid ids = true := by
  unfold idsOk
  rw [Bool.and_eq_true]
  refine ⟨decide_eq_true hn, List.all_eq_true.mpr fun k hk => ?_⟩
  simpa using ha k hk

def subIds (a b : List Nat) : Bool := a.all (b.contains ·)

theorem subIds_spec {a b : List Nat} (h : subIds a b = true) : ∀ k ∈ a, k ∈ b := fun k hk => by
  simpa using List.all_eq_true.mp h k hk

structure FieldsGood (avoid : List Nat) (fs : Fields) : Prop where
  ids : idsOk avoid fs.ids = true
  good : fs.all entryGood = true

def ReadGood (avoid : List Nat) (r : SerFields) : Prop := ∃ fs, r = .ok fs ∧ FieldsGood avoid fs

theorem FieldsGood.nil (avoid : List Nat) : FieldsGood avoid [] := ⟨rfl, rfl⟩

theorem FieldsGood.weaken {av av' : List Nat} {fs : Fields} (h : FieldsGood av fs) (hs : subIds av' av = true) :
    FieldsGood av' fs :=
  ⟨idsOk_of (idsOk_spec h.ids).1 fun k hk hk' => (idsOk_spec h.ids).2 k hk (subIds_spec hs k hk'), h.good⟩

theorem nodup_wrap {pre mid post : List Nat} (hlit : (pre ++ post).Nodup) (hmid : mid.Nodup)
    (hav : ∀ k ∈ mid, k ∉ pre ++ post) : (pre ++ mid ++ post).Nodup := by
  obtain ⟨n1, n2, n3⟩ := List.nodup_append.mp hlit
  refine List.nodup_append.mpr ⟨List.nodup_append.mpr ⟨n1, hmid, ?_⟩, n2, ?_⟩
  · intro a ha b hb hab
    exact hav b hb (hab ▸ List.mem_append_left _ ha)
  · intro a ha b hb hab
    rcases List.mem_append.mp ha with h | h
    · exact n3 a h b hb hab
    · exact hav a h (hab ▸ List.mem_append_right _ hb)

/-- literal fields `pre`, `post` around a payload `fs` that avoids their keys (and what they avoid) -/
theorem FieldsGood.wrap {av avI : List Nat} {pre post fs : Fields} (hfs : FieldsGood avI fs)
    (hlit : FieldsGood av (pre ++ post)) (hsub : subIds ((pre ++ post).ids ++ av) avI = true) :
    FieldsGood av (pre ++ fs ++ post) := by
  replace hsub := subIds_spec hsub
  obtain ⟨hn, ha⟩ := idsOk_spec hlit.ids
  obtain ⟨hnI, haI⟩ := idsOk_spec hfs.ids
  have hg := hlit.good
  simp only [Fields.ids, List.map_append] at hn ha haI hsub
  rw [List.all_append, Bool.and_eq_true] at hg
  refine ⟨idsOk_of ?_ ?_, ?_⟩
  · simp only [Fields.ids, List.map_append]
    exact nodup_wrap hn hnI fun k hk hm => haI k hk (hsub k (List.mem_append_left _ hm))
  · intro k hk
    simp only [Fields.ids, List.map_append, List.mem_append] at hk
    rcases hk with (hk | hk) | hk
    · exact ha k (List.mem_append_left _ hk)
    · exact fun h => haI k hk (hsub k (List.mem_append_right _ h))
    · exact ha k (List.mem_append_right _ hk)
  · simp only [List.all_append, hg.1, hg.2, hfs.good, Bool.and_self]

theorem FieldsGood.prepend {av avI : List Nat} {pre fs : Fields} (hfs : FieldsGood avI fs)
    (hlit : FieldsGood av pre) (hsub : subIds (pre.ids ++ av) avI = true) : FieldsGood av (pre ++ fs) := by
  simpa using hfs.wrap (post := []) (by simpa using hlit) (by simpa using hsub)

/-- C07: the keys of the printed object are those of the present entries, a sublist of all the key ids -/
theorem ReadGood.serGood {av : List Nat} {r : SerFields} (h : ReadGood av r) : SerGood av r := by
  obtain ⟨fs, rfl, hfs⟩ := h
  obtain ⟨hn, ha⟩ := idsOk_spec hfs.ids
  exact ⟨fs, rfl, (keyIds_toObj_sublist fs).nodup hn, fun k hk => ha k ((keyIds_toObj_sublist fs).subset hk),
    (toObj_good fs hfs.good).1⟩

/-- C08 -/
theorem ReadGood.rangeGood {r : SerFields} {av : List Nat} (h : ReadGood av r) : RangeGood r := by
  obtain ⟨fs, rfl, hfs⟩ := h
  intro fs' e
  cases e
  exact (toObj_good fs hfs.good).2

theorem ReadGood.weaken {av av' : List Nat} {r : SerFields} (h : ReadGood av r) (hs : subIds av' av = true) :
    ReadGood av' r := by
  obtain ⟨fs, rfl, hfs⟩ := h
  exact ⟨fs, rfl, hfs.weaken hs⟩

/-- `tagged`: the tag entry first; the payload must avoid the tag key (`tag.id ∈ avI`) -/
theorem ReadGood.tagged {av avI : List Nat} {tag name : Key} {inner : SerFields} (h : ReadGood avI inner)
    (htag : FieldsGood av [fld tag (.lit name)]) (hsub : subIds (tag.id :: av) avI = true) :
    ReadGood av (tagged tag name inner) := by
  obtain ⟨fs, rfl, hfs⟩ := h
  exact ⟨_, rfl, hfs.prepend htag hsub⟩

/-- what each payload reader is proved to satisfy (its `read_good`): from every state, no panic and a good result -/
def ReadsGood (avoid : List Nat) (rd : R SerFields) : Prop := ∀ s, wp rd (fun r _ => ReadGood avoid r) s

theorem ReadsGood.noPanic {av : List Nat} {rd : R SerFields} (h : ReadsGood av rd) : NoPanic rd :=
  fun s => wp_mono (h s) fun _ _ _ => trivial

theorem ReadsGood.serGood {av : List Nat} {rd : R SerFields} (h : ReadsGood av rd) (s : Rd) :
    wp rd (fun r _ => SerGood av r) s :=
  wp_mono (h s) fun _ _ hr => hr.serGood

theorem ReadsGood.rangeGood {av : List Nat} {rd : R SerFields} (h : ReadsGood av rd) (s : Rd) :
    wp rd (fun r _ => RangeGood r) s :=
  wp_mono (h s) fun _ _ hr => hr.rangeGood

@[simp] theorem Fields.ids_nil : Fields.ids [] = [] := rfl
@[simp] theorem Fields.ids_cons (e : Key × Option Json) (r : Fields) :
    Fields.ids (e :: r) = e.1.id :: Fields.ids r := rfl
@[simp] theorem fld_fst (k : Key) (v : Json) : (fld k v).1 = k := rfl
@[simp] theorem skipNone_fst (k : Key) (v : Option Json) : (skipNone k v).1 = k := rfl
@[simp] theorem fldOpt_fst (k : Key) (v : Option Json) : (fldOpt k v).1 = k := rfl

@[simp] theorem entryWf_fld (k : Key) (v : Json) : entryWf (fld k v) = v.wf := rfl
@[simp] theorem entryWf_skipNone_none (k : Key) : entryWf (skipNone k none) = true := rfl
@[simp] theorem entryWf_skipNone_some (k : Key) (v : Json) : entryWf (skipNone k (some v)) = v.wf := rfl

theorem entryGood_free (k : Key) (v : Json) (hk : specFor k.id = none) (hw : v.wf = true) (hv : v.inRange = true) :
    entryGood (k, some v) = true := by
  simp only [entryGood, entryWf, entryInRange, hk, hw, hv, Bool.and_self]

theorem entryGood_spec (k : Key) (v : Json) (c : Constraint) (hk : specFor k.id = some c) (hw : v.wf = true)
    (hv : c.holds v = true) : entryGood (k, some v) = true := by
  simp only [entryGood, entryWf, entryInRange, hk, hw, hv, Bool.and_self]

theorem entryGood_opt (k : Key) (o : Option Json) (h : ∀ v, o = some v → entryGood (k, some v) = true) :
    entryGood (k, o) = true := by
  cases o with
  | none => rfl
  | some v => exact h v rfl

theorem entryGood_map {α} (k : Key) (o : Option α) (f : α → Json)
    (h : ∀ a, o = some a → entryGood (k, some (f a)) = true) : entryGood (k, o.map f) = true := by
  cases o with
  | none => rfl
  | some a => exact h a rfl

theorem entryGood_ite (k : Key) (c : Prop) [Decidable c] (v : Json) (h : c → entryGood (k, some v) = true) :
    entryGood (k, if c then some v else none) = true := by
  split
  · exact h ‹c›
  · rfl

/-- `null` is well formed and satisfies every constraint -/
@[simp] theorem entryGood_fldOpt (k : Key) (o : Option Json) : entryGood (fldOpt k o) = entryGood (k, o) := by
  cases o with
  | some v => rfl
  | none =>
    show (match specFor k.id with | some c => c.holds .null | none => Json.null.inRange) = true
    split
    · exact holds_null _
    · rfl

@[simp] theorem wf_int (i : Int) : Json.wf (.int i) = true := by simp [Json.wf]
@[simp] theorem wf_bool (b : Bool) : Json.wf (.bool b) = true := by simp [Json.wf]
@[simp] theorem wf_num (n : Int) (d : Nat) : Json.wf (.num n d) = (d != 0) := by simp [Json.wf]

@[simp] theorem inRange_int (i : Int) : Json.inRange (.int i) = true := by simp [Json.inRange]
@[simp] theorem inRange_bool (b : Bool) : Json.inRange (.bool b) = true := by simp [Json.inRange]
@[simp] theorem inRange_num (n : Int) (d : Nat) : Json.inRange (.num n d) = true := by simp [Json.inRange]
@[simp] theorem inRange_hypot (a b : Int) : Json.inRange (.hypot a b) = true := by simp [Json.inRange]
@[simp] theorem inRange_atan2deg (a b : Int) : Json.inRange (.atan2deg a b) = true := by simp [Json.inRange]

@[simp] theorem entryInRange_none (k : Key) : entryInRange (k, none) = true := rfl
@[simp] theorem entryInRange_skipNone_none (k : Key) : entryInRange (skipNone k none) = true := rfl

/-- splits `fs.all entryGood = true` for a literal list `fs` into one conjunct per entry; `fldOpt k o` is
    reduced to the pair `(k, o)` -/
macro "entrywise" : tactic =>
  `(tactic| simp only [List.all_cons, List.all_nil, List.all_append, Bool.and_true, Bool.and_eq_true, entryGood_fldOpt])

end Rs1090.Model
