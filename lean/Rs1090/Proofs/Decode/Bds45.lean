/-
BDS 4,5 meteorological hazard report.  The `unreachable!()` arm of `read_level` is not reachable with
a 2-bit value; the other conversions are tests followed by at most one multiplication.
-/
import Rs1090.Proofs.Decode.FieldsLemmas
import Rs1090.Model.Decode.Bds45
namespace Rs1090.Model.Bds45
open Rs1090 Rs1090.Model

theorem level_spec : ∀ st v, v < 2 ^ 2 →
    (level st v).okAnd (optAll fun j => j.wf && j.inRange) = true := by
  intro st
  cases st <;> (refine forall_lt_of_sweep 2 ?_; decide +kernel)

/-- accepted temperature: `-80 ≤ q/4 ≤ 60` -/
theorem temperature_spec (st sg : Bool) (v : Nat) :
    (temperature st sg v).okAnd (optAll fun q => decide (-80 * 4 ≤ q) && decide (q ≤ 60 * 4)) = true := by
  unfold temperature
  simp only []
  split
  · split
    · rename_i h; exact h
    · rfl
  · split <;> rfl

theorem pressure_noPanic (st : Bool) (v : Nat) : (pressure st v).isPanic = false := by
  unfold pressure
  split
  · rfl
  · split <;> rfl

/-- `value * 16` on u32 cannot overflow for a 12-bit value -/
theorem height_noPanic (st : Bool) (v : Nat) (hv : v < 2 ^ 12) : (height st v).isPanic = false := by
  unfold height
  split
  · rw [mulU_ok (by omega)]; rfl
  · split <;> rfl

theorem readLevel_wp (Q : Option Json → Rd → Prop) (s : Rd)
    (h : ∀ o s', optAll (fun j => j.wf && j.inRange) o = true → Q o s') : wp readLevel Q s := by
  unfold readLevel
  wp_run
  apply wp_lift_okAnd (level_spec _ _ (by assumption)); intro o ho
  exact h _ _ ho

theorem level_good (k : Key) (hk : specFor k.id = none) {o : Option Json}
    (h : optAll (fun j => j.wf && j.inRange) o = true) : entryGood (k, o) = true :=
  entryGood_opt _ _ fun _ hv => entryGood_free _ _ hk (wf_of_good h hv) (inRange_of_good h hv)

theorem read_good : ReadsGood [] read := by
  intro s
  unfold read
  rw [wp_bind]; apply readLevel_wp; intro turb s1 hturb
  rw [wp_bind]; apply readLevel_wp; intro shear s2 hshear
  rw [wp_bind]; apply readLevel_wp; intro burst s3 hburst
  rw [wp_bind]; apply readLevel_wp; intro icing s4 hicing
  rw [wp_bind]; apply readLevel_wp; intro wake s5 hwake
  wp_run
  apply wp_lift_okAnd (temperature_spec _ _ _); intro temp htemp
  wp_run
  apply wp_lift_of (pressure_noPanic _ _); intro pres _
  wp_run
  apply wp_lift_of (height_noPanic _ _ (by assumption)); intro hgt _
  wp_run
  wp_if hres
  · wp_run
  wp_run
  refine ⟨_, rfl, rfl, ?_⟩
  entrywise
  refine ⟨rfl, level_good _ rfl hturb, level_good _ rfl hshear, level_good _ rfl hburst, level_good _ rfl hicing,
    level_good _ rfl hwake, entryGood_map _ _ _ fun q hq => entryGood_spec _ _ _ rfl rfl ?_,
    entryGood_map _ _ _ fun _ _ => rfl, entryGood_map _ _ _ fun _ _ => rfl⟩
  have := optAll_some htemp hq
  simp only [Bool.and_eq_true, decide_eq_true_eq] at this
  exact holds_range_jrat _ _ _ _ _ (by decide) (by omega) (by simp; omega)

theorem read_noPanic : NoPanic read := read_good.noPanic

theorem read_serGood (s : Rd) : wp read (fun r _ => SerGood [] r) s := read_good.serGood s

theorem read_rangeGood (s : Rd) : wp read (fun r _ => RangeGood r) s := read_good.rangeGood s

end Rs1090.Model.Bds45
