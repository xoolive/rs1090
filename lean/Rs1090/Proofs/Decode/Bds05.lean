import Rs1090.Proofs.Decode.FieldsLemmas
import Rs1090.Model.Decode.Bds05
import Rs1090.Proofs.Altitude
namespace Rs1090.Model.Bds05
open Rs1090 Rs1090.Model

theorem nuc_noPanic (tc : Nat) :
    (if tc < 19 then subU 18 tc else if (tc == 20 || tc == 21) = true then subU 29 tc else Outcome.ok 0).isPanic = false := by
  unfold subU
  split
  · rw [if_pos (by omega)]; rfl
  · split
    · rename_i h; simp at h; rw [if_pos (by omega)]; rfl
    · rfl

theorem read_good : ReadsGood outerKeys read := by
  intro s
  unfold read
  wp_run
  apply wp_lift_of (nuc_noPanic _); intro nuc _
  wp_run
  apply wp_lift_of_ok (Proofs.Altitude.ac12_ok _); intro alt _
  wp_run
  refine ⟨_, rfl, rfl, ?_⟩
  entrywise
  exact ⟨rfl, rfl, entryGood_ite _ _ _ fun _ => rfl, entryGood_map _ _ _ fun _ _ => rfl, rfl, rfl, rfl,
    entryGood_spec _ _ _ rfl rfl (holds_below _ _ (by assumption)),
    entryGood_spec _ _ _ rfl rfl (holds_below _ _ (by assumption)), rfl, rfl⟩

theorem read_noPanic : NoPanic read := read_good.noPanic

theorem read_serGood (s : Rd) : wp read (fun r _ => SerGood outerKeys r) s := read_good.serGood s

theorem read_rangeGood (s : Rd) : wp read (fun r _ => RangeGood r) s := read_good.rangeGood s

end Rs1090.Model.Bds05
