/-
Obligations `Gen = Model` for the per-register field readers.

`Gen/BdsFns.lean` is TRANSLATED from `fn read_*` of crates/rs1090/src/decode/bds/bds40.rs, bds44.rs, bds50.rs, bds60.rs on every
run (gen/extractors/bdsfns.py: checked integer arithmetic, f64 as exact rationals).  The hand-written model
(`Model/Decode/BdsNN.lean`) returns integers (numerators of a documented scale).  Here, for EVERY value of
the bits read, the translated function is the hand model composed with that scale — by kernel enumeration
(`allBits`, domains ≤ 2^12).  A behavioural edit of a reader changes the generated definition and the
enumeration fails at the offending code; a harmless rewrite (renamed local, reordered independent `let`s,
`2 * x` for `x * 2`) gives a different term with the same values and everything here still checks.
The exception is `read_tas`, whose extra argument (the ground speed, a `u16`) makes the domain too large to enumerate:
it keeps its digest pin, and `bds50_tas` follows the generated text (every ground speed below 2^15, every code).

`disagreements` lists the offending codes (`#eval Rs1090.Proofs.GenBds.disagreements`).
-/
import Rs1090.Gen.BdsFns
import Rs1090.Model.Decode.Bds50
import Rs1090.Model.Decode.Bds60
import Rs1090.Model.Decode.Bds40
import Rs1090.Model.Decode.Bds44
import Mathlib.Tactic.Linarith
namespace Rs1090.Proofs.GenBds
open Rs1090 Rs1090.Model

/-- a modelled value `n` stands for the rational `n · num / den` -/
def scaled (num den : Int) : Outcome (Option Int) → Outcome (Option Rat)
  | .ok (some n) => .ok (some ((n : Rat) * (num : Rat) / (den : Rat)))
  | .ok none => .ok none
  | .err e => .err e
  | .panic s => .panic s

def scaledN (num den : Int) : Outcome (Option Nat) → Outcome (Option Rat)
  | .ok (some n) => .ok (some (((n : Int) : Rat) * (num : Rat) / (den : Rat)))
  | .ok none => .ok none
  | .err e => .err e
  | .panic s => .panic s

theorem enum3 (P : Bool → Nat → Nat → Bool) (dg dv : Nat)
    (h : allBits (fun g => allBits (fun v => P true g v && P false g v) dv 0) dg 0 = true) :
    ∀ s g v, g < 2 ^ dg → v < 2 ^ dv → P s g v = true := by
  intro s g v hg hv
  have h1 := forall_lt_of_allBits _ dg h g hg
  have h2 := forall_lt_of_allBits _ dv h1 v hv
  simp only [Bool.and_eq_true] at h2
  cases s
  · exact h2.2
  · exact h2.1

theorem enum2 (P : Bool → Nat → Bool) (dv : Nat)
    (h : allBits (fun v => P true v && P false v) dv 0 = true) :
    ∀ s v, v < 2 ^ dv → P s v = true := by
  intro s v hv
  have h2 := forall_lt_of_allBits _ dv h v hv
  simp only [Bool.and_eq_true] at h2
  cases s
  · exact h2.2
  · exact h2.1

/-! ### the layouts (type and width of every read) the model's `read` uses: `flag`, `bits 1`, `bits 9`, … -/

theorem bds50_layouts :
    Gen.BdsFns.Bds50.read_roll_layout = [("bool", 1), ("u8", 1), ("u16", 9)] ∧
    Gen.BdsFns.Bds50.read_track_layout = [("bool", 1), ("u8", 1), ("u16", 10)] ∧
    Gen.BdsFns.Bds50.read_groundspeed_layout = [("bool", 1), ("u16", 10)] ∧
    Gen.BdsFns.Bds50.read_rate_layout = [("bool", 1), ("u8", 1), ("u16", 9)] ∧
    Gen.BdsFns.Bds50.read_tas_layout = [("bool", 1), ("u16", 10)] := by decide

theorem bds60_layouts :
    Gen.BdsFns.Bds60.read_heading_layout = [("bool", 1), ("u8", 1), ("u16", 10)] ∧
    Gen.BdsFns.Bds60.read_ias_layout = [("bool", 1), ("u16", 10)] ∧
    Gen.BdsFns.Bds60.read_mach_layout = [("bool", 1), ("u16", 10)] ∧
    Gen.BdsFns.Bds60.read_vertical_layout = [("bool", 1), ("u8", 1), ("u16", 9)] := by decide

def rollOk (s : Bool) (g v : Nat) : Bool :=
  decide (Gen.BdsFns.Bds50.read_roll s g v = scaled 45 256 (Model.Bds50.roll s g v))
def trackOk (s : Bool) (g v : Nat) : Bool :=
  decide (Gen.BdsFns.Bds50.read_track s g v = scaled 1 512 (Model.Bds50.track s g v))
def gsOk (s : Bool) (v : Nat) : Bool :=
  decide (Gen.BdsFns.Bds50.read_groundspeed s v = Model.Bds50.groundspeed s v)
/-- the roll angle the model holds as `n` is `n · 45/256` degrees -/
def rollVal (n : Int) : Rat := (n : Rat) * 45 / 256
def rateOk (n : Option Int) (s : Bool) (g v : Nat) : Bool :=
  decide (Gen.BdsFns.Bds50.read_rate (n.map rollVal) s g v = scaled 1 256 (Model.Bds50.rate n s g v))
def tasOk (gs : Option Nat) (s : Bool) (v : Nat) : Bool :=
  decide (Gen.BdsFns.Bds50.read_tas gs s v = Model.Bds50.tas gs s v)

theorem bds50_roll : ∀ s g v, g < 2 ^ 1 → v < 2 ^ 9 → rollOk s g v = true := enum3 _ 1 9 (by decide +kernel)
theorem bds50_track : ∀ s g v, g < 2 ^ 1 → v < 2 ^ 10 → trackOk s g v = true := enum3 _ 1 10 (by decide +kernel)
theorem bds50_groundspeed : ∀ s v, v < 2 ^ 10 → gsOk s v = true := enum2 _ 10 (by decide +kernel)

/-- `read_rate` with the roll angle absent / negative / zero / positive (representatives −1, 0, 1), all 2^11 codes each -/
theorem bds50_rate_rep : ∀ s g v, g < 2 ^ 1 → v < 2 ^ 9 →
    (rateOk none s g v && rateOk (some (-1)) s g v && rateOk (some 0) s g v && rateOk (some 1) s g v) = true :=
  enum3 _ 1 9 (by decide +kernel)

set_option linter.unusedSimpArgs false in
/-- the translated `read_rate` depends on the roll angle only through its sign (it enters in `roll * rate < 0.`;
    `gt_iff_lt` is there for the spelling `0. > roll * rate`) -/
theorem gen_rate_sign (r r' : Rat) (h1 : r < 0 ↔ r' < 0) (h2 : 0 < r ↔ 0 < r') (s : Bool) (g v : Nat) :
    Gen.BdsFns.Bds50.read_rate (some r) s g v = Gen.BdsFns.Bds50.read_rate (some r') s g v := by
  simp only [Gen.BdsFns.Bds50.read_rate, mul_neg_iff, gt_iff_lt, h1, h2]

/-- so does the model's `rate` -/
theorem model_rate_sign (n n' : Int) (h1 : n < 0 ↔ n' < 0) (h2 : 0 < n ↔ 0 < n') (s : Bool) (g v : Nat) :
    Model.Bds50.rate (some n) s g v = Model.Bds50.rate (some n') s g v := by
  have key : ∀ x : Int, (n * 45 * (x * 8) < 0) = (n' * 45 * (x * 8) < 0) := by
    intro x
    have e : ∀ m : Int, m * 45 * (x * 8) < 0 ↔ m * x < 0 := by
      intro m; constructor <;> intro h <;> linarith
    apply propext
    rw [e, e, mul_neg_iff, mul_neg_iff, h1, h2]
  simp only [Model.Bds50.rate, key]

theorem rollVal_neg (n : Int) : rollVal n < 0 ↔ n < 0 := by
  unfold rollVal
  have : ((n : Rat) < 0) ↔ n < 0 := Int.cast_lt_zero
  rw [← this]; constructor <;> intro h <;> linarith
theorem rollVal_pos (n : Int) : 0 < rollVal n ↔ 0 < n := by
  unfold rollVal
  have : (0 < (n : Rat)) ↔ 0 < n := Int.cast_pos
  rw [← this]; constructor <;> intro h <;> linarith

theorem bds50_rate (n : Option Int) : ∀ s g v, g < 2 ^ 1 → v < 2 ^ 9 → rateOk n s g v = true := by
  intro s g v hg hv
  have h := bds50_rate_rep s g v hg hv
  simp only [Bool.and_eq_true] at h
  obtain ⟨⟨⟨h0, hm⟩, hz⟩, hp⟩ := h
  cases n with
  | none => exact h0
  | some n =>
    have transfer : ∀ k : Int, (n < 0 ↔ k < 0) → (0 < n ↔ 0 < k) → rateOk (some k) s g v = true →
        rateOk (some n) s g v = true := by
      intro k a b hk
      simp only [rateOk, Option.map_some, decide_eq_true_eq] at hk ⊢
      rw [gen_rate_sign (rollVal n) (rollVal k) (by rw [rollVal_neg, rollVal_neg, a]) (by rw [rollVal_pos, rollVal_pos, b]),
        model_rate_sign n k a b, hk]
    rcases lt_trichotomy n 0 with hn | hn | hn
    · exact transfer (-1) (by omega) (by omega) hm
    · exact transfer 0 (by omega) (by omega) hz
    · exact transfer 1 (by omega) (by omega) hp

theorem castS16_small (x : Int) (h0 : -32768 ≤ x) (h1 : x < 32768) : Gen.BdsFns.castS 16 x = x := by
  unfold Gen.BdsFns.castS
  omega

/-- **`read_tas`, every ground speed below 2^15 kt (or none), every code**: the translated reader performs the model's
    checked operations on `gs as i16`, `tas as i16`, and those casts change nothing below 2^15. -/
theorem bds50_tas (gs : Option Nat) (hgs : ∀ g, gs = some g → g < 2 ^ 15) (s : Bool) (v : Nat) (hv : v < 2 ^ 14) :
    Gen.BdsFns.Bds50.read_tas gs s v = Model.Bds50.tas gs s v := by
  cases s with
  | false => simp only [Gen.BdsFns.Bds50.read_tas, Model.Bds50.tas, Bool.not_false, if_true]
  | true =>
    show (Outcome.bind (mulU 16 v 2) fun t => _) = (mulU 16 v 2 >>= fun t => _)
    rw [mulU_ok (by omega), Outcome.bind_ok, Outcome.bind_ok']
    cases gs with
    | none => rfl
    | some g =>
      have hg := hgs g rfl
      show (Outcome.bind (subS 16 (Gen.BdsFns.castS 16 ((g : Nat) : Int))
        (Gen.BdsFns.castS 16 ((v * 2 : Nat) : Int))) _) = _
      rw [castS16_small _ (by omega) (by omega), castS16_small _ (by omega) (by omega)]
      rfl

/-- ground speeds `read_tas` is checked against here: absent, and values around every threshold of the cross-check
    (`80 ≤ tas ≤ 500`, `|gs − tas| ≤ 200`) -/
def tasGs : List (Option Nat) := [none, some 0, some 2, some 80, some 200, some 280, some 300, some 302, some 500, some 600]

theorem tasGs_lt {gs : Option Nat} (h : gs ∈ tasGs) (g : Nat) (e : gs = some g) : g < 2 ^ 15 := by
  subst e
  simp only [tasGs, List.mem_cons, Option.some.injEq, List.mem_nil_iff, or_false, reduceCtorEq, false_or] at h
  omega

def headingOk (s : Bool) (g v : Nat) : Bool :=
  decide (Gen.BdsFns.Bds60.read_heading s g v = scaled 1 512 (Model.Bds60.heading s g v))
def iasOk (s : Bool) (v : Nat) : Bool :=
  decide (Gen.BdsFns.Bds60.read_ias s v = Model.Bds60.ias s v)
/-- the model holds the accepted 10-bit code; Mach = code · 2.048 / 512 = code / 250 -/
def machOk (ias : Option Nat) (s : Bool) (v : Nat) : Bool :=
  decide (Gen.BdsFns.Bds60.read_mach ias s v = scaledN 1 250 (Model.Bds60.mach ias s v))
def verticalOk (s : Bool) (g v : Nat) : Bool :=
  decide (Gen.BdsFns.Bds60.read_vertical s g v = Model.Bds60.vertical s g v)

theorem bds60_heading : ∀ s g v, g < 2 ^ 1 → v < 2 ^ 10 → headingOk s g v = true := enum3 _ 1 10 (by decide +kernel)
theorem bds60_ias : ∀ s v, v < 2 ^ 10 → iasOk s v = true := enum2 _ 10 (by decide +kernel)
theorem bds60_vertical : ∀ s g v, g < 2 ^ 1 → v < 2 ^ 9 → verticalOk s g v = true := enum3 _ 1 9 (by decide +kernel)

/-- `read_mach` with the airspeed absent / below 150 / in 150..250 / above 250 (representatives 1, 150, 251), all 2^11
    codes each (exact-rational reading of the f64 arithmetic: `2.048` is the decimal; see
    `Model.Bds60.F64.thresholds_agree` for the IEEE comparisons) -/
theorem bds60_mach_rep : ∀ s v, v < 2 ^ 10 →
    (machOk none s v && machOk (some 1) s v && machOk (some 150) s v && machOk (some 251) s v) = true :=
  enum2 _ 10 (by decide +kernel)

set_option linter.unusedSimpArgs false in
/-- the translated `read_mach` depends on the airspeed only through `ias > 250` and `ias < 150` -/
theorem gen_mach_class (i i' : Nat) (h1 : i > 250 ↔ i' > 250) (h2 : i < 150 ↔ i' < 150) (s : Bool) (v : Nat) :
    Gen.BdsFns.Bds60.read_mach (some i) s v = Gen.BdsFns.Bds60.read_mach (some i') s v := by
  have h1' : 250 < i ↔ 250 < i' := h1
  simp only [Gen.BdsFns.Bds60.read_mach, gt_iff_lt, h1', h2]

/-- so does the model's `mach` -/
theorem model_mach_class (i i' : Nat) (h1 : i > 250 ↔ i' > 250) (h2 : i < 150 ↔ i' < 150) (s : Bool) (v : Nat) :
    Model.Bds60.mach (some i) s v = Model.Bds60.mach (some i') s v := by
  have h1' : 250 < i ↔ 250 < i' := h1
  simp only [Model.Bds60.mach, gt_iff_lt, h1', h2]

theorem bds60_mach (i : Option Nat) : ∀ s v, v < 2 ^ 10 → machOk i s v = true := by
  intro s v hv
  have h := bds60_mach_rep s v hv
  simp only [Bool.and_eq_true] at h
  obtain ⟨⟨⟨h0, ha⟩, hb⟩, hc⟩ := h
  cases i with
  | none => exact h0
  | some i =>
    have transfer : ∀ k : Nat, (i > 250 ↔ k > 250) → (i < 150 ↔ k < 150) → machOk (some k) s v = true →
        machOk (some i) s v = true := by
      intro k a b hk
      simp only [machOk, decide_eq_true_eq] at hk ⊢
      rw [gen_mach_class i k a b, model_mach_class i k a b, hk]
    by_cases c1 : i < 150
    · exact transfer 1 (by omega) (by omega) ha
    · by_cases c2 : i > 250
      · exact transfer 251 (by omega) (by omega) hc
      · exact transfer 150 (by omega) (by omega) hb

/-! ### the obligations as stated in Props/C03.lean, Props/C08.lean -/

theorem bds50_readers :
    (∀ s g v, g < 2 ^ 1 → v < 2 ^ 9 →
      Gen.BdsFns.Bds50.read_roll s g v = scaled 45 256 (Model.Bds50.roll s g v)) ∧
    (∀ s g v, g < 2 ^ 1 → v < 2 ^ 10 →
      Gen.BdsFns.Bds50.read_track s g v = scaled 1 512 (Model.Bds50.track s g v)) ∧
    (∀ s v, v < 2 ^ 10 →
      Gen.BdsFns.Bds50.read_groundspeed s v = Model.Bds50.groundspeed s v) ∧
    (∀ (n : Option Int) s g v, g < 2 ^ 1 → v < 2 ^ 9 →
      Gen.BdsFns.Bds50.read_rate (n.map rollVal) s g v = scaled 1 256 (Model.Bds50.rate n s g v)) :=
  ⟨fun s g v hg hv => of_decide_eq_true (bds50_roll s g v hg hv),
   fun s g v hg hv => of_decide_eq_true (bds50_track s g v hg hv),
   fun s v hv => of_decide_eq_true (bds50_groundspeed s v hv),
   fun n s g v hg hv => of_decide_eq_true (bds50_rate n s g v hg hv)⟩

theorem bds50_tas_sampled : ∀ gs ∈ tasGs, ∀ s v, v < 2 ^ 10 →
    Gen.BdsFns.Bds50.read_tas gs s v = Model.Bds50.tas gs s v := by
  intro gs hgs s v hv
  exact bds50_tas gs (tasGs_lt hgs) s v (by omega)

theorem bds60_readers :
    (∀ s g v, g < 2 ^ 1 → v < 2 ^ 10 →
      Gen.BdsFns.Bds60.read_heading s g v = scaled 1 512 (Model.Bds60.heading s g v)) ∧
    (∀ s v, v < 2 ^ 10 →
      Gen.BdsFns.Bds60.read_ias s v = Model.Bds60.ias s v) ∧
    (∀ (i : Option Nat) s v, v < 2 ^ 10 →
      Gen.BdsFns.Bds60.read_mach i s v = scaledN 1 250 (Model.Bds60.mach i s v)) ∧
    (∀ s g v, g < 2 ^ 1 → v < 2 ^ 9 →
      Gen.BdsFns.Bds60.read_vertical s g v = Model.Bds60.vertical s g v) :=
  ⟨fun s g v hg hv => of_decide_eq_true (bds60_heading s g v hg hv),
   fun s v hv => of_decide_eq_true (bds60_ias s v hv),
   fun i s v hv => of_decide_eq_true (bds60_mach i s v hv),
   fun s g v hg hv => of_decide_eq_true (bds60_vertical s g v hg hv)⟩

def selectedOk (s : Bool) (v : Nat) : Bool :=
  decide (Gen.BdsFns.Bds40.read_selected s v = Model.Bds40.selectedAlt s v)
/-- the model holds tenths of hPa: `value as f64 * 0.1 + 800.` read exactly is `(value + 8000) / 10` -/
def qnhOk (s : Bool) (v : Nat) : Bool :=
  decide (Gen.BdsFns.Bds40.read_qnh s v = scaledN 1 10 (Model.Bds40.qnhNum s v))
def pressure44Ok (s : Bool) (v : Nat) : Bool :=
  decide (Gen.BdsFns.Bds44.read_pressure s v = Model.Bds44.pressure s v)
/-- the model holds `value · 100`, numerator over 64 of the percentage -/
def humidityOk (s : Bool) (v : Nat) : Bool :=
  decide (Gen.BdsFns.Bds44.read_humidity s v = scaledN 1 64 (Model.Bds44.humidity s v))

theorem bds40_selected : ∀ s v, v < 2 ^ 12 → selectedOk s v = true := enum2 _ 12 (by decide +kernel)
theorem bds40_qnh : ∀ s v, v < 2 ^ 12 → qnhOk s v = true := enum2 _ 12 (by decide +kernel)
theorem bds44_pressure : ∀ s v, v < 2 ^ 11 → pressure44Ok s v = true := enum2 _ 11 (by decide +kernel)
theorem bds44_humidity : ∀ s v, v < 2 ^ 6 → humidityOk s v = true := enum2 _ 6 (by decide +kernel)

theorem bds40_44_layouts :
    Gen.BdsFns.Bds40.read_selected_layout = [("bool", 1), ("u16", 12)] ∧
    Gen.BdsFns.Bds40.read_qnh_layout = [("bool", 1), ("u16", 12)] ∧
    Gen.BdsFns.Bds44.read_pressure_layout = [("bool", 1), ("u16", 11)] ∧
    Gen.BdsFns.Bds44.read_humidity_layout = [("bool", 1), ("u8", 6)] := by decide

theorem bds40_readers :
    (∀ s v, v < 2 ^ 12 → Gen.BdsFns.Bds40.read_selected s v = Model.Bds40.selectedAlt s v) ∧
    (∀ s v, v < 2 ^ 12 → Gen.BdsFns.Bds40.read_qnh s v = scaledN 1 10 (Model.Bds40.qnhNum s v)) :=
  ⟨fun s v hv => of_decide_eq_true (bds40_selected s v hv), fun s v hv => of_decide_eq_true (bds40_qnh s v hv)⟩

theorem bds44_readers :
    (∀ s v, v < 2 ^ 11 → Gen.BdsFns.Bds44.read_pressure s v = Model.Bds44.pressure s v) ∧
    (∀ s v, v < 2 ^ 6 → Gen.BdsFns.Bds44.read_humidity s v = scaledN 1 64 (Model.Bds44.humidity s v)) :=
  ⟨fun s v hv => of_decide_eq_true (bds44_pressure s v hv), fun s v hv => of_decide_eq_true (bds44_humidity s v hv)⟩

/-! ### counterexample listing (not part of the check; `#eval Rs1090.Proofs.GenBds.disagreements`) -/

def codes3 (dg dv : Nat) : List (Bool × Nat × Nat) :=
  [true, false].flatMap fun s => (List.range (2 ^ dg)).flatMap fun g => (List.range (2 ^ dv)).map fun v => (s, g, v)

/-- (reader, status, sign, value) of every code on which a translated reader and the model disagree -/
def disagreements : List (String × Bool × Nat × Nat) :=
  ((codes3 1 9).filter fun (s, g, v) => !rollOk s g v).map (fun c => ("bds50.read_roll", c)) ++
  ((codes3 1 10).filter fun (s, g, v) => !trackOk s g v).map (fun c => ("bds50.read_track", c)) ++
  ((codes3 0 10).filter fun (s, _, v) => !gsOk s v).map (fun c => ("bds50.read_groundspeed", c)) ++
  ((codes3 1 9).filter fun (s, g, v) => !(rateOk none s g v && rateOk (some (-1)) s g v && rateOk (some 0) s g v && rateOk (some 1) s g v)).map (fun c => ("bds50.read_rate", c)) ++
  ((codes3 0 10).filter fun (s, _, v) => !(tasGs.all fun gs => tasOk gs s v)).map (fun c => ("bds50.read_tas", c)) ++
  ((codes3 1 10).filter fun (s, g, v) => !headingOk s g v).map (fun c => ("bds60.read_heading", c)) ++
  ((codes3 0 10).filter fun (s, _, v) => !iasOk s v).map (fun c => ("bds60.read_ias", c)) ++
  ((codes3 0 10).filter fun (s, _, v) => !(machOk none s v && machOk (some 1) s v && machOk (some 150) s v && machOk (some 251) s v)).map (fun c => ("bds60.read_mach", c)) ++
  ((codes3 1 9).filter fun (s, g, v) => !verticalOk s g v).map (fun c => ("bds60.read_vertical", c)) ++
  ((codes3 0 12).filter fun (s, _, v) => !selectedOk s v).map (fun c => ("bds40.read_selected", c)) ++
  ((codes3 0 12).filter fun (s, _, v) => !qnhOk s v).map (fun c => ("bds40.read_qnh", c)) ++
  ((codes3 0 11).filter fun (s, _, v) => !pressure44Ok s v).map (fun c => ("bds44.read_pressure", c)) ++
  ((codes3 0 6).filter fun (s, _, v) => !humidityOk s v).map (fun c => ("bds44.read_humidity", c))

end Rs1090.Proofs.GenBds
