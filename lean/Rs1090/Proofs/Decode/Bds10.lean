import Rs1090.Proofs.Decode.FieldsLemmas
import Rs1090.Model.Decode.Bds10

namespace Rs1090.Model.CommbA
open Rs1090 Rs1090.Model

theorem mem_toObj {fs : Fields} {kv : Key × Json} (h : kv ∈ Fields.toObj fs) :
    (kv.1, some kv.2) ∈ fs := by
  induction fs with
  | nil => cases h
  | cons f r ih =>
    rcases f with ⟨k, v⟩
    cases v with
    | none => rw [toObj_cons_none] at h; exact List.mem_cons_of_mem _ (ih h)
    | some j =>
      rw [toObj_cons_some] at h
      rcases List.mem_cons.mp h with rfl | h
      · exact List.mem_cons_self
      · exact List.mem_cons_of_mem _ (ih h)

theorem wfObj_append (a b : List (Key × Json)) :
    Json.wfObj (a ++ b) = (Json.wfObj a && Json.wfObj b) := by
  induction a with
  | nil => rfl
  | cons kv r ih =>
    rcases kv with ⟨k, v⟩
    simp only [List.cons_append, Json.wfObj, ih, Bool.and_assoc]

end Rs1090.Model.CommbA

namespace Rs1090.Model.Bds10
open Rs1090 Rs1090.Model

theorem failIfNot10_noPanic (v : Nat) : (failIfNot10 v).isPanic = false := by
  unfold failIfNot10; split <;> rfl

theorem failIfNot0_noPanic (v : Nat) : (failIfNot0 v).isPanic = false := by
  unfold failIfNot0; split <;> rfl

/-- no BDS 1,0 field is a constrained physical quantity (flags, version number, DTE bits) -/
theorem read_good : ReadsGood [] read := by
  intro s
  unfold read
  wp_run
  apply wp_lift_of (failIfNot10_noPanic _); intro _ _
  wp_run
  apply wp_lift_of (failIfNot0_noPanic _); intro _ _
  wp_run
  exact ⟨_, rfl, rfl, rfl⟩

theorem read_noPanic : NoPanic read := read_good.noPanic

theorem read_serGood : ∀ s, wp read (fun r _ => SerGood [] r) s := read_good.serGood

theorem read_rangeGood : ∀ s, wp read (fun r _ => RangeGood r) s := read_good.rangeGood

end Rs1090.Model.Bds10
