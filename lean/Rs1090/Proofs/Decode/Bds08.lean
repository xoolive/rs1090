import Rs1090.Proofs.Decode.FieldsLemmas
import Rs1090.Model.Decode.Bds08
namespace Rs1090.Model.Bds08
open Rs1090 Rs1090.Model

/-- the 64-entry table: every 6-bit code is a valid index (obligation on the GENERATED table) -/
theorem charLookup_len : Gen.Chars.charLookup08.length = 64 := by decide

/-- every entry of the GENERATED 6-bit table is a character of the call-sign alphabet
    (`A–Z`, `0–9`, space, `#` for unassigned codes) — an obligation on the table in /repo -/
theorem charLookup_charset :
    Gen.Chars.charLookup08.all (fun b => callsignAlphabet.contains (Char.ofNat b)) = true := by
  decide +kernel

theorem callsignChars_wp (k : Nat) (Q : List Nat → Rd → Prop) (s : Rd)
    (h : ∀ cs s', (∀ c ∈ cs, c < 64) → Q cs s') : wp (callsignChars k) Q s := by
  induction k generalizing Q s with
  | zero => unfold callsignChars; rw [wp_pure]; exact h _ _ (by simp)
  | succ k ih =>
    unfold callsignChars
    rw [wp_bind]; apply wp_bits_any; intro c s1 hc
    rw [wp_bind]; apply ih; intro cs s2 hcs
    rw [wp_pure]; apply h
    intro x hx
    split at hx
    · rcases List.mem_cons.mp hx with rfl | hx
      · simpa using hc
      · exact hcs x hx
    · exact hcs x hx

theorem go_noPanic : ∀ cs : List Nat, (∀ c ∈ cs, c < 64) → (callsign.go cs).isPanic = false
  | [], _ => rfl
  | c :: rest, h => by
    unfold callsign.go
    apply Outcome.bind_noPanic (idx_noPanic _ _ (by rw [charLookup_len]; exact h c (by simp))); intro _
    apply Outcome.bind_noPanic (go_noPanic rest fun x hx => h x (by simp [hx])); intro _
    rfl

theorem go_chars : ∀ (cs : List Nat) (out : List Char), callsign.go cs = .ok out →
    out.all (fun c => callsignAlphabet.contains c) = true
  | [], out, h => by
    unfold callsign.go at h; cases h; rfl
  | c :: rest, out, h => by
    unfold callsign.go at h
    obtain ⟨b, hb, h⟩ := Outcome.bind_eq_ok h
    obtain ⟨r, hr, h⟩ := Outcome.bind_eq_ok h
    cases h
    rw [List.all_cons, List.all_eq_true.mp charLookup_charset b (idx_mem hb), go_chars rest r hr]
    rfl

theorem callsign_wp (Q : List Char → Rd → Prop) (s : Rd)
    (h : ∀ cs s', cs.all (fun c => callsignAlphabet.contains c) = true → Q cs s') : wp callsign Q s := by
  unfold callsign
  rw [wp_bind]; apply callsignChars_wp; intro cs s' hcs
  exact wp_lift_of (go_noPanic cs hcs) fun out hout => h out s' (go_chars cs out hout)

theorem read_good : ReadsGood outerKeys read := by
  intro s
  unfold read
  wp_run
  wp_if h
  · wp_run
  · wp_run
    apply callsign_wp; intro cs s' hcs
    wp_run
    refine ⟨_, rfl, rfl, ?_⟩
    entrywise
    exact ⟨rfl, rfl, entryGood_spec _ _ _ rfl rfl hcs⟩

theorem read_noPanic : NoPanic read := read_good.noPanic

theorem read_serGood (s : Rd) : wp read (fun r _ => SerGood outerKeys r) s := read_good.serGood s

theorem read_rangeGood (s : Rd) : wp read (fun r _ => RangeGood r) s := read_good.rangeGood s

end Rs1090.Model.Bds08
