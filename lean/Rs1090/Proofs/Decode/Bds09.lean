/-
BDS 0,9 airborne velocity, all subtypes (including the reserved ones 0, 5, 6, 7).  The field
conversions succeed on every code of their field (closed forms in `Conversions.lean`).
-/
import Rs1090.Proofs.Decode.FieldsLemmas
import Rs1090.Proofs.Decode.Conversions
import Rs1090.Model.Decode.Bds09
namespace Rs1090.Model.Bds09
open Rs1090 Rs1090.Model

/-- vertical rate `sign * (v as i16 - 1) * 64`: a multiple of 64 ft/min within ±32640 -/
theorem vrate_spec (sign v : Nat) (hv : v < 2 ^ 9) :
    (vrate sign v).okAnd (optAll fun r => (Constraint.multiple 64 (-32640) 32640).holds (jint r)) = true := by
  rw [vrate_eq sign v hv]
  split
  · rfl
  · rcases signValue_cases sign with hs | hs <;> rw [hs] <;>
      exact holds_multiple_jint _ _ _ _ (by omega) (by omega) (by omega)

theorem heading_range (h : Nat) (hh : h < 2 ^ 10) :
    Constraint.holds (.range 0 360 false) (jrat (headingNum h) headingDen) = true := by
  simp [Constraint.holds, jrat, ratIn, headingNum, headingDen]
  omega

/-- what the velocity block must avoid: the keys of the fields `read` puts around it, and the outer keys -/
def velAvoid : List Nat :=
  [(key! "NACv").id, (key! "vrate_src").id, (key! "vertical_rate").id, (key! "geo_minus_baro").id] ++ outerKeys

theorem heading_good (status : Bool) (hdg : Nat) (hh : hdg < 2 ^ 10) :
    entryGood (key! "heading", if status then some (jrat (headingNum hdg) headingDen) else none) = true :=
  entryGood_ite _ _ _ fun _ => entryGood_spec _ _ _ rfl rfl (heading_range hdg hh)

theorem airspeedFields_good (heading : Option Json) (asType : Nat) (speed : Option Nat)
    (hh : entryGood (key! "heading", heading) = true) : FieldsGood velAvoid (airspeedFields heading asType speed) := by
  unfold airspeedFields
  split
  all_goals
    refine ⟨rfl, ?_⟩
    entrywise
    exact ⟨hh, entryGood_map _ _ _ fun _ _ => entryGood_spec _ _ _ rfl rfl (holds_nonneg_jnat _)⟩

theorem readGroundSpeed_spec (subtype : Nat) (s : Rd) :
    wp (readGroundSpeed subtype) (fun vel _ => FieldsGood velAvoid vel) s := by
  unfold readGroundSpeed
  wp_run
  apply wp_lift_ok (velComponent_eq _ _ _ (by assumption))
  wp_run
  apply wp_lift_ok (velComponent_eq _ _ _ (by assumption))
  wp_run
  exact ⟨rfl, rfl⟩

theorem readAirspeedSub_spec (s : Rd) : wp readAirspeedSub (fun vel _ => FieldsGood velAvoid vel) s := by
  unfold readAirspeedSub
  wp_run
  apply wp_lift_ok (airspeedSub_eq _)
  wp_run
  exact airspeedFields_good _ _ _ (heading_good _ _ (by assumption))

theorem readAirspeedSuper_spec (s : Rd) : wp readAirspeedSuper (fun vel _ => FieldsGood velAvoid vel) s := by
  unfold readAirspeedSuper
  wp_run
  apply wp_lift_ok (airspeedSuper_eq _ (by omega))
  wp_run
  exact airspeedFields_good _ _ _ (heading_good _ _ (by assumption))

theorem readVelocity_spec (subtype : Nat) (s : Rd) :
    wp (readVelocity subtype) (fun vel _ => FieldsGood velAvoid vel) s := by
  unfold readVelocity
  wp_run
  wp_if h
  · wp_run; exact FieldsGood.nil _
  wp_if h
  · exact readGroundSpeed_spec _ _
  wp_if h
  · exact readAirspeedSub_spec _
  wp_if h
  · exact readAirspeedSuper_spec _
  · wp_run; exact FieldsGood.nil _

/-- every subtype (reserved ones included, after fix d0d10b1) serialises, keys distinct; `groundspeed` ≥ 0,
    `track`/`heading` ∈ [0, 360), `IAS`/`TAS` ≥ 0, `vertical_rate` ∈ 64·ℤ ∩ [−32640, 32640] -/
theorem read_good : ReadsGood outerKeys read := by
  intro s
  unfold read
  wp_run
  refine wp_mono (readVelocity_spec _ _) ?_
  intro vel s1 hvel
  wp_run
  apply wp_lift_okAnd (vrate_spec _ _ (by assumption)); intro vr hvr
  wp_run
  apply wp_lift_ok (geoBaro_eq _ _ (by assumption))
  wp_run
  refine ⟨_, rfl, hvel.wrap ⟨rfl, ?_⟩ rfl⟩
  entrywise
  exact ⟨rfl, rfl,
    entryGood_map _ _ _ fun r hr => entryGood_spec _ _ (.multiple 64 (-32640) 32640) rfl rfl (optAll_some hvr hr :),
    entryGood_map _ _ _ fun _ _ => rfl⟩

theorem read_noPanic : NoPanic read := read_good.noPanic

theorem read_serGood : ∀ s, wp read (fun r _ => SerGood outerKeys r) s := read_good.serGood

theorem read_rangeGood : ∀ s, wp read (fun r _ => RangeGood r) s := read_good.rangeGood

end Rs1090.Model.Bds09
