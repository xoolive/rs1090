/-
BDS 4,4 meteorological routine air report.  The field conversions contain no checked arithmetic;
what an accepted value can be follows from the tests in the conversion itself.
-/
import Rs1090.Proofs.Decode.FieldsLemmas
import Rs1090.Model.Decode.Bds44
namespace Rs1090.Model.Bds44
open Rs1090 Rs1090.Model

theorem windSpeed_noPanic (st : Bool) (v : Nat) : (windSpeed st v).isPanic = false := by
  unfold windSpeed
  split
  · split <;> rfl
  · split <;> rfl

/-- accepted wind direction: `n/256 < 360` -/
theorem windDirection_spec (speed : Option Nat) (v : Nat) (hv : v < 2 ^ 9) :
    (windDirection speed v).okAnd (optAll fun n => decide (n < 360 * 256)) = true := by
  unfold windDirection
  split
  · split <;> rfl
  · simp only [Outcome.okAnd, optAll, decide_eq_true_eq]; omega

/-- accepted temperature: `-80 ≤ q/4 ≤ 60` -/
theorem temperature_spec (sg v : Nat) :
    (temperature sg v).okAnd (fun q => decide (-80 * 4 ≤ q) && decide (q ≤ 60 * 4)) = true := by
  unfold temperature
  simp only []
  split
  · rfl
  · rename_i h
    simp only [Bool.or_eq_true, decide_eq_true_eq, not_or, Int.not_lt] at h
    simp only [Outcome.okAnd, Bool.and_eq_true, decide_eq_true_eq]
    omega

theorem pressure_noPanic (st : Bool) (v : Nat) : (pressure st v).isPanic = false := by
  unfold pressure
  split
  · split <;> rfl
  · rfl

theorem turbulence_spec (st : Bool) (v : Nat) :
    (turbulence st v).okAnd (optAll fun j => j.wf && j.inRange) = true := by
  unfold turbulence turbulenceName
  split
  · split <;> rfl
  · split <;> rfl

/-- accepted humidity: `n/64 ≤ 100` -/
theorem humidity_spec (st : Bool) (v : Nat) (hv : v < 2 ^ 6) :
    (humidity st v).okAnd (optAll fun n => decide (n ≤ 100 * 64)) = true := by
  unfold humidity
  split
  · split <;> rfl
  · simp only [Outcome.okAnd, optAll, decide_eq_true_eq]; omega

theorem read_good : ReadsGood [] read := by
  intro s
  unfold read
  wp_run
  apply wp_lift_of (windSpeed_noPanic _ _); intro ws _
  wp_run
  apply wp_lift_okAnd (windDirection_spec ws _ (by assumption)); intro wd hwd
  wp_run
  apply wp_lift_okAnd (temperature_spec _ _); intro temp htemp
  wp_run
  apply wp_lift_of (pressure_noPanic _ _); intro pres _
  wp_run
  apply wp_lift_okAnd (turbulence_spec _ _); intro turb hturb
  wp_run
  apply wp_lift_okAnd (humidity_spec _ _ (by assumption)); intro hum hhum
  wp_run
  simp only [Bool.and_eq_true, decide_eq_true_eq] at htemp
  refine ⟨_, rfl, rfl, ?_⟩
  entrywise
  refine ⟨rfl, entryGood_map _ _ _ fun _ _ => entryGood_spec _ _ _ rfl rfl (holds_nonneg_jnat _),
    ?_,
    entryGood_spec _ _ _ rfl rfl (holds_range_jrat _ _ _ _ _ (by decide) (by omega) (by simp; omega)),
    entryGood_map _ _ _ fun _ _ => rfl,
    entryGood_opt _ _ fun v hv => entryGood_free _ _ rfl (wf_of_good hturb hv) (inRange_of_good hturb hv),
    ?_⟩
  -- the numerators are `Nat`s lifted to `Option Int`: simplest by cases
  · cases wd with
    | none => rfl
    | some n =>
      simp only [optAll, decide_eq_true_eq] at hwd
      exact entryGood_spec _ _ _ rfl rfl (holds_range_jrat 0 360 false n 256 (by decide) (by omega) (by simp; omega))
  · cases hum with
    | none => rfl
    | some n =>
      simp only [optAll, decide_eq_true_eq] at hhum
      exact entryGood_spec _ _ _ rfl rfl (holds_range_jrat 0 100 true n 64 (by decide) (by omega) (by simp; omega))

theorem read_noPanic : NoPanic read := read_good.noPanic

theorem read_serGood (s : Rd) : wp read (fun r _ => SerGood [] r) s := read_good.serGood s

theorem read_rangeGood (s : Rd) : wp read (fun r _ => RangeGood r) s := read_good.rangeGood s

end Rs1090.Model.Bds44
