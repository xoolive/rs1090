/-
Shared vocabulary for the serialisation (C07) and physical-range (C08) theorems about the decoder
model: what it means for the JSON of a decoded message to be well formed, and which constraint each
reported quantity has to satisfy; then what the JSON constructors of the readers satisfy (`wf_*`,
`inRange_*`, `holds_*`).
-/
import Rs1090.Proofs.Decode.Wp
import Rs1090.Model.Decode.Common
namespace Rs1090.Model
open Rs1090

def keyIds (kvs : List (Key × Json)) : List Nat := kvs.map (·.1.id)

mutual
/-- every number is finite (`num n d` has `d ≠ 0`; the symbolic `hypot`/`atan2deg` nodes are finite by
    the assumption on libm recorded in DESIGN §4) and no object has two entries with the same key -/
def Json.wf : Json → Bool
  | .num _ d => d != 0
  | .arr xs => Json.wfList xs
  | .obj kvs => Json.wfObj kvs && decide (keyIds kvs).Nodup
  | _ => true
def Json.wfList : List Json → Bool
  | [] => true
  | x :: xs => x.wf && Json.wfList xs
def Json.wfObj : List (Key × Json) → Bool
  | [] => true
  | (_, v) :: r => v.wf && Json.wfObj r
end

theorem Json.wfObj_iff (kvs : List (Key × Json)) : Json.wfObj kvs = true ↔ ∀ kv ∈ kvs, kv.2.wf = true := by
  induction kvs with
  | nil => simp [Json.wfObj]
  | cons kv r ih => cases kv; simp [Json.wfObj, ih]

/-- keys of the `TimedMessage` record into which the message is flattened (jet1090 / decode1090 output) -/
def timedKeys : List Nat :=
  [(key! "timestamp").id, (key! "frame").id, (key! "metadata").id, (key! "decode_time").id]

/-- keys of the enclosing message object (and of the timed record around it) that a flattened ADS-B
    payload must not repeat -/
def outerKeys : List Nat :=
  [(key! "df").id, (key! "icao24").id, (key! "tisb").id, (key! "bds").id] ++ timedKeys

/-- C07 for one reader result: no serde error, and the printed object has distinct keys, none of them in
    `avoid`, and well-formed values.  For a Comm-B register (nested object) `avoid = []`; for an ADS-B payload
    flattened into the message `avoid = outerKeys`. -/
def SerGood (avoid : List Nat) (r : SerFields) : Prop :=
  ∃ fs, r = .ok fs ∧ (keyIds fs.toObj).Nodup ∧ (∀ k ∈ keyIds fs.toObj, k ∉ avoid) ∧
    Json.wfObj fs.toObj = true

inductive Constraint where
  /-- rational in `[lo, hi)` or `[lo, hi]` (degrees, knots, …); integers count as rationals -/
  | range (lo hi : Int) (hiIncl : Bool)
  /-- rational in `(lo, hi]` -/
  | rangeOpenLo (lo hi : Int)
  /-- finite and ≥ 0 -/
  | nonneg
  /-- integer multiple of `m` with `lo ≤ v ≤ hi` -/
  | multiple (m : Nat) (lo hi : Int)
  /-- natural number `< n` -/
  | below (n : Nat)
  /-- a string of exactly four octal digits -/
  | octal4
  /-- a string whose characters all come from `allowed` -/
  | charset (allowed : List Char)
  deriving Inhabited

def ratIn (lo hi : Int) (loIncl hiIncl : Bool) (n : Int) (d : Nat) : Bool :=
  d != 0 && (if loIncl then decide (lo * d ≤ n) else decide (lo * d < n)) &&
    (if hiIncl then decide (n ≤ hi * d) else decide (n < hi * d))

/-- `null` (quantity not available) always satisfies a constraint -/
def Constraint.holds : Constraint → Json → Bool
  | _, .null => true
  | .range lo hi hiIncl, .num n d => ratIn lo hi true hiIncl n d
  | .range lo hi hiIncl, .int i => ratIn lo hi true hiIncl i 1
  /- `atan2deg` is by definition the angle wrapped into [0, 360) -/
  | .range lo hi _, .atan2deg _ _ => decide (lo ≤ 0) && decide (360 ≤ hi)
  | .rangeOpenLo lo hi, .num n d => ratIn lo hi false true n d
  | .rangeOpenLo lo hi, .int i => ratIn lo hi false true i 1
  | .nonneg, .num n d => d != 0 && decide (0 ≤ n)
  | .nonneg, .int i => decide (0 ≤ i)
  | .nonneg, .hypot _ _ => true
  | .multiple m lo hi, .int i => decide (i % (m : Int) = 0) && decide (lo ≤ i) && decide (i ≤ hi)
  | .below n, .int i => decide (0 ≤ i) && decide (i < (n : Int))
  | .octal4, .chars cs => cs.length == 4 && cs.all (fun c => '0' ≤ c && c ≤ '7')
  | .charset allowed, .chars cs => cs.all (fun c => allowed.contains c)
  | _, _ => false

/-- the 6-bit character set of Annex 10 as the decoder can print it (`#` marks unassigned codes) -/
def callsignAlphabet : List Char := "ABCDEFGHIJKLMNOPQRSTUVWXYZ0123456789 #".toList

/-- **The C08 table**: key name ↦ constraint, for every quantity the property lists.  A key not in
    the table is unconstrained.  The same key means the same quantity in every register. -/
def rangeSpec : List (Nat × Constraint) := [
  ((key! "track").id, .range 0 360 false),
  ((key! "heading").id, .range 0 360 false),
  ((key! "wind_direction").id, .range 0 360 false),
  ((key! "selected_heading").id, .range 0 360 false),
  ((key! "threat_bearing").id, .range 0 360 false),
  ((key! "roll").id, .range (-90) 90 true),
  ((key! "lat_cpr").id, .below (2 ^ 17)),
  ((key! "lon_cpr").id, .below (2 ^ 17)),
  ((key! "vertical_rate").id, .multiple 64 (-32640) 32640),
  ((key! "vrate_barometric").id, .multiple 32 (-16352) 16352),
  ((key! "vrate_inertial").id, .multiple 32 (-16352) 16352),
  ((key! "groundspeed").id, .nonneg),
  ((key! "IAS").id, .nonneg),
  ((key! "TAS").id, .nonneg),
  ((key! "wind_speed").id, .nonneg),
  ((key! "Mach").id, .rangeOpenLo 0 1),
  ((key! "squawk").id, .octal4),
  ((key! "humidity").id, .range 0 100 true),
  ((key! "temperature").id, .range (-80) 60 true),
  ((key! "static_temperature").id, .range (-80) 60 true),
  ((key! "callsign").id, .charset callsignAlphabet) ]

def specFor (k : Nat) : Option Constraint :=
  (rangeSpec.find? (·.1 == k)).map (·.2)

mutual
def Json.inRange : Json → Bool
  | .arr xs => Json.inRangeList xs
  | .obj kvs => Json.inRangeObj kvs
  | _ => true
def Json.inRangeList : List Json → Bool
  | [] => true
  | x :: xs => x.inRange && Json.inRangeList xs
def Json.inRangeObj : List (Key × Json) → Bool
  | [] => true
  | (k, v) :: r =>
    (match specFor k.id with
     | some c => c.holds v
     | none => v.inRange) && Json.inRangeObj r
end

def RangeGood (r : SerFields) : Prop := ∀ fs, r = .ok fs → Json.inRangeObj fs.toObj = true

theorem inRangeObj_iff (kvs : List (Key × Json)) :
    Json.inRangeObj kvs = true ↔
      ∀ kv ∈ kvs, (match specFor kv.1.id with | some c => c.holds kv.2 | none => kv.2.inRange) = true := by
  induction kvs with
  | nil => simp [Json.inRangeObj]
  | cons kv r ih => obtain ⟨k, v⟩ := kv; simp [Json.inRangeObj, ih]

@[simp] theorem inRange_jnat (n : Nat) : (jnat n).inRange = true := by simp [jnat, Json.inRange]
@[simp] theorem inRange_jint (i : Int) : (jint i).inRange = true := by simp [jint, Json.inRange]
@[simp] theorem inRange_jbool (b : Bool) : (jbool b).inRange = true := by simp [jbool, Json.inRange]
@[simp] theorem inRange_lit (k : Key) : (Json.lit k).inRange = true := by simp [Json.inRange]
@[simp] theorem inRange_chars (cs : List Char) : (Json.chars cs).inRange = true := by simp [Json.inRange]
@[simp] theorem inRange_null : Json.null.inRange = true := by simp [Json.inRange]
@[simp] theorem inRange_jhex6 (v : Nat) : (jhex6 v).inRange = true := by simp [jhex6]
@[simp] theorem inRange_jhex4 (v : Nat) : (jhex4 v).inRange = true := by simp [jhex4]
@[simp] theorem inRange_jrat (n : Int) (d : Nat) : (jrat n d).inRange = true := by simp [jrat, Json.inRange]
@[simp] theorem inRange_CPRFormat (v : Nat) : (CPRFormat v).inRange = true := by simp [CPRFormat]
theorem holds_below (n v : Nat) (h : v < n) : (Constraint.below n).holds (jnat v) = true := by
  simp [Constraint.holds, jnat]; omega

theorem holds_null (c : Constraint) : c.holds Json.null = true := by
  cases c <;> rfl

theorem holds_nonneg_jnat (n : Nat) : Constraint.nonneg.holds (jnat n) = true := by
  simp [Constraint.holds, jnat]

theorem holds_multiple_jint (m : Nat) (lo hi x : Int) (h1 : x % (m : Int) = 0) (h2 : lo ≤ x) (h3 : x ≤ hi) :
    (Constraint.multiple m lo hi).holds (jint x) = true := by
  simp [Constraint.holds, jint, h1, h2, h3]

theorem holds_range_jrat (lo hi : Int) (incl : Bool) (n : Int) (d : Nat) (hd : d ≠ 0)
    (h1 : lo * d ≤ n) (h2 : if incl then n ≤ hi * d else n < hi * d) :
    (Constraint.range lo hi incl).holds (jrat n d) = true := by
  cases incl <;> simp_all [Constraint.holds, jrat, ratIn]

theorem wf_of_good {o : Option Json} {v : Json} (h : optAll (fun j => j.wf && j.inRange) o = true)
    (hv : o = some v) : v.wf = true := by
  have := optAll_some h hv; simp only [Bool.and_eq_true] at this; exact this.1

theorem inRange_of_good {o : Option Json} {v : Json} (h : optAll (fun j => j.wf && j.inRange) o = true)
    (hv : o = some v) : v.inRange = true := by
  have := optAll_some h hv; simp only [Bool.and_eq_true] at this; exact this.2

theorem hexDigit_octal : ∀ n, n ≤ 7 → ('0' ≤ hexDigit n && hexDigit n ≤ '7') = true := by decide

theorem holds_octal4_jhex4 (v : Nat) (h3 : v / 16 ^ 3 % 16 ≤ 7) (h2 : v / 16 ^ 2 % 16 ≤ 7)
    (h1 : v / 16 ^ 1 % 16 ≤ 7) (h0 : v / 16 ^ 0 % 16 ≤ 7) :
    Constraint.holds .octal4 (jhex4 v) = true := by
  have e : hexChars 4 v = [hexDigit (v / 16 ^ 3 % 16), hexDigit (v / 16 ^ 2 % 16), hexDigit (v / 16 ^ 1 % 16),
      hexDigit (v / 16 ^ 0 % 16)] := rfl
  simp only [jhex4, Constraint.holds, e, List.all_cons, List.all_nil, hexDigit_octal _ h3, hexDigit_octal _ h2,
    hexDigit_octal _ h1, hexDigit_octal _ h0]
  rfl

@[simp] theorem wf_jnat (n : Nat) : (jnat n).wf = true := rfl
@[simp] theorem wf_jint (i : Int) : (jint i).wf = true := rfl
@[simp] theorem wf_jbool (b : Bool) : (jbool b).wf = true := rfl
@[simp] theorem wf_lit (k : Key) : (Json.lit k).wf = true := rfl
@[simp] theorem wf_chars (cs : List Char) : (Json.chars cs).wf = true := rfl
@[simp] theorem wf_null : Json.null.wf = true := rfl
@[simp] theorem wf_jhex6 (v : Nat) : (jhex6 v).wf = true := rfl
@[simp] theorem wf_jhex4 (v : Nat) : (jhex4 v).wf = true := rfl
@[simp] theorem wf_hypot (a b : Int) : (Json.hypot a b).wf = true := rfl
@[simp] theorem wf_atan2deg (a b : Int) : (Json.atan2deg a b).wf = true := rfl
theorem wf_jrat (n : Int) (d : Nat) (h : d ≠ 0) : (jrat n d).wf = true := by
  simp [jrat, Json.wf, h]
@[simp] theorem wf_CPRFormat (v : Nat) : (CPRFormat v).wf = true := rfl

theorem wf_arr_jnat (xs : List Nat) : (Json.arr (xs.map jnat)).wf = true := by
  simp only [Json.wf]
  induction xs with
  | nil => rfl
  | cons x r ih => simp [Json.wfList, ih]

theorem inRange_arr_jnat (xs : List Nat) : (Json.arr (xs.map jnat)).inRange = true := by
  simp only [Json.inRange]
  induction xs with
  | nil => rfl
  | cons x r ih => simp [Json.inRangeList, ih]

end Rs1090.Model
