/-
Where the values of a view come from.  Every item `(column, value)` of the record
`viewOfJson` builds is the position handed in, the DF18 marker of a message whose JSON says `"df": "18"`, or
the text of the member of the message's own decoded JSON at one of the key paths under which the serialised
message SHOWS that quantity (`shownAt`, written from the serde names of the Rust types — `selected_mcp`,
`vrate_inertial`, `TAS`, `NACp`, … — not from `viewOfJson`).  A view that read another member (say
`vrate_barometric` for the inertial vertical rate) would make `bodyView_items` false.
-/
import Rs1090.Proofs.SnapshotView
namespace Rs1090.Proofs.SnapshotKeyed
open Rs1090 Rs1090.Model Rs1090.Model.Message Rs1090.Model.Snapshot Rs1090.Model.SnapshotView
open Rs1090.Spec.Snapshot Rs1090.Proofs.Snapshot Rs1090.Proofs.Filters Rs1090.Proofs.SnapshotView

/-- a key path into the JSON of a decoded message: a member of the message object, or a member of one of
    its nested Comm-B register objects -/
inductive Path where
  | top (k : Key)
  | nested (reg k : Key)

def memberAt (kvs : List (Key × Json)) : Path → Option Json
  | .top k => objGet kvs k
  | .nested reg k =>
    match objGet kvs reg with
    | some (.obj inner) => objGet inner k
    | _ => none

/-- **Where a decoded message shows a quantity** (the JSON member names of `rs1090`'s serialisation):
    the extended-squitter members at top level, the Comm-B ones inside `bds20` / `bds40` / `bds50` / `bds60`.
    Latitude / longitude are not listed: the decoder's JSON has no such members, they are written by
    `decode_position` (see `pipeline_position_provenance`); `typecode` is not a member either (`GRND` marks
    a DF18 message). -/
def shownAt : Field → List Path
  | .callsign => [.top (key! "callsign"), .nested (key! "bds20") (key! "callsign")]
  | .squawk => [.top (key! "squawk")]
  | .altitude => [.top (key! "altitude")]
  | .selectedAltitude => [.top (key! "selected_altitude"), .nested (key! "bds40") (key! "selected_mcp")]
  | .groundspeed => [.top (key! "groundspeed"), .nested (key! "bds50") (key! "groundspeed")]
  | .verticalRate => [.top (key! "vertical_rate"), .nested (key! "bds60") (key! "vrate_inertial")]
  | .track => [.top (key! "track"), .nested (key! "bds50") (key! "track")]
  | .ias => [.top (key! "IAS"), .nested (key! "bds60") (key! "IAS")]
  | .tas => [.top (key! "TAS"), .nested (key! "bds50") (key! "TAS")]
  | .mach => [.nested (key! "bds60") (key! "Mach")]
  | .roll => [.nested (key! "bds50") (key! "roll")]
  | .heading => [.top (key! "heading"), .nested (key! "bds60") (key! "heading")]
  | .nacp => [.top (key! "NACp")]
  | .latitude => []
  | .longitude => []
  | .typecode => []

def Keyed (kvs : List (Key × Json)) (f : Field) (v : Val) : Prop :=
  ∃ p, p ∈ shownAt f ∧ (memberAt kvs p).bind valText = some v

def posCol (pos : Option (Val × Val)) : Field → Option Val
  | .latitude => pos.map (·.1)
  | .longitude => pos.map (·.2)
  | _ => none

def ViewItem (kvs : List (Key × Json)) (pos : Option (Val × Val)) (w : Write) : Prop :=
  ((w.1 = .latitude ∨ w.1 = .longitude) ∧ w.2 = posCol pos w.1) ∨
  (w = (.typecode, some "GRND") ∧ (objGet kvs (key! "df")).bind strOf = some "18") ∨
  ∀ v, w.2 = some v → Keyed kvs w.1 v

variable {kvs : List (Key × Json)} {pos : Option (Val × Val)}

theorem ViewItem.lat : ViewItem kvs pos (.latitude, pos.map (·.1)) := .inl ⟨.inl rfl, rfl⟩
theorem ViewItem.lon : ViewItem kvs pos (.longitude, pos.map (·.2)) := .inl ⟨.inr rfl, rfl⟩

theorem ViewItem.top (k : Key) (f : Field) (hm : Path.top k ∈ shownAt f) : ViewItem kvs pos (f, fldV kvs k) :=
  .inr (.inr fun _ h => ⟨.top k, hm, h⟩)

theorem ViewItem.topSome (k : Key) (f : Field) (hm : Path.top k ∈ shownAt f) {v : Val} (h : fldV kvs k = some v) :
    ViewItem kvs pos (f, some v) :=
  h ▸ ViewItem.top k f hm

/-- a member `k` of the register object `reg`, read through a record `F b` of the register's fields -/
theorem ViewItem.nested {α : Type} (reg k : Key) (f : Field) (hm : Path.nested reg k ∈ shownAt f)
    (F : Json → α) (proj : α → Option Val) (hF : ∀ b, proj (F b) = fldOf b k) :
    ViewItem kvs pos (f, ((member kvs reg).map F).bind proj) := by
  refine .inr (.inr fun v h => ⟨.nested reg k, hm, ?_⟩)
  cases hb : member kvs reg with
  | none => rw [hb] at h; cases h
  | some b =>
    rw [hb, Option.map_some, Option.bind_some, hF] at h
    have hb' : objGet kvs reg = some b := hb
    cases b with
    | obj inner => simp only [memberAt, hb']; exact h
    | _ => cases h

theorem velocityView_items {frame : List Nat} {vel : Velocity} (h : velocityView frame kvs = some vel) :
    ∀ w ∈ velItems vel, ViewItem kvs pos w := by
  unfold velocityView at h
  simp only [] at h
  split at h
  · split at h
    · next gs trk hgs htrk =>
      cases h
      simp only [velItems, List.forall_mem_cons, List.not_mem_nil, false_imp_iff, implies_true, and_true]
      exact ⟨.topSome (key! "groundspeed") _ (.head _) hgs, .topSome (key! "track") _ (.head _) htrk⟩
    · cases h
  · split at h
    · cases h
      simp only [velItems, List.forall_mem_cons, List.not_mem_nil, false_imp_iff, implies_true, and_true]
      refine ⟨?_, .top (key! "heading") _ (.head _)⟩
      cases bitAt frame 56 == 1
      · exact .top (key! "IAS") _ (.head _)
      · exact .top (key! "TAS") _ (.head _)
    · cases h; intro w hw; cases hw

theorem meView_items (frame : List Nat) : ∀ w ∈ meItems (meView frame kvs pos), ViewItem kvs pos w := by
  unfold meView
  split
  · simp only [meItems, List.forall_mem_cons, List.not_mem_nil, false_imp_iff, implies_true, and_true]
    exact ⟨.lat, .lon, .top (key! "altitude") _ (.head _)⟩
  · simp only [meItems, List.forall_mem_cons, List.not_mem_nil, false_imp_iff, implies_true, and_true]
    exact ⟨.lat, .lon, .top (key! "track") _ (.head _), .top (key! "groundspeed") _ (.head _)⟩
  · cases h : fldV kvs (key! "callsign") with
    | none => intro w hw; cases hw
    | some cs =>
      simp only [Option.map_some, Option.getD_some, meItems, List.forall_mem_cons, List.not_mem_nil, false_imp_iff,
        implies_true, and_true]
      exact .topSome (key! "callsign") _ (.head _) h
  · cases h : velocityView frame kvs with
    | none => intro w hw; cases hw
    | some vel =>
      simp only [Option.map_some, Option.getD_some, meItems, List.forall_mem_cons]
      exact ⟨.top (key! "vertical_rate") _ (.head _), velocityView_items h⟩
  · cases h : fldV kvs (key! "squawk") with
    | none => intro w hw; cases hw
    | some sq =>
      simp only [Option.map_some, Option.getD_some, meItems, List.forall_mem_cons, List.not_mem_nil, false_imp_iff,
        implies_true, and_true]
      exact .topSome (key! "squawk") _ (.head _) h
  · cases h : fldV kvs (key! "NACp") with
    | none => intro w hw; cases hw
    | some n =>
      simp only [Option.map_some, Option.getD_some, meItems, List.forall_mem_cons, List.not_mem_nil, false_imp_iff,
        implies_true, and_true]
      exact ⟨.top (key! "selected_altitude") _ (.head _), .topSome (key! "NACp") _ (.head _) h⟩
  · simp only [meItems, List.forall_mem_cons, List.not_mem_nil, false_imp_iff, implies_true, and_true]
    exact .top (key! "NACp") _ (.head _)
  · intro w hw; cases hw

theorem commBView_items : ∀ w ∈ commbItems (commBView kvs), ViewItem kvs pos w := by
  simp only [commbItems, commBView, List.forall_mem_cons, List.not_mem_nil, false_imp_iff, implies_true, and_true]
  refine ⟨?_, .nested (key! "bds40") (key! "selected_mcp") _ (.tail _ (.head _)) _ id fun _ => rfl,
    .nested (key! "bds50") (key! "roll") _ (.head _) _ _ fun _ => rfl,
    .nested (key! "bds50") (key! "track") _ (.tail _ (.head _)) _ _ fun _ => rfl,
    .nested (key! "bds50") (key! "groundspeed") _ (.tail _ (.head _)) _ _ fun _ => rfl,
    .nested (key! "bds50") (key! "TAS") _ (.tail _ (.head _)) _ _ fun _ => rfl,
    .nested (key! "bds60") (key! "IAS") _ (.tail _ (.head _)) _ _ fun _ => rfl,
    .nested (key! "bds60") (key! "Mach") _ (.head _) _ _ fun _ => rfl,
    .nested (key! "bds60") (key! "heading") _ (.tail _ (.head _)) _ _ fun _ => rfl,
    .nested (key! "bds60") (key! "vrate_inertial") _ (.tail _ (.head _)) _ _ fun _ => rfl⟩
  have := ViewItem.nested (kvs := kvs) (pos := pos) (key! "bds20") (key! "callsign") .callsign (.tail _ (.head _)) id
    (fun b => fldOf b (key! "callsign")) fun _ => rfl
  rwa [Option.map_id_fun, id] at this

theorem bodyView_items (frame : List Nat) : ∀ w ∈ bodyItems (bodyView frame kvs pos), ViewItem kvs pos w := by
  unfold bodyView
  split
  · cases h : fldV kvs (key! "squawk") with
    | none => intro w hw; cases hw
    | some sq =>
      simp only [Option.map_some, Option.getD_some, bodyItems, List.forall_mem_cons, List.not_mem_nil, false_imp_iff,
        implies_true, and_true]
      exact .topSome (key! "squawk") _ (.head _) h
  · cases h : fldV kvs (key! "altitude") with
    | none => intro w hw; cases hw
    | some a =>
      simp only [Option.map_some, Option.getD_some, bodyItems, List.forall_mem_cons, List.not_mem_nil, false_imp_iff,
        implies_true, and_true]
      exact .topSome (key! "altitude") _ (.head _) h
  · exact meView_items frame
  · next hdf =>
    simp only [bodyItems, List.forall_mem_cons]
    exact ⟨.inr (.inl ⟨rfl, hdf⟩), meView_items frame⟩
  · exact commBView_items
  · exact commBView_items
  · intro w hw; cases hw

theorem carried_record {x : Rx} {f : Field} {v : Val} (hv : v ∈ carried x.record f) :
    ∃ kvs, Message.tryFrom x.frame = .ok (.json (.obj kvs)) ∧ ViewItem kvs x.pos (f, some v) := by
  rw [mem_carried] at hv
  rcases record_cases x with ⟨kvs, hok, hr⟩ | hr
  · rw [hr] at hv
    exact ⟨kvs, hok, bodyView_items x.frame _ hv⟩
  · rw [hr] at hv; cases hv

theorem record_keyed (x : Rx) (f : Field) (v : Val) (hv : v ∈ carried x.record f)
    (h1 : f ≠ .latitude) (h2 : f ≠ .longitude) (h3 : f ≠ .typecode) :
    ∃ kvs, Message.tryFrom x.frame = .ok (.json (.obj kvs)) ∧ Keyed kvs f v := by
  obtain ⟨kvs, hok, hi⟩ := carried_record hv
  refine ⟨kvs, hok, ?_⟩
  rcases hi with ⟨h, _⟩ | ⟨h, _⟩ | h
  · exact h.elim (absurd · h1) (absurd · h2)
  · exact absurd (congrArg Prod.fst h) h3
  · exact h v rfl

theorem record_typecode (x : Rx) (v : Val) (hv : v ∈ carried x.record .typecode) :
    v = "GRND" ∧ ∃ kvs, Message.tryFrom x.frame = .ok (.json (.obj kvs)) ∧
      (objGet kvs (key! "df")).bind strOf = some "18" := by
  obtain ⟨kvs, hok, hi⟩ := carried_record hv
  rcases hi with ⟨h, _⟩ | ⟨h, hdf⟩ | h
  · rcases h with h | h <;> cases h
  · cases h; exact ⟨rfl, kvs, hok, hdf⟩
  · obtain ⟨p, hp, _⟩ := h v rfl; cases hp

theorem record_pos (x : Rx) (f : Field) (hf : f = .latitude ∨ f = .longitude) (v : Val)
    (hv : v ∈ carried x.record f) : ∃ q, x.pos = some q ∧ posCol (some q) f = some v := by
  obtain ⟨kvs, _, hi⟩ := carried_record hv
  rcases hi with ⟨_, h⟩ | ⟨h, _⟩ | h
  · cases hq : x.pos with
    | none => rw [hq] at h; rcases hf with rfl | rfl <;> cases h
    | some q => exact ⟨q, rfl, hq ▸ h.symm⟩
  · rcases hf with rfl | rfl <;> cases (Prod.mk.inj h).1
  · obtain ⟨p, hp, _⟩ := h v rfl
    rcases hf with rfl | rfl <;> cases hp

end Rs1090.Proofs.SnapshotKeyed
