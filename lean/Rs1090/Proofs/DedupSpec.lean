/-
For Props/C10.lean: the model refines the abstract specification (Spec/Dedup.lean); the panic
sites of the loop are unreachable; the fuel of the expiry loop is irrelevant; the flush at end of
input is the expiry loop at a time when everything is due.  The specification sorts by insertion (`sortBy`);
the file begins with what is needed of that: it permutes, it sorts, and a list strictly sorted by `before` is
the sorted form of any permutation of it (`eq_sortBy`).
-/
import Rs1090.Proofs.DedupRun
namespace Rs1090.Dedup
open Rs1090.Spec.Dedup (firstT closes WellFormed members recordOf records before insertBy sortBy)

theorem insertBy_perm (g : Group) : ∀ hs : List Group, (insertBy g hs).Perm (g :: hs)
  | [] => List.Perm.refl _
  | h :: hs => by
    simp only [insertBy]
    split
    · exact ((insertBy_perm g hs).cons h).trans (List.Perm.swap g h hs)
    · exact List.Perm.refl _

theorem sortBy_perm : ∀ gs : List Group, (sortBy gs).Perm gs
  | [] => List.Perm.refl _
  | g :: gs => (insertBy_perm g (sortBy gs)).trans ((sortBy_perm gs).cons g)

/- `before` is the heap's order on the keys at window 0 (`keyLt_keyOf`): its order facts are those of `keyLt`. -/
theorem before_asymm {g h : Group} (hb : before g h = true) : before h g = false := by
  rw [← keyLt_keyOf 0] at hb ⊢; exact keyLt_asymm hb

theorem before_le_trans {a b c : Group} (h1 : before b a = false) (h2 : before c b = false) :
    before c a = false := by
  rw [← keyLt_keyOf 0] at h1 h2 ⊢; exact keyLt_le_trans h1 h2

def Sorted (gs : List Group) : Prop := gs.Pairwise (fun g h => before h g = false)

theorem insertBy_sorted (g : Group) : ∀ hs : List Group, Sorted hs → Sorted (insertBy g hs)
  | [], _ => by simp [insertBy, Sorted]
  | h :: hs, hso => by
    have hso' := List.pairwise_cons.mp hso
    simp only [insertBy]
    split
    · rename_i hb
      refine List.pairwise_cons.mpr ⟨?_, insertBy_sorted g hs hso'.2⟩
      intro y hy
      rcases List.mem_cons.mp ((insertBy_perm g hs).subset hy) with rfl | hy
      · exact before_asymm hb
      · exact hso'.1 y hy
    · rename_i hb
      have hb' : before h g = false := by simpa using hb
      refine List.pairwise_cons.mpr ⟨?_, hso⟩
      intro y hy
      rcases List.mem_cons.mp hy with rfl | hy
      · exact hb'
      · exact before_le_trans hb' (hso'.1 y hy)

theorem sortBy_sorted : ∀ gs : List Group, Sorted (sortBy gs)
  | [] => by simp [sortBy, Sorted]
  | g :: gs => insertBy_sorted g _ (sortBy_sorted gs)

/-- a strictly sorted list and a weakly sorted list with the same elements are equal -/
theorem sorted_unique : ∀ {l1 l2 : List Group}, l1.Perm l2 →
    l1.Pairwise (fun g h => before g h = true) → Sorted l2 → l1 = l2
  | [], l2, hp, _, _ => hp.nil_eq
  | x :: xs, [], hp, _, _ => by simpa using hp.length_eq
  | x :: xs, y :: ys, hp, h1, h2 => by
    have h1' := List.pairwise_cons.mp h1
    have h2' := List.pairwise_cons.mp h2
    by_cases e : x = y
    · subst e
      rw [sorted_unique hp.cons_inv h1'.2 h2'.2]
    · exfalso
      have hx : x ∈ ys := (List.mem_cons.mp (hp.subset List.mem_cons_self)).resolve_left e
      have hy : y ∈ xs :=
        (List.mem_cons.mp (hp.symm.subset List.mem_cons_self)).resolve_left (Ne.symm e)
      have := h1'.1 y hy
      rw [h2'.1 x hx] at this
      cases this

theorem eq_sortBy {l gs : List Group} (hp : l.Perm gs)
    (hs : l.Pairwise (fun g h => before g h = true)) : l = sortBy gs :=
  sorted_unique (hp.trans (sortBy_perm _).symm) hs (sortBy_sorted _)

theorem stepG_refines {w : Nat} {s : State} (a : Arrival) (hinv : Inv w s) :
    ((stepG w s a).1.cache, (stepG w s a).2) = Spec.Dedup.stepG w s.cache a := by
  have hsp := stepG_spec a hinv
  simp only [Spec.Dedup.stepG, ← push_eq_join]
  exact Prod.ext hsp.cache (eq_sortBy hsp.closed hsp.sorted)

theorem runG_refines {w : Nat} : ∀ (hist : List Arrival) {s : State}, Inv w s →
    ((runG w s hist).1.cache, (runG w s hist).2) = Spec.Dedup.runG w s.cache hist
  | [], _, _ => rfl
  | a :: as, s, hinv => by
    have h1 := stepG_refines a hinv
    have h2 := runG_refines as (stepG_spec a hinv).inv
    simp only [runG, Spec.Dedup.runG, ← h1, ← h2]

theorem expireChecked_eq {w : Nat} (t : Nat) : ∀ (n : Nat) (s : State), Inv w s →
    expireChecked t n s = .ok (expire t n s)
  | 0, _, _ => rfl
  | n + 1, ⟨c, h⟩, hinv => by
    simp only [expireChecked, expire, notExpired_eq, decide_eq_true_eq]
    cases hp : popMin h with
    | none => rfl
    | some kh =>
      obtain ⟨k, h'⟩ := kh
      simp only
      by_cases ht : t < k.1
      · simp only [ht, if_true]
      · -- the popped frame has a group in the cache, and that group is not empty
        obtain ⟨l, m, ms, r, rfl, hl, -, hinv', -, -⟩ := pop_spec hinv hp
        simp only [ht, if_false, remove_split l hl, expireChecked_eq t n _ hinv']

theorem stepChecked_eq {w : Nat} (dec : Frame → Bool) {s : State} (a : Arrival) (hinv : Inv w s)
    (ht : a.t + w < 2 ^ 128) : stepChecked w dec s a = .ok (step w dec s a) := by
  obtain ⟨c, h⟩ := s
  have hinv' := push_inv a hinv
  obtain ⟨ms, hms⟩ := get_push c a
  simp only [hms, Option.getD_some] at hinv'
  simp only [stepChecked, step, stepG, hms, Option.getD_some, isFirst_eq, expiry_eq, decide_eq_true_eq]
  by_cases h1 : (ms ++ [a]).length = 1
  · simp only [h1, if_true, ht] at hinv' ⊢
    rw [expireChecked_eq a.t _ _ hinv']
  · simp only [h1, if_false] at hinv' ⊢
    rw [expireChecked_eq a.t _ _ hinv']

theorem runChecked_eq {w : Nat} (dec : Frame → Bool) : ∀ (hist : List Arrival) {s : State},
    Inv w s → (∀ a ∈ hist, a.t + w < 2 ^ 128) → runChecked w dec s hist = .ok (run w dec s hist)
  | [], _, _, _ => rfl
  | a :: as, s, hinv, ht => by
    have h1 := stepChecked_eq dec a hinv (ht a (by simp))
    have hinv' : Inv w (step w dec s a).1 := (stepG_spec a hinv).inv
    have h2 := runChecked_eq dec as hinv' (fun b hb => ht b (by simp [hb]))
    simp only [runChecked, run, h1, h2]

/-- Any fuel above the heap length gives the same result: the `0` case of `expire` is never the
    reason the loop stops. -/
theorem expire_fuel (t : Nat) : ∀ (n m : Nat) (s : State), s.heap.length < n → s.heap.length < m →
    expire t n s = expire t m s
  | 0, _, _, h, _ => by omega
  | _ + 1, 0, _, _, h => by omega
  | n + 1, m + 1, ⟨c, h⟩, hn, hm => by
    simp only [expire, notExpired_eq, decide_eq_true_eq]
    cases hp : popMin h with
    | none => rfl
    | some kh =>
      obtain ⟨k, h'⟩ := kh
      -- one key fewer on the heap for one unit less of fuel
      have hl := popMin_length hp
      have ih := fun c' => expire_fuel t n m ⟨c', h'⟩ (by simp only at hn ⊢; omega)
        (by simp only at hm ⊢; omega)
      simp only
      split
      · rfl
      · cases remove c k.2 with
        | none => exact ih c
        | some r => simp only [ih r.2]

theorem flush_eq_expire {t : Nat} : ∀ (n : Nat) (s : State), (∀ k ∈ s.heap, k.1 ≤ t) →
    flush n s = (expire t n s).2
  | 0, _, _ => rfl
  | n + 1, ⟨c, h⟩, hdue => by
    simp only [flush, expire, notExpired_eq, decide_eq_true_eq]
    cases hp : popMin h with
    | none => rfl
    | some kh =>
      obtain ⟨k, h'⟩ := kh
      obtain ⟨hk, rfl, -⟩ := popMin_some hp
      have hdue' : ∀ x ∈ h.erase k, x.1 ≤ t := fun x hx => hdue x (List.mem_of_mem_erase hx)
      simp only [if_neg (Nat.not_lt.mpr (hdue k hk))]
      cases remove c k.2 with
      | none => exact flush_eq_expire n ⟨c, h.erase k⟩ hdue'
      | some v => simp only [flush_eq_expire n ⟨v.2, h.erase k⟩ hdue']

theorem exists_due : ∀ h : Heap, ∃ t, ∀ k ∈ h, k.1 ≤ t
  | [] => ⟨0, fun _ hk => nomatch hk⟩
  | k :: h => by
    obtain ⟨t, ht⟩ := exists_due h
    refine ⟨max k.1 t, fun x hx => ?_⟩
    rcases List.mem_cons.mp hx with rfl | hx
    · exact Nat.le_max_left _ _
    · exact Nat.le_trans (ht x hx) (Nat.le_max_right _ _)

theorem flush_eq_sortBy {w : Nat} {s : State} (hinv : Inv w s) :
    flush s.heap.length s = sortBy s.cache := by
  obtain ⟨t, hdue⟩ := exists_due s.heap
  have hsp := expire_spec w t _ s hinv (Nat.le_refl _)
  have hall : s.cache.filter (closes w t) = s.cache :=
    List.filter_eq_self.mpr fun g hg => closes_iff.mpr (hdue _ (hinv.mem_heap hg))
  rw [flush_eq_expire _ s hdue]
  exact eq_sortBy (hall ▸ hsp.closed) hsp.sorted

end Rs1090.Dedup
